/-
Lemmas for C18 (attributes): `mergeAttrs` as a fold of `upsertAttr`, and what the last step of a query does to the
capitalised attribute keys.
-/
import LiquerProofs.Lemmas.EvalMeta

namespace Liquer

/-- `dict[k] = v` on an association list (the loop body of `mergeAttrs`) -/
def upsertAttr (acc : List (Str × Str)) (kv : Str × Str) : List (Str × Str) :=
  if acc.any (fun x => x.1 == kv.1) then acc.map (fun x => if x.1 == kv.1 then kv else x) else acc ++ [kv]

theorem mergeAttrs_eq (inherited cmd : List (Str × Str)) :
    mergeAttrs inherited cmd =
      (cmd.filter (fun kv => kv.1 != s "volatile")).foldl upsertAttr (inherited.filter (fun kv => isUpperFirst kv.1)) := rfl

theorem upsert_keys (acc : List (Str × Str)) (kv : Str × Str) (k : Str) :
    k ∈ (upsertAttr acc kv).map (·.1) ↔ k ∈ acc.map (·.1) ∨ k = kv.1 := by
  unfold upsertAttr
  split
  · next h =>
    -- replacing an entry by one with the same key keeps the keys, and `kv.1` is one of them
    have hk : (acc.map fun x => if x.1 == kv.1 then kv else x).map (·.1) = acc.map (·.1) := by
      rw [List.map_map]
      refine List.map_congr_left fun x _ => ?_
      by_cases hx : x.1 = kv.1 <;> simp [hx]
    obtain ⟨x, hx, hxk⟩ := List.any_eq_true.mp h
    rw [hk]
    exact ⟨.inl, fun h => h.elim id fun hkv => hkv ▸ List.mem_map.mpr ⟨x, hx, beq_iff_eq.mp hxk⟩⟩
  · simp [List.mem_append]

theorem upsert_mem (acc : List (Str × Str)) (kv x : Str × Str) (h : x ∈ upsertAttr acc kv) : x ∈ acc ∨ x = kv := by
  unfold upsertAttr at h
  split at h
  · obtain ⟨y, hy, rfl⟩ := List.mem_map.mp h
    by_cases hyk : y.1 = kv.1
    · right; simp [hyk]
    · left; simpa [hyk] using hy
  · simpa [List.mem_append] using h

theorem upsert_keeps (acc : List (Str × Str)) (kv x : Str × Str) (hx : x ∈ acc) (hne : x.1 ≠ kv.1) : x ∈ upsertAttr acc kv := by
  unfold upsertAttr
  split
  · exact List.mem_map.mpr ⟨x, hx, by simp [hne]⟩
  · exact List.mem_append_left _ hx

theorem foldl_upsert_keys (cmd : List (Str × Str)) : ∀ (acc : List (Str × Str)) (k : Str),
    k ∈ (cmd.foldl upsertAttr acc).map (·.1) ↔ k ∈ acc.map (·.1) ∨ k ∈ cmd.map (·.1) := by
  induction cmd with
  | nil => intro acc k; simp
  | cons kv rest ih => intro acc k; rw [List.foldl_cons, ih, upsert_keys, List.map_cons, List.mem_cons, or_assoc]

theorem foldl_upsert_mem (cmd : List (Str × Str)) : ∀ (acc : List (Str × Str)) (x : Str × Str),
    x ∈ cmd.foldl upsertAttr acc → x ∈ acc ∨ x ∈ cmd := by
  induction cmd with
  | nil => intro acc x h; exact .inl h
  | cons kv rest ih =>
    intro acc x h
    rcases ih _ _ h with h | h
    · exact (upsert_mem _ _ _ h).imp_right fun (h : x = kv) => h ▸ List.mem_cons_self
    · exact .inr (List.mem_cons_of_mem _ h)

theorem foldl_upsert_keeps (cmd : List (Str × Str)) : ∀ (acc : List (Str × Str)) (x : Str × Str),
    x ∈ acc → (∀ kv ∈ cmd, x.1 ≠ kv.1) → x ∈ cmd.foldl upsertAttr acc := by
  induction cmd with
  | nil => intro acc x h _; exact h
  | cons kv rest ih =>
    intro acc x h hne
    exact ih _ _ (upsert_keeps _ _ _ h (hne kv List.mem_cons_self)) fun kv' hkv' => hne kv' (List.mem_cons_of_mem _ hkv')

theorem mem_keys_filter (p : Str → Bool) (l : List (Str × Str)) (k : Str) :
    k ∈ (l.filter fun kv => p kv.1).map (·.1) ↔ k ∈ l.map (·.1) ∧ p k = true := by
  simp only [List.mem_map, List.mem_filter]
  constructor
  · rintro ⟨x, ⟨hx, hp⟩, rfl⟩; exact ⟨⟨x, hx, rfl⟩, hp⟩
  · rintro ⟨⟨x, hx, rfl⟩, hp⟩; exact ⟨x, ⟨hx, hp⟩, rfl⟩

theorem mergeAttrs_keys (inherited cmd : List (Str × Str)) (k : Str) :
    k ∈ (mergeAttrs inherited cmd).map (·.1) ↔
      (k ∈ inherited.map (·.1) ∧ isUpperFirst k = true) ∨ (k ∈ cmd.map (·.1) ∧ k ≠ s "volatile") := by
  rw [mergeAttrs_eq, foldl_upsert_keys, mem_keys_filter isUpperFirst, mem_keys_filter (· != s "volatile"), bne_iff_ne]

theorem mergeAttrs_capital_persists (inherited cmd : List (Str × Str)) (k : Str) (hu : isUpperFirst k = true)
    (hk : k ∈ inherited.map (·.1)) : k ∈ (mergeAttrs inherited cmd).map (·.1) :=
  (mergeAttrs_keys inherited cmd k).mpr (Or.inl ⟨hk, hu⟩)

theorem metaPost_capital_persists {env : Env} {n : Nat} {st : EState} {m : MetaRec} {parent : Str} {r : Option Seg}
    {key raw : Str} {extra : Extra} {e : EState} {m' : MetaRec} (h : metaPost env n st m parent r key raw extra = (.st e, m'))
    (k : Str) (hu : isUpperFirst k = true) (hk : k ∈ m.attrs.map (·.1)) : k ∈ m'.attrs.map (·.1) := by
  rcases metaPost_cases h with ⟨_, _, rfl⟩ | ⟨_, _, _, _, rfl⟩ | ⟨_, _, _, _, _, _, rfl⟩
  · exact hk
  · exact hk
  · exact mergeAttrs_capital_persists _ _ k hu hk

end Liquer
