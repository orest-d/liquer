/-
C09, extension of a cached prefix: after a cacheable evaluation of `p`, evaluating a one-step extension of `p`
(link-free, `sub`-free last action) hits `p` and executes exactly the reference calls of the last action.
-/
import LiquerProofs.Lemmas.EvalCache
import LiquerProofs.Lemmas.EvalPlain
import LiquerProofs.Lemmas.EvalRefine

namespace Liquer

/-- C09: the extension of a cached prefix executes the last action only.  `hraw`: the progress record
"evaluating parent" is filed under `raw` and would hide the entry of `p` if `raw` were its key -/
theorem extension_runs_last_step (env : Env) (n m : Nat) (w w' : World) (p q : Query) (h : Option Header) (a : Action)
    (raw : Str) (st : EState) (hen : w.enabled = true)
    (h1 : evalQ env (n+1) w p (p.encode Gen.escapeTable) .none none true = (w', .st st))
    (hc : st.caching = true) (he : st.isError = false) (hv : st.volatile = false) (hstep : p.hasStep = true)
    (hq : q.predecessor = some (p, some (.transform h [a] none))) (hpe : p.segments.isEmpty = false)
    (ha : a.plain = true) (hraw : raw ≠ p.encode Gen.escapeTable)
    (hmiss : w'.get (q.encode Gen.escapeTable) = none) :
    (evalQ env (m+2) w' q raw .none none true).1.calls =
      w'.calls ++ (refAction env (m+1) st a raw (p.encode Gen.escapeTable) .none).2 ∧
    Outcome.sim (evalQ env (m+2) w' q raw .none none true).2
      (match (refAction env (m+1) st a raw (p.encode Gen.escapeTable) .none).1 with
       | .st st2 => .st { st2 with query := q.encode Gen.escapeTable }
       | other => other) := by
  obtain ⟨s0, hcore, hget, _⟩ := second_run_silent env n w w' p _ st hen h1 hc he hv hstep
  have hget0 : (w'.storeMeta raw (s "evaluating parent")).get (p.encode Gen.escapeTable) = some s0 := by
    rw [World.get_storeMeta_other w' _ (Ne.symm hraw)]; exact hget
  have hhit := evalQ_hit env m (w'.storeMeta raw (s "evaluating parent")) p (p.encode Gen.escapeTable) .none none s0
    hget0 rfl rfl
  have hs0 : s0.isError = false := by rw [EState.core_isError hcore]; exact he
  rw [evalQ_succ]
  simp only [World.metaIf_true, hmiss, Extra.isEmpty, Option.isNone_none, Bool.and_self, if_true, Query.predecessor_not_isRes hq,
    Bool.false_eq_true, if_false, hq, hpe, hhit, evalAfter, hs0, evalPost]
  rw [act_plain env m _ s0 a raw _ .none true ha, refAction_core env (m+1) hcore]
  cases (refAction env (m+1) st a raw (p.encode Gen.escapeTable) .none).1 <;> simp [finW]

theorem Query.preParent_of_pred {q p : Query} {r : Option Seg} (hq : q.predecessor = some (p, r))
    (hpe : p.segments.isEmpty = false) : q.preParent = p.encode Gen.escapeTable := by
  simp [Query.preParent, Query.preQ_of_pred hq hpe]

/-- C09: the same with link arguments (and `sub`) in the new action: what is executed is a subsequence of the
reference calls of the last action (link and sub-queries may be served from the cache as well) -/
theorem extension_runs_last_step_links {env : Env} {C : Query → Prop} {T : Str → Prop} (hC : Closed env C T)
    (hcanon : ∀ q, C q → CanonOK env q) (n m : Nat) (w w' : World) (p q : Query) (h : Option Header) (a : Action)
    (raw : Str) (st : EState) (hen : w.enabled = true) (hS' : Sound env w') (hCq : C q)
    (h1 : evalQ env (n+1) w p (p.encode Gen.escapeTable) .none none true = (w', .st st))
    (hc : st.caching = true) (he : st.isError = false) (hv : st.volatile = false) (hstep : p.hasStep = true)
    (hq : q.predecessor = some (p, some (.transform h [a] none))) (hpe : p.segments.isEmpty = false)
    (hraw : raw ≠ p.encode Gen.escapeTable)
    (hmiss : w'.get (q.encode Gen.escapeTable) = none)
    (hne : (evalQ env (m+2) w' q raw .none none true).2 ≠ .unmodelled) :
    ∃ m' c', (evalQ env (m+2) w' q raw .none none true).1.calls = w'.calls ++ c' ∧
      c'.Sublist (refAction env m' st a raw (p.encode Gen.escapeTable) .none).2 := by
  obtain ⟨s0, hcore, hget, _⟩ := second_run_silent env n w w' p _ st hen h1 hc he hv hstep
  have hget0 : (w'.storeMeta raw (s "evaluating parent")).get (p.encode Gen.escapeTable) = some s0 := by
    rw [World.get_storeMeta_other w' _ (Ne.symm hraw)]; exact hget
  have hhit := evalQ_hit env m (w'.storeMeta raw (s "evaluating parent")) p (p.encode Gen.escapeTable) .none none s0
    hget0 rfl rfl
  have hs0 : s0.isError = false := by rw [EState.core_isError hcore]; exact he
  obtain ⟨hL, hSub⟩ := hC.act q p h a hCq hq
  rw [Query.preParent_of_pred hq hpe] at hL
  obtain ⟨_, hw⟩ := (refines hC hcanon (m+1)).act (w'.storeMeta raw (s "evaluating parent")) s0 a raw
    (p.encode Gen.escapeTable) .none true (hS'.storeMeta _ _) hL hSub
  rw [evalQ_succ] at hne ⊢
  simp only [World.metaIf_true, hmiss, Extra.isEmpty, Option.isNone_none, Bool.and_self, if_true, Query.predecessor_not_isRes hq,
    Bool.false_eq_true, if_false, hq, hpe, hhit, evalAfter, hs0, evalPost] at hne ⊢
  generalize evalAction env (m+1) (w'.storeMeta raw (s "evaluating parent")) s0 a raw (p.encode Gen.escapeTable) .none true = y at hw hne ⊢
  rcases y with ⟨w2, o2⟩
  have hne2 : o2 ≠ .unmodelled := by
    intro hu; subst hu; simp at hne
  obtain ⟨m', c', g1, g2, _⟩ := hw hne2
  simp only [refAction_core env m' hcore, World.calls_storeMeta] at g1 g2
  refine ⟨m', c', ?_, g2⟩
  cases o2 with
  | st st2 => simp only [calls_admitW]; exact g1
  | _ => exact g1

end Liquer
