/-
Answer-extension stability of the oracle evaluator: running an evaluation with more answers available at the end of the answer
list changes nothing as long as the evaluation does not starve, and when it starves the longer run goes on from the trace the
shorter one stopped at.  Hence the trace with answers `A` is a prefix of the trace with answers `A ++ B`.
-/
import LiquerProofs.Lemmas.ConcO2

namespace Liquer

def OW.ext (w : OW) (B : List (Option EState)) : OW := { w with answers := w.answers ++ B }

@[simp] theorem OW.ext_starved (w : OW) (B : List (Option EState)) : (w.ext B).starved = w.starved := rfl
@[simp] theorem OW.ext_trace (w : OW) (B : List (Option EState)) : (w.ext B).trace = w.trace := rfl
@[simp] theorem OW.ext_answers (w : OW) (B : List (Option EState)) : (w.ext B).answers = w.answers ++ B := rfl
@[simp] theorem OW.ext_calls (w : OW) (B : List (Option EState)) : (w.ext B).calls = w.calls := rfl

theorem OW.emit_ext (w : OW) (B : List (Option EState)) (op : COp) : (w.ext B).emit op = (w.emit op).ext B := by
  unfold OW.emit
  cases h : w.starved <;> simp only [OW.ext_starved, h, Bool.false_eq_true, if_true, if_false] <;> rfl

theorem OW.log_ext (w : OW) (B : List (Option EState)) (c : Str) : (w.ext B).log c = (w.log c).ext B := by
  unfold OW.log
  cases h : w.starved <;> simp only [OW.ext_starved, h, Bool.false_eq_true, if_true, if_false] <;> rfl

/-- `r` is the result from `w`, `r'` the result from `w.ext B` -/
def ExtO {α : Type} (B : List (Option EState)) (r r' : OW × α) : Prop :=
  (r.1.starved = false → r' = (r.1.ext B, r.2)) ∧ (r.1.starved = true → r.1.trace <+: r'.1.trace)

theorem ExtO.ret {α : Type} (B : List (Option EState)) (w : OW) (o : α) : ExtO B (w, o) (w.ext B, o) :=
  ⟨fun _ => rfl, fun _ => List.prefix_refl _⟩

theorem ExtO.bind {α β : Type} {B : List (Option EState)} {r r' : OW × α} (k : OW × α → OW × β)
    (h : ExtO B r r')
    (hns : r.1.starved = false → ExtO B (k r) (k (r.1.ext B, r.2)))
    (hst : r.1.starved = true → (k r).1 = r.1)
    (hfr : r'.1.trace <+: (k r').1.trace) : ExtO B (k r) (k r') := by
  cases hs : r.1.starved
  · rw [h.1 hs]; exact hns hs
  · have e := hst hs
    refine ⟨fun h' => ?_, fun _ => ?_⟩
    · rw [e, hs] at h'; cases h'
    · rw [e]; exact (h.2 hs).trans hfr

theorem OW.ask_extO (B : List (Option EState)) (w : OW) (k : Str) : ExtO B (w.ask k) ((w.ext B).ask k) := by
  cases hA : w.answers with
  | nil =>
    have e : w.ask k = ({ w with starved := true, trace := w.trace ++ [.get k] }, none) := by
      simp only [OW.ask, hA]
    refine ⟨fun h => ?_, fun _ => ?_⟩
    · rw [e] at h; cases h
    · rw [OW.ask_trace, OW.ask_trace]; exact List.prefix_refl _
  | cons a rest =>
    have e : w.ask k = ({ w with answers := rest, trace := w.trace ++ [.get k] }, a) := by
      simp only [OW.ask, hA]
    have e' : (w.ext B).ask k = (({ w with answers := rest, trace := w.trace ++ [.get k] } : OW).ext B, a) := by
      simp only [OW.ask, OW.ext, hA, List.cons_append]
    rw [e, e']; exact ExtO.ret _ _ _

/-- more answers at the end of the answer list do not change a program of the evaluator that does not starve; one that starves
is continued from the same trace -/
theorem Twin.ext {α : Type} {u : α} {f : World → World × α} {fO : OW → OW × α} (h : Twin u f fO)
    (B : List (Option EState)) : ∀ w, w.starved = false → ExtO B (fO w) (fO (w.ext B)) := by
  induction h with
  | ret u o => exact fun w _ => ExtO.ret B w o
  | @emit _ _ _ fO op hk _ _ ih =>
    intro w hw
    show ExtO B _ (fO ((w.ext B).emit op))
    rw [OW.emit_ext]
    exact ih _ (by rw [(Quiet.emit w op (by cases op <;> first | rfl | exact absurd rfl (hk _))).starved]; exact hw)
  | @log _ _ _ fO c _ ih =>
    intro w hw
    show ExtO B _ (fO ((w.ext B).log c))
    rw [OW.log_ext]
    exact ih _ (by rw [(Quiet.log w c).starved]; exact hw)
  | ask k => exact fun w _ => w.ask_extO B k
  | @bind _ _ u _ _ fO k kO h1 hk hu ih1 ih2 =>
    intro w hw
    refine ExtO.bind kO (ih1 w hw) (fun hs => ih2 _ _ hs) (fun hs => ?_) ((hk _).frame _).1
    have e : fO w = ((fO w).1, u) := Prod.ext rfl ((h1.frame w).2.2 hw hs)
    rw [e, hu _ hs]
  | guard _ ih =>
    intro w hw
    simp only [OW.ext_starved, hw, Bool.false_eq_true, if_false]
    exact ih w hw

structure ExtAtO (env : Env) (B : List (Option EState)) (n : Nat) : Prop where
  text : ∀ w t ug, w.starved = false → ExtO B (evalTextO env n w t ug) (evalTextO env n (w.ext B) t ug)
  q : ∀ w q raw extra input uc, w.starved = false →
    ExtO B (evalQO env n w q raw extra input uc) (evalQO env n (w.ext B) q raw extra input uc)
  act : ∀ w st a raw parent extra uc, w.starved = false →
    ExtO B (evalActionO env n w st a raw parent extra uc) (evalActionO env n (w.ext B) st a raw parent extra uc)
  params : ∀ w ps raw parent, w.starved = false →
    ExtO B (evalParamsO env n w ps raw parent) (evalParamsO env n (w.ext B) ps raw parent)

theorem extO (env : Env) (B : List (Option EState)) (n : Nat) : ExtAtO env B n where
  text := fun w t ug => ((twin env n).text t ug).ext B w
  q := fun w q raw extra input uc => ((twin env n).q q raw extra input uc).ext B w
  act := fun w st a raw parent extra uc => ((twin env n).act st a raw parent extra uc).ext B w
  params := fun w ps raw parent => ((twin env n).params ps raw parent).ext B w

theorem evalQO_ext_prefix (env : Env) (n : Nat) (A B : List (Option EState)) (q : Query) (raw : Str) (extra : Extra)
    (input : Option Val) (uc : Bool) :
    (evalQO env n { answers := A } q raw extra input uc).1.trace <+:
      (evalQO env n { answers := A ++ B } q raw extra input uc).1.trace := by
  have h := (extO env B n).q { answers := A } q raw extra input uc rfl
  have e : ({ answers := A } : OW).ext B = { answers := A ++ B } := rfl
  rw [e] at h
  cases hs : (evalQO env n { answers := A } q raw extra input uc).1.starved
  · rw [h.1 hs]; exact List.prefix_refl _
  · exact h.2 hs

end Liquer
