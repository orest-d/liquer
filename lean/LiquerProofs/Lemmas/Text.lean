/-
Helper lemmas about the text model (`replaceAll`, `decUtf8`).
-/
import LiquerModel.Text

namespace Liquer

theorem isPrefix_cons_cons (p : Char) (ps : List Char) (c : Char) (cs : List Char) :
    isPrefix (p :: ps) (c :: cs) = (p == c && isPrefix ps cs) := rfl

theorem isPrefix_iff (p s : List Char) : isPrefix p s = true ↔ ∃ t, s = p ++ t := by
  induction p generalizing s with
  | nil => exact ⟨fun _ => ⟨s, rfl⟩, fun _ => rfl⟩
  | cons a p ih =>
    cases s with
    | nil => exact ⟨fun h => (nomatch h), fun ⟨t, h⟩ => (nomatch h)⟩
    | cons c cs =>
      simp only [isPrefix_cons_cons, Bool.and_eq_true, beq_iff_eq, ih, List.cons_append,
        List.cons.injEq]
      exact ⟨fun ⟨h, t, ht⟩ => ⟨t, h.symm, ht⟩, fun ⟨t, h, ht⟩ => ⟨h.symm, t, ht⟩⟩

theorem patLen_pos_of_guard {pat s : List Char}
    (h : (decide (pat ≠ []) && isPrefix pat s) = true) : 0 < pat.length := by
  cases pat with
  | nil => exact nomatch h
  | cons a p => exact Nat.succ_pos _

theorem replaceAllF_fuel (pat rep : List Char) :
    ∀ (n m : Nat) (s : List Char), s.length ≤ n → s.length ≤ m →
      replaceAllF pat rep n s = replaceAllF pat rep m s := by
  intro n
  induction n with
  | zero =>
    intro m s hn _
    cases List.eq_nil_of_length_eq_zero (Nat.le_zero.mp hn)
    cases m <;> rfl
  | succ n ih =>
    intro m s hn hm
    cases s with
    | nil => cases m <;> rfl
    | cons c cs =>
      cases m with
      | zero => exact absurd hm (Nat.not_succ_le_zero _)
      | succ m =>
        simp only [replaceAllF]
        simp only [List.length_cons] at hn hm
        split
        next h =>
          have hp := patLen_pos_of_guard h
          rw [ih m] <;> simp only [List.length_drop, List.length_cons] <;> omega
        · rw [ih m cs (by omega) (by omega)]

theorem replaceAll_nil (pat rep : List Char) : replaceAll pat rep [] = [] := rfl

theorem replaceAll_cons (pat rep : List Char) (c : Char) (cs : List Char) :
    replaceAll pat rep (c :: cs) =
      if pat ≠ [] && isPrefix pat (c :: cs) then
        rep ++ replaceAll pat rep ((c :: cs).drop pat.length)
      else c :: replaceAll pat rep cs := by
  simp only [replaceAll, List.length_cons, replaceAllF]
  split
  next h =>
    have hp := patLen_pos_of_guard h
    rw [replaceAllF_fuel pat rep cs.length _ _ _ (Nat.le_refl _)]
    simp only [List.length_drop, List.length_cons]; omega
  · rfl

theorem replaceAll_cons_ne (a : Char) (p rep : List Char) (c : Char) (cs : List Char)
    (h : a ≠ c) : replaceAll (a :: p) rep (c :: cs) = c :: replaceAll (a :: p) rep cs := by
  rw [replaceAll_cons, isPrefix_cons_cons, beq_false_of_ne h, Bool.false_and, Bool.and_false]
  rfl

theorem replaceAll_cons_noPrefix (pat rep : List Char) (c : Char) (cs : List Char)
    (h : isPrefix pat (c :: cs) = false) :
    replaceAll pat rep (c :: cs) = c :: replaceAll pat rep cs := by
  rw [replaceAll_cons, h, Bool.and_false]; rfl

theorem replaceAll_append_match (pat rep t : List Char) (h : pat ≠ []) :
    replaceAll pat rep (pat ++ t) = rep ++ replaceAll pat rep t := by
  cases pat with
  | nil => exact absurd rfl h
  | cons a p =>
    have hpre : isPrefix (a :: p) (a :: (p ++ t)) = true := (isPrefix_iff _ _).mpr ⟨t, rfl⟩
    rw [List.cons_append, replaceAll_cons, hpre, decide_eq_true h, Bool.and_self, if_pos rfl,
      ← List.cons_append, List.drop_left]

/-- for any fuel (without fuel the subject is returned as it is), so no length bookkeeping is needed -/
theorem mem_replaceAllF (pat rep : List Char) (x : Char) (n : Nat) (s : List Char)
    (hx : x ∈ replaceAllF pat rep n s) : x ∈ s ∨ x ∈ rep := by
  induction n generalizing s with
  | zero => exact Or.inl hx
  | succ n ih =>
    cases s with
    | nil => exact Or.inl hx
    | cons c cs =>
      rw [replaceAllF] at hx
      split at hx
      · rcases List.mem_append.mp hx with hx | hx
        · exact Or.inr hx
        · exact (ih _ hx).imp_left List.mem_of_mem_drop
      · rcases List.mem_cons.mp hx with hx | hx
        · exact Or.inl (hx ▸ List.mem_cons_self)
        · exact (ih _ hx).imp_left (List.mem_cons_of_mem _)

theorem mem_replaceAll {pat rep s : List Char} {x : Char} (h : x ∈ replaceAll pat rep s) :
    x ∈ s ∨ x ∈ rep := mem_replaceAllF pat rep x _ s h

theorem replaceAll_single (a : Char) (rep s : List Char) :
    replaceAll [a] rep s = s.flatMap (fun c => if c = a then rep else [c]) := by
  induction s with
  | nil => rfl
  | cons c cs ih =>
    rw [List.flatMap_cons, ← ih]
    split
    next h => subst h; exact replaceAll_append_match [c] rep cs (List.cons_ne_nil _ _)
    next h => exact replaceAll_cons_ne a [] rep c cs (Ne.symm h)

/-- core's strict decoder inverts UTF-8 encoding (core: `List.utf8Decode?_utf8Encode`) -/
theorem decUtf8?_encode (cs : List Char) : decUtf8? (cs.flatMap String.utf8EncodeChar) = some cs := by
  have h := @List.utf8Decode?_utf8Encode cs
  unfold List.utf8Encode at h
  simp [decUtf8?, h]

theorem decUtf8_ok : DecOK decUtf8 := fun cs => by rw [decUtf8, decUtf8?_encode]; rfl

theorem DecOK.nil {dec : List UInt8 → List Char} (hd : DecOK dec) : dec [] = [] := hd []

end Liquer
