/-
The top-level `parse`: `resource_transform_query` first, then `parse_query`.
-/
import LiquerProofs.Lemmas.ParseRtq

namespace Liquer
open PS

variable {dec : List UInt8 → List Char}

theorem slashSegs_append (a b : List Seg) : slashSegs (a ++ b) = slashSegs a ++ slashSegs b := by
  induction a with
  | nil => rfl
  | cons s a ih => simp [slashSegs_cons, ih]

theorem wfSegs_append (a b : List Seg) : wfSegs (a ++ b) = (wfSegs a && wfSegs b) := by
  induction a with
  | nil => simp [wfSegs]
  | cons s a ih => simp [wfSegs, ih, Bool.and_assoc]

theorem kindsOf_append (a b : List Seg) : kindsOf (a ++ b) = kindsOf a ++ kindsOf b := by
  induction a with
  | nil => simp [kindsOf]
  | cons s a ih => simp [kindsOf, ih]

theorem adjacencyOK_suffix : ∀ (a b : List SegKind), b ≠ [] → adjacencyOK (a ++ b) = true →
    adjacencyOK b = true
  | [], _, _, h => h
  | k :: a, b, hb, h => by
    apply adjacencyOK_suffix a b hb
    cases hab : a ++ b with
    | nil => simp at hab; exact absurd hab.2 hb
    | cons k2 ks =>
      rw [List.cons_append, hab] at h
      exact (adjacencyOK_cons2 h).2.2.1

theorem rtqCaptured_snoc (P : List Seg) (hP : P ≠ []) (hpl : ∀ x ∈ P, isPlain x = true) (h : Header)
    (as : List Action) (f : Option Str) :
    rtqCaptured T (P ++ [.transform (some h) as f]) = P.all (fun s => noTildePercent (s.encode T)) := by
  unfold rtqCaptured
  simp only [List.reverse_append, List.reverse_cons, List.reverse_nil, List.nil_append,
    List.singleton_append]
  cases hr : P.reverse with
  | nil => simp at hr; exact absurd hr hP
  | cons x xs =>
    simp only
    rw [← hr, List.all_reverse, Bool.eq_iff_iff, List.all_eq_true, List.all_eq_true]
    refine forall_congr' fun y => imp_congr_right fun hy => ?_
    match y, hpl y hy with
    | .transform none _ _, _ => exact Iff.rfl

theorem plain_split : ∀ ss : List Seg, ∃ P R, ss = P ++ R ∧ (∀ x ∈ P, isPlain x = true) ∧
    (∀ r1 R', R = r1 :: R' → isPlain r1 = false)
  | [] => ⟨[], [], rfl, by simp, by simp⟩
  | s :: ss => by
    cases hs : isPlain s with
    | true =>
      obtain ⟨P, R, h1, h2, h3⟩ := plain_split ss
      exact ⟨s :: P, R, by rw [h1]; rfl, List.forall_mem_cons.mpr ⟨hs, h2⟩, h3⟩
    | false =>
      refine ⟨[], s :: ss, rfl, by simp, ?_⟩
      intro r1 R' h
      rw [← (List.cons.inj h).1]; exact hs

theorem header_of_not_plain {s : Seg} (hp : isPlain s = false) (hk : s.kind ≠ .rPlain) :
    s.header.isSome = true := by
  rcases seg_cases s with ⟨_, _, rfl⟩ | ⟨_, _, _, rfl⟩ | ⟨_, _, rfl⟩ | ⟨_, rfl⟩
  · cases hp
  · rfl
  · rfl
  · exact absurd rfl hk

/-- on the canonical text of a well-formed segment list that is not `rtqCaptured`, the
`resource_transform_query` alternative fails or stops before the end -/
theorem rtq_core (hd : DecOK dec) (s : Seg) (ss : List Seg) (hwf : wfSegs (s :: ss) = true)
    (hadj : adjacencyOK (kindsOf (s :: ss)) = true) (hcap : rtqCaptured T (s :: ss) = false)
    (p0 n : Nat) (hws : NoWs (s.encode T ++ slashSegs ss))
    (hn : 8 * (s.encode T ++ slashSegs ss).length + 6 ≤ n) :
    parseResPath ⟨s.encode T ++ slashSegs ss, p0⟩ = none ∨
    ∃ names s2, parseResPath ⟨s.encode T ++ slashSegs ss, p0⟩ = some (names, s2) ∧
      (lit ['/'] s2 = none ∨ ∃ s3, lit ['/'] s2 = some s3 ∧
        (parseSegWithHeader dec n s3 = none ∨
          ∃ t s4, parseSegWithHeader dec n s3 = some (t, s4) ∧ atEnd s4 = false)) := by
  have hwf' := hwf
  simp only [wfSegs, Bool.and_eq_true] at hwf'
  rw [kindsOf_cons] at hadj
  have hk := adjacencyOK_head hadj
  cases hpl : isPlain s with
  | false =>
    -- a header: no resource name begins with a dash
    left
    obtain ⟨c, t, he, _, h1, _⟩ := seg_head s hwf'.1 hk
    rw [he, h1 (header_of_not_plain hpl hk)] at hws ⊢
    exact parseResPath_none hws (stopAt_cons Inst.resourceName_first)
  | true =>
    right
    -- the header-less transform segments `s :: P` at the front, then `R`
    obtain ⟨P, R, rfl, hPpl', hRhead⟩ := plain_split ss
    have hPpl : ∀ x ∈ s :: P, isPlain x = true := List.forall_mem_cons.mpr ⟨hpl, hPpl'⟩
    rw [wfSegs_append] at hwf'
    simp only [Bool.and_eq_true] at hwf'
    have hwfP : wfSegs (s :: P) = true := by simp [wfSegs, hwf'.1, hwf'.2.1]
    rw [slashSegs_append, ← List.append_assoc] at hws hn ⊢
    obtain ⟨x, ns, Z', heq, hall, hcases⟩ := plain_names s P hPpl hwfP (slashSegs R)
    rw [heq] at hws hn ⊢
    have hZ : NoWs Z' := hws.right
    rcases hcases with ⟨hclean, rfl⟩ | ⟨_, c, v, rfl, hc⟩
    · cases R with
      | nil =>
        obtain ⟨p', hrp⟩ := resPath_spec x ns hall [] ⟨fun _ _ => rfl, fun _ e => nomatch e⟩ p0 hws
        exact ⟨_, _, hrp, Or.inl (lit_ne_head hZ (by simp))⟩
      | cons r1 R' =>
        -- the next segment has a header: `/-`
        have hadjR : adjacencyOK (kindsOf (r1 :: R')) = true :=
          adjacencyOK_suffix (kindsOf (s :: P)) _ (by simp [kindsOf_cons])
            (by rw [← kindsOf_append]; simpa [kindsOf_cons] using hadj)
        rw [kindsOf_cons] at hadjR
        have hk1 := adjacencyOK_head hadjR
        have hwfR := hwf'.2.2
        simp only [wfSegs, Bool.and_eq_true] at hwfR
        have hw1 := hwfR.1
        have hr1 := hRhead r1 R' rfl
        obtain ⟨c1, t1, he1, _, hdash, _⟩ := seg_head r1 hw1 hk1
        cases hdash (header_of_not_plain hr1 hk1)
        rw [slashSegs_cons] at hws hZ hn ⊢
        have hstop : ResStop ('/' :: (r1.encode T ++ slashSegs R')) :=
          ⟨stopAt_of_excl Inst.resourceName_stops (HeadIn.cons (by simp)), by
            rintro t e; cases e; rw [he1]; exact stopAt_cons Inst.resourceName_first⟩
        obtain ⟨p', hrp⟩ := resPath_spec x ns hall _ hstop p0 hws
        refine ⟨_, _, hrp, Or.inr ⟨_, lit_cons hZ, ?_⟩⟩
        rcases seg_cases r1 with ⟨_, _, rfl⟩ | ⟨⟨name, lvl, ps, res⟩, as, f, rfl⟩ |
          ⟨⟨name, lvl, ps, res⟩, ns', rfl⟩ | ⟨_, rfl⟩
        case inl => cases hr1
        case inr.inr.inr => exact absurd rfl hk1
        case inr.inr.inl =>
          left
          obtain ⟨rfl, hl, _⟩ := wfSeg_resHeaded hw1
          rw [encode_resHeaded_eq hw1] at hZ ⊢
          simp only [List.append_assoc, List.cons_append] at hZ ⊢
          exact segWithHeader_none (parseSegIdent_resource hl hZ.tail) n
        case inr.inl =>
          right
          have hfol := follow_of_adj [] (Or.inl rfl) R' _ hadjR hwfR.2 (by simpa using hZ.tail.right)
          rw [List.append_nil] at hfol
          obtain ⟨t, p4, h4, _⟩ := segWithHeader_spec hd (linkIH_all hd n) name lvl ps res as f
            hw1 (slashSegs R') hfol (p' + 1) n hZ.tail
            ⟨by simp only [List.length_append, List.length_cons] at hn ⊢; omega, Nat.le_refl _⟩
          refine ⟨t, _, h4, ?_⟩
          cases R' with
          | nil =>
            -- then the query would be `rtqCaptured`
            have hc' := rtqCaptured_snoc (s :: P) (by simp) hPpl (.mk name lvl ps res) as f
            rw [List.cons_append] at hc'
            rw [hc', hclean] at hcap
            cases hcap
          | cons x R'' =>
            rw [slashSegs_cons] at hZ ⊢
            exact atEnd_cons hZ.tail.right
    · obtain ⟨p', hrp⟩ := resPath_spec x ns hall _ (resStop_tp hc v) p0 hws
      exact ⟨_, _, hrp, Or.inl (lit_ne_head hZ (by
        rintro e; cases Option.some.inj e; cases hc))⟩

theorem parseRTQ_eq (n : Nat) (s : PS) : parseRTQ dec n s =
    match parseResPath (optSlash s).2 with
    | none => none
    | some (names, s2) =>
      match s2.lit ['/'] with
      | none => none
      | some s3 =>
        match parseSegWithHeader dec n s3 with
        | none => none
        | some (t, s4) => some (.mk [.resource none names, t] (optSlash s).1, s4) := by
  unfold parseRTQ optSlash
  cases s.lit ['/'] <;> rfl

theorem rtq_fails (hd : DecOK dec) (q : Query) (hwf : wfInner q = true)
    (hcap : rtqCaptured T q.segments = false) (n : Nat) (hn : 8 * (q.encode T).length + 6 ≤ n) :
    parseRTQ dec n ⟨q.encode T, 0⟩ = none ∨
      ∃ q0 s1, parseRTQ dec n ⟨q.encode T, 0⟩ = some (q0, s1) ∧ atEnd s1 = false := by
  obtain ⟨segs, a⟩ := q
  cases segs with
  | nil => simp [wfInner] at hwf
  | cons s ss =>
    have hws := Query.noWs _ hwf
    rw [encode_inner s ss a hwf] at hws hn ⊢
    simp only [wfInner, Bool.and_eq_true] at hwf
    obtain ⟨⟨_, hwfs⟩, hadj⟩ := hwf
    have hwfs' := hwfs
    simp only [wfSegs, Bool.and_eq_true] at hwfs'
    obtain ⟨c, t, he, hc, _⟩ := seg_head s hwfs'.1 (adjacencyOK_head (by simpa [kindsOf_cons] using hadj))
    rw [parseRTQ_eq, optSlash_spec hws (by rw [he]; exact fun e => hc (Option.some.inj e))]
    rcases rtq_core hd s ss hwfs hadj hcap (0 + if a then 1 else 0) n hws.right
        (by simp only [List.length_append] at hn ⊢; omega) with
      h | ⟨names, s2, h, h2 | ⟨s3, h2, h3 | ⟨t, s4, h3, h4⟩⟩⟩
    · exact Or.inl (by simp only [h])
    · exact Or.inl (by simp only [h, h2])
    · exact Or.inl (by simp only [h, h2, h3])
    · exact Or.inr ⟨.mk [.resource none names, t] a, s4, by simp only [h, h2, h3], h4⟩

theorem expandTabs_noWs : ∀ (t : Str) (col : Nat), NoWs t → expandTabs col t = t
  | [], _, _ => rfl
  | c :: cs, col, h => by
    have hc : c ≠ '\t' := by
      rintro rfl
      have := h.head
      rw [isWhite, Inst.tab_white] at this; cases this
    simp only [expandTabs, beq_iff_eq, hc, ↓reduceIte]
    split <;> rw [expandTabs_noWs cs _ h.tail]

theorem wfTop_cases {q : Query} (h : wfTop T q = true) :
    (∃ names t a, q = .mk [.resource none names, t] a ∧ wfSeg (.resource none names) = true ∧
        wfSeg t = true ∧ (∃ hdr as f, t = .transform (some hdr) as f) ∧ adjacencyOK [t.kind] = true) ∨
    (wfInner q = true ∧ rtqCaptured T q.segments = false) := by
  unfold wfTop at h
  split at h
  next names t a =>
    left
    simp only [Bool.and_eq_true] at h
    obtain ⟨⟨⟨⟨h1, h2⟩, h3⟩, h4⟩, _⟩ := h
    refine ⟨names, t, a, rfl, h1, h2, ?_, h4⟩
    match t, h3 with
    | .transform (some hdr) as f, _ => exact ⟨hdr, as, f, rfl⟩
  next segs a _ =>
    right
    simp only [Bool.and_eq_true, Bool.not_eq_true'] at h
    exact ⟨h.1, by simpa [Query.segments] using h.2⟩

/-- the `[resource, headed transform]` shape is read back by `resource_transform_query` -/
theorem parse_rtq_shape (hd : DecOK dec) (names : List Str) (hdr : Header) (as : List Action)
    (f : Option Str) (a : Bool) (hwfr : wfSeg (.resource none names) = true)
    (hwft : wfSeg (.transform (some hdr) as f) = true)
    (hadj : adjacencyOK [(Seg.transform (some hdr) as f).kind] = true) :
    ∃ q', parse dec ((Query.mk [.resource none names, .transform (some hdr) as f] a).encode T) = some q' ∧
      q'.erase = (Query.mk [.resource none names, .transform (some hdr) as f] a).erase := by
  obtain ⟨name, lvl, ps, res⟩ := hdr
  have hws := noWs_query [.resource none names, .transform (some (.mk name lvl ps res)) as f] a
    (segs_noWs _ (by simp [wfSegs, hwfr, hwft]))
  generalize ht : Seg.transform (some (.mk name lvl ps res)) as f = t at hwft hadj hws ⊢
  have hwfr' := hwfr
  simp only [wfSeg, Bool.and_eq_true, Bool.not_eq_true'] at hwfr'
  obtain ⟨hne, hall⟩ := hwfr'
  cases names with
  | nil => simp at hne
  | cons x ns =>
    have htext : (Query.mk [.resource none (x :: ns), t] a).encode T =
        (if a then ['/'] else []) ++ (joinStr ['/'] (x :: ns) ++ '/' :: t.encode T) := by
      rw [Query.encode_eq]
      simp [isSingleRes, encodeSegs, Seg.encode_resPlain, joinStr_cons, slashed]
    rw [htext] at hws ⊢
    have hwsT := hws.right
    have hws2 : NoWs (t.encode T ++ []) := by simpa using hwsT.right.tail
    have hfol2 : Follow (plainMayFollow t.kind) (adjacencyOK [t.kind]) [] := Or.inl ⟨hadj, Or.inl rfl⟩
    have hhs : HeaderStart (t.encode T) := by
      simpa using headerStart_seg t hwft (by rw [← ht]; rfl) [] hfol2 hws2
    -- no resource name begins with `/`
    have hX : (joinStr ['/'] (x :: ns) ++ '/' :: t.encode T).head? ≠ some '/' := by
      have hx : fullMatch Gen.resourceNameRe x = true := by
        simp only [List.all_cons, Bool.and_eq_true] at hall; exact hall.1
      rw [joinStr_cons, List.append_assoc]
      exact head?_append_ne (fullMatch_resourceName_ne_nil hx)
        (not_mem_of_excl hx (List.all_eq_true.mp Inst.resourceName_stops '/' (by simp)))
    obtain ⟨p2, h2⟩ := resPath_spec x ns hall _
      (Follow.resStop (b := true) (Or.inr ⟨_, rfl, Or.inr hhs⟩)) (0 + if a then 1 else 0) hwsT
    have hfuel : 8 * (t.encode T).length + 6 ≤ parseFuel ((if a then ['/'] else []) ++
        (joinStr ['/'] (x :: ns) ++ '/' :: t.encode T)) := by
      simp only [parseFuel, List.length_append, List.length_cons]; omega
    subst ht
    obtain ⟨t', p4, h4, h5⟩ := segWithHeader_spec hd (linkIH_all hd _) name lvl ps res as f
      hwft [] hfol2 (p2 + 1) _ hws2 ⟨hfuel, Nat.le_refl _⟩
    rw [List.append_nil] at h4
    refine ⟨.mk [.resource none (x :: ns), t'] a, ?_, by simp [Query.erase, eraseSegs, Seg.erase, h5]⟩
    simp only [parse, expandTabs_noWs _ _ hws, parseRTQ_eq, optSlash_spec hws hX, h2,
      lit_cons hwsT.right, h4, atEnd_nil, ↓reduceIte]

theorem noWs_of_wfTop {q : Query} (hwf : wfTop T q = true) : NoWs (q.encode T) := by
  rcases wfTop_cases hwf with ⟨names, t, a, rfl, h1, h2, _, _⟩ | ⟨hwi, _⟩
  · exact noWs_query _ _ (segs_noWs _ (by simp [wfSegs, h1, h2]))
  · exact Query.noWs q hwi

/-- `parse` reads back the canonical text of every well-formed query -/
theorem print_parse_main (hd : DecOK dec) (q : Query) (hwf : wfTop T q = true) :
    ∃ q', parse dec (q.encode T) = some q' ∧ q'.erase = q.erase := by
  rcases wfTop_cases hwf with ⟨names, t, a, rfl, h1, h2, ⟨hdr, as, f, rfl⟩, h4⟩ | ⟨hwi, hcap⟩
  · exact parse_rtq_shape hd names hdr as f a h1 h2 h4
  · have hws := Query.noWs q hwi
    obtain ⟨q', p', hq, he⟩ := parseQuery_encode hd q hwi [] 0 (parseFuel (q.encode T))
      (by simpa using hws) (Or.inl rfl) (by simp only [parseFuel]; omega)
    simp only [List.append_nil] at hq
    refine ⟨q', ?_, he⟩
    rcases rtq_fails hd q hwi hcap (parseFuel (q.encode T)) (by simp only [parseFuel]; omega)
      with h | ⟨q0, s1, h, hat⟩
    · simp only [parse, expandTabs_noWs _ _ hws, h, hq, atEnd_nil, ↓reduceIte]
    · simp only [parse, expandTabs_noWs _ _ hws, h, hat, hq, atEnd_nil, ↓reduceIte, Bool.false_eq_true]

end Liquer
