/-
Lemmas about `mountOps` / `prefixOps` (C14).  Routing is characterised once (`routeIdx_some`, `routeIdx_none`; under
`tableWF` by `Owns` / `NoMount`); every operation of the composite is then described from the route it takes
(`*_part`: a mounted store, key with the prefix stripped; `mount_*_default`: the default store), for any `is_supported`
where the statement does not depend on it.
-/
import LiquerModel.StoreMount
import LiquerProofs.Lemmas.StoreView

namespace Liquer.MtL
open Liquer Liquer.SV

variable {σ : Type}

/-- the parts' `is_supported` for `MemoryStore` / `FileStore` -/
abbrev T : σ → Key → Bool := fun _ _ => true

theorem routeIdx_cons_some {supp : σ → Key → Bool} {rest : List (Key × σ)} {k : Key} {i : Nat} (p : Key) (st : σ)
    (h : Mt.routeIdx supp rest k = some i) : Mt.routeIdx supp ((p, st) :: rest) k = some (i + 1) := by
  rw [Mt.routeIdx, h]

theorem routeIdx_cons_none {supp : σ → Key → Bool} {rest : List (Key × σ)} {k : Key} (p : Key) (st : σ)
    (h : Mt.routeIdx supp rest k = none) :
    Mt.routeIdx supp ((p, st) :: rest) k = if Mt.hit supp p st k then some 0 else none := by
  rw [Mt.routeIdx, h]

theorem routeIdx_none (supp : σ → Key → Bool) (tbl : List (Key × σ)) (k : Key) :
    Mt.routeIdx supp tbl k = none ↔ ∀ p st, (p, st) ∈ tbl → Mt.hit supp p st k = false := by
  induction tbl with
  | nil => simp [Mt.routeIdx]
  | cons e rest ih =>
    obtain ⟨p, st⟩ := e
    have : (∀ q st', (q, st') ∈ (p, st) :: rest → Mt.hit supp q st' k = false) ↔
        Mt.hit supp p st k = false ∧ Mt.routeIdx supp rest k = none := by
      rw [ih]
      simp only [List.mem_cons, Prod.mk.injEq]
      exact ⟨fun h => ⟨h p st (Or.inl ⟨rfl, rfl⟩), fun q st' hm => h q st' (Or.inr hm)⟩,
        fun h q st' hm => hm.elim (fun e => e.1 ▸ e.2 ▸ h.1) (h.2 q st')⟩
    rw [this, Mt.routeIdx]
    cases Mt.routeIdx supp rest k <;> cases Mt.hit supp p st k <;> simp

def LastHit (supp : σ → Key → Bool) (tbl : List (Key × σ)) (k : Key) (i : Nat) : Prop :=
  ∃ p st, tbl[i]? = some (p, st) ∧ Mt.hit supp p st k = true ∧
    ∀ j q st', i < j → tbl[j]? = some (q, st') → Mt.hit supp q st' k = false

theorem routeIdx_some (supp : σ → Key → Bool) (tbl : List (Key × σ)) (k : Key) (i : Nat) :
    Mt.routeIdx supp tbl k = some i ↔ LastHit supp tbl k i := by
  -- the routed entry matches and nothing mounted later does
  have spec : ∀ (tbl : List (Key × σ)) (i : Nat), Mt.routeIdx supp tbl k = some i → LastHit supp tbl k i := by
    intro tbl
    induction tbl with
    | nil => exact fun i h => nomatch h
    | cons e rest ih =>
      obtain ⟨p, st⟩ := e
      intro i h
      cases hr : Mt.routeIdx supp rest k with
      | some i0 =>
        rw [routeIdx_cons_some p st hr] at h
        cases h
        obtain ⟨p0, st0, h1, h2, h3⟩ := ih i0 hr
        refine ⟨p0, st0, h1, h2, fun j q st' hj hq => ?_⟩
        cases j with
        | zero => exact absurd hj (Nat.not_lt_zero _)
        | succ j => exact h3 j q st' (Nat.lt_of_succ_lt_succ hj) hq
      | none =>
        rw [routeIdx_cons_none p st hr] at h
        by_cases hh : Mt.hit supp p st k = true
        · rw [if_pos hh] at h
          cases h
          refine ⟨p, st, rfl, hh, fun j q st' hj hq => ?_⟩
          cases j with
          | zero => exact absurd hj (Nat.lt_irrefl 0)
          | succ j => exact (routeIdx_none supp rest k).mp hr q st' (List.mem_of_getElem? hq)
        · rw [if_neg hh] at h
          cases h
  refine ⟨spec tbl i, fun ⟨p, st, h1, h2, h3⟩ => ?_⟩
  -- conversely such an entry is unique, and some entry is routed because one matches
  cases hr : Mt.routeIdx supp tbl k with
  | none => rw [(routeIdx_none supp tbl k).mp hr p st (List.mem_of_getElem? h1)] at h2; cases h2
  | some i' =>
    obtain ⟨p', st', g1, g2, g3⟩ := spec tbl i' hr
    rcases Nat.lt_trichotomy i i' with hlt | heq | hgt
    · rw [h3 i' p' st' hlt g1] at g2; cases g2
    · rw [heq]
    · rw [g3 i p st hgt h1] at h2; cases h2

theorem hit_prefix {supp : σ → Key → Bool} {p : Key} {st : σ} {k : Key} (h : Mt.hit supp p st k = true) : p <+: k := by
  unfold Mt.hit at h
  simp only [Bool.or_eq_true, beq_iff_eq, Bool.and_eq_true, List.isPrefixOf_iff_prefix] at h
  rcases h with h | h
  · exact h ▸ List.prefix_refl _
  · exact h.1

theorem hit_append (supp : σ → Key → Bool) (p : Key) (st : σ) (q : Key) (h : q = [] ∨ supp st q = true) :
    Mt.hit supp p st (p ++ q) = true := by
  unfold Mt.hit
  rcases h with h | h
  · subst h; simp
  · simp [List.isPrefixOf_iff_prefix.mpr ⟨q, rfl⟩, h]

theorem hit_T (p : Key) (st : σ) (k : Key) : Mt.hit T p st k = true ↔ p <+: k := by
  refine ⟨hit_prefix, fun h => ?_⟩
  obtain ⟨q, rfl⟩ := h
  exact hit_append T p st q (Or.inr rfl)

theorem hit_T_false (p : Key) (st : σ) (k : Key) : Mt.hit T p st k = false ↔ ¬ p <+: k := by
  rw [← hit_T p st k]; simp

/-- the prefixes in mount order (head = mounted first): no prefix is empty; no entry is a prefix of (or equal to) an entry
mounted *before* it -/
def tableWF : List Key → Bool
  | [] => true
  | p :: rest => !p.isEmpty && rest.all (fun q => !(q.isPrefixOf p)) && tableWF rest

theorem tableWF_iff (ps : List Key) :
    tableWF ps = true ↔ (∀ p, p ∈ ps → p ≠ []) ∧ ps.Pairwise (fun a b => ¬ b <+: a) := by
  induction ps with
  | nil => simp [tableWF]
  | cons a rest ih =>
    simp only [tableWF, Bool.and_eq_true, Bool.not_eq_true', List.all_eq_true, ih, List.mem_cons, forall_eq_or_imp,
      List.pairwise_cons, ← Bool.not_eq_true, List.isPrefixOf_iff_prefix, List.isEmpty_iff, ne_eq]
    exact ⟨fun ⟨⟨h1, h2⟩, h3, h4⟩ => ⟨⟨h1, h3⟩, h2, h4⟩, fun ⟨⟨h1, h3⟩, h2, h4⟩ => ⟨⟨h1, h2⟩, h3, h4⟩⟩

theorem tableWF_single {k : Key} (e : σ) (hk : k ≠ []) : tableWF (([(k, e)] : List (Key × σ)).map (·.1)) = true := by
  simp [tableWF, hk]

theorem wf_nonempty {ps : List Key} (h : tableWF ps = true) {p : Key} (hp : p ∈ ps) : p ≠ [] :=
  ((tableWF_iff ps).mp h).1 p hp

theorem tableWF_pairwise (tbl : List (Key × σ)) (h : tableWF (tbl.map (·.1)) = true) :
    tbl.Pairwise (fun e1 e2 => ¬ e2.1 <+: e1.1) :=
  List.pairwise_map.mp ((tableWF_iff _).mp h).2

theorem wf_later_deeper {tbl : List (Key × σ)} (h : tableWF (tbl.map (·.1)) = true) {i j : Nat} {p q k : Key}
    {st st' : σ} (hij : i < j) (hp : tbl[i]? = some (p, st)) (hq : tbl[j]? = some (q, st'))
    (hpk : p <+: k) (hqk : q <+: k) : p.length < q.length := by
  obtain ⟨hi, hpe⟩ := List.getElem?_eq_some_iff.mp hp
  obtain ⟨hj, hqe⟩ := List.getElem?_eq_some_iff.mp hq
  have hn : ¬ q <+: p := by
    have := List.pairwise_iff_getElem.mp (tableWF_pairwise tbl h) i j hi hj hij
    rwa [hpe, hqe] at this
  rcases List.prefix_or_prefix_of_prefix hpk hqk with h1 | h1
  · exact Nat.lt_of_le_of_ne h1.length_le fun e => hn (h1.eq_of_length e ▸ List.prefix_refl _)
  · exact absurd h1 hn

/-- entry `i` is the innermost mount on the path to `k` -/
def Owns (tbl : List (Key × σ)) (i : Nat) (k : Key) : Prop :=
  ∃ (p : Key) (st : σ), tbl[i]? = some (p, st) ∧ p <+: k ∧
    ∀ (j : Nat) (q : Key) (st' : σ), tbl[j]? = some (q, st') → q <+: k → q.length ≤ p.length

def NoMount (tbl : List (Key × σ)) (k : Key) : Prop := ∀ p st, (p, st) ∈ tbl → ¬ p <+: k

theorem Owns.prefix {tbl : List (Key × σ)} {i : Nat} {k p : Key} {st : σ} (ho : Owns tbl i k)
    (hi : tbl[i]? = some (p, st)) : p <+: k := by
  obtain ⟨p', st', h1, h2, _⟩ := ho
  rw [hi] at h1; cases h1; exact h2

theorem owns_single (p : Key) (st : σ) (t : Key) : Owns [(p, st)] 0 (p ++ t) := by
  refine ⟨p, st, rfl, List.prefix_append _ _, fun j q st' hj _ => ?_⟩
  cases j with
  | zero => cases hj; exact Nat.le_refl _
  | succ j => cases hj

theorem routeIdx_T_none (tbl : List (Key × σ)) (k : Key) : Mt.routeIdx T tbl k = none ↔ NoMount tbl k := by
  rw [routeIdx_none]
  exact forall_congr' fun p => forall_congr' fun st => imp_congr_right fun _ => hit_T_false p st k

/-- under `tableWF` the innermost mount on the path to `k` is the routed one as soon as it accepts the key — whatever
the other stores' `is_supported` says -/
theorem routeIdx_owned (supp : σ → Key → Bool) (tbl : List (Key × σ)) (hwf : tableWF (tbl.map (·.1)) = true)
    (k : Key) (i : Nat) (p : Key) (st : σ) (hi : tbl[i]? = some (p, st)) (ho : Owns tbl i k)
    (hh : Mt.hit supp p st k = true) : Mt.routeIdx supp tbl k = some i := by
  refine (routeIdx_some supp tbl k i).mpr ⟨p, st, hi, hh, fun j q st' hj hq => ?_⟩
  -- a later entry that matched would be deeper than the innermost one
  refine Bool.eq_false_iff.mpr fun hc => ?_
  obtain ⟨p', st'', h1, hpk, hmax⟩ := ho
  rw [hi] at h1; cases h1
  exact Nat.lt_irrefl _ (Nat.lt_of_lt_of_le (wf_later_deeper hwf hj hi hq hpk (hit_prefix hc)) (hmax j q st' hq (hit_prefix hc)))

theorem routeIdx_T_some (tbl : List (Key × σ)) (hwf : tableWF (tbl.map (·.1)) = true) (k : Key) (i : Nat) :
    Mt.routeIdx T tbl k = some i ↔ Owns tbl i k := by
  constructor
  · intro h
    obtain ⟨p, st, h1, h2, h3⟩ := (routeIdx_some T tbl k i).mp h
    have hpk := (hit_T p st k).mp h2
    refine ⟨p, st, h1, hpk, fun j q st' hq hqk => ?_⟩
    rcases Nat.lt_trichotomy j i with hlt | heq | hgt
    · exact Nat.le_of_lt (wf_later_deeper hwf hlt hq h1 hqk hpk)
    · subst heq
      rw [h1] at hq; cases hq; exact Nat.le_refl _
    · exact absurd hqk ((hit_T_false q st' k).mp (h3 j q st' hgt hq))
  · intro ho
    obtain ⟨p, st, hi, hpk, _⟩ := id ho
    exact routeIdx_owned T tbl hwf k i p st hi ho ((hit_T p st k).mpr hpk)

theorem owns_or_nomount (tbl : List (Key × σ)) (hwf : tableWF (tbl.map (·.1)) = true) (k : Key) :
    (∃ i, Owns tbl i k) ∨ NoMount tbl k := by
  cases h : Mt.routeIdx T tbl k with
  | none => exact Or.inr ((routeIdx_T_none tbl k).mp h)
  | some i => exact Or.inl ⟨i, (routeIdx_T_some tbl hwf k i).mp h⟩

theorem route_owned (supp : σ → Key → Bool) (s : MtState σ) (hwf : tableWF (s.2.map (·.1)) = true)
    (k : Key) (i : Nat) (p : Key) (st : σ) (hi : s.2[i]? = some (p, st)) (ho : Owns s.2 i k)
    (hh : Mt.hit supp p st k = true) : Mt.route supp s k = .ok (.part i) := by
  unfold Mt.route
  rw [routeIdx_owned supp s.2 hwf k i p st hi ho hh]

theorem route_T_part (s : MtState σ) (hwf : tableWF (s.2.map (·.1)) = true) {k : Key} {i : Nat} (h : Owns s.2 i k) :
    Mt.route T s k = .ok (.part i) := by
  unfold Mt.route
  rw [(routeIdx_T_some s.2 hwf k i).mpr h]

theorem route_T_default (s : MtState σ) {k : Key} (h : NoMount s.2 k) :
    Mt.route T s k = if s.1.isSome then .ok .dflt else .error .routeNotFound := by
  unfold Mt.route
  rw [(routeIdx_T_none s.2 k).mpr h]

theorem inverse_drop {p k : Key} (h : p <+: k) : Pfx.inverse p (k.drop p.length) = k := by
  obtain ⟨t, rfl⟩ := h
  simp [Pfx.inverse]

def stripOp (p : Key) : StoreOp → StoreOp
  | .store k d m => .store (k.drop p.length) d m
  | .storeMeta k m => .storeMeta (k.drop p.length) m
  | .remove k => .remove (k.drop p.length)
  | .removedir k r => .removedir (k.drop p.length) r
  | .makedir k => .makedir (k.drop p.length)

def isRemovedir : StoreOp → Bool
  | .removedir _ _ => true
  | _ => false

theorem bind_translate {α : Type} {p k : Key} (h : p <+: k) (f : Key → Except StoreErr α) :
    (Pfx.translate p k).bind f = f (k.drop p.length) := by
  unfold Pfx.translate
  by_cases e : k = p
  · subst e; simp [Except.bind]
  · rw [if_neg (by simpa using e), if_pos (List.isPrefixOf_iff_prefix.mpr h)]; rfl

section prefixOps
variable (P : StoreOps σ) {p k : Key} (h : p <+: k) (st : σ)
include h

theorem prefix_getBytes : (prefixOps P p).getBytes st k = P.getBytes st (k.drop p.length) := bind_translate h _

theorem prefix_getMeta : (prefixOps P p).getMeta st k =
    (P.getMeta st (k.drop p.length)).map (fun m => { m with key := k, name := keyName k }) := bind_translate h _

theorem prefix_listdir : (prefixOps P p).listdir st k = P.listdir st (k.drop p.length) := bind_translate h _

theorem prefix_contains (hne : k ≠ p) : (prefixOps P p).contains st k = P.contains st (k.drop p.length) :=
  (if_neg (by simpa using hne)).trans (bind_translate h _)

theorem prefix_isDir (hne : k ≠ p) : (prefixOps P p).isDir st k = P.isDir st (k.drop p.length) :=
  (if_neg (by simpa using hne)).trans (bind_translate h _)

end prefixOps

def withKey (t : Key) : StoreOp → StoreOp
  | .store _ d m => .store t d m
  | .storeMeta _ m => .storeMeta t m
  | .remove _ => .remove t
  | .removedir _ r => .removedir t r
  | .makedir _ => .makedir t

theorem stripOp_eq (p : Key) (op : StoreOp) : stripOp p op = withKey ((opKey op).drop p.length) op := by
  cases op <;> rfl

theorem prefix_apply_eq (P : StoreOps σ) (p : Key) (op : StoreOp) (st : σ) :
    (prefixOps P p).apply st op = (Pfx.translate p (opKey op)).bind fun t => P.apply st (withKey t op) := by
  cases op <;> rfl

theorem prefix_apply (P : StoreOps σ) {p : Key} (op : StoreOp) (h : p <+: opKey op) (st : σ) :
    (prefixOps P p).apply st op = P.apply st (stripOp p op) := by
  rw [prefix_apply_eq, bind_translate h, stripOp_eq]

theorem prefix_apply_ok (P : StoreOps σ) {p : Key} {op : StoreOp} {st st' : σ}
    (h : (prefixOps P p).apply st op = .ok st') : ∃ op', P.apply st op' = .ok st' := by
  rw [prefix_apply_eq] at h
  cases ht : Pfx.translate p (opKey op) with
  | error e => rw [ht] at h; cases h
  | ok t => rw [ht] at h; exact ⟨_, h⟩

variable (P : StoreOps σ)

abbrev M (P : StoreOps σ) := mountOps P (T (σ := σ))

/-- `k` is the root, a mount point or a parent of a mount point -/
def Above (tbl : List (Key × σ)) (k : Key) : Prop := k = [] ∨ ∃ p st, (p, st) ∈ tbl ∧ k <+: p

theorem above_cond (tbl : List (Key × σ)) (k : Key) : (k.isEmpty || Mt.aboveMount tbl k) = true ↔ Above tbl k := by
  unfold Above Mt.aboveMount
  simp only [Bool.or_eq_true, List.isEmpty_iff, List.any_eq_true, List.isPrefixOf_iff_prefix, Prod.exists]

theorem not_above_ne {tbl : List (Key × σ)} {k : Key} (h : ¬ Above tbl k) {i : Nat} {p : Key} {st : σ}
    (hi : tbl[i]? = some (p, st)) : k ≠ p :=
  fun e => h (Or.inr ⟨p, st, List.mem_of_getElem? hi, e ▸ List.prefix_refl _⟩)

theorem isDir_above (supp : σ → Key → Bool) (s : MtState σ) (k : Key) (h : Above s.2 k) :
    Mt.isDir P supp s k = .ok true := by
  unfold Mt.isDir
  rw [if_pos ((above_cond s.2 k).mpr h)]

theorem contains_of_isDir (supp : σ → Key → Bool) (s : MtState σ) (k : Key) (h : Mt.isDir P supp s k = .ok true) :
    Mt.contains P supp s k = .ok true := by
  unfold Mt.contains
  rw [h]

section part
/-! a key routed to entry `i`, mounted at `p`: the operation of the store mounted there on the key without `p` -/
variable {supp : σ → Key → Bool} {s : MtState σ} {k : Key} {i : Nat} {p : Key} {st : σ}
  (hr : Mt.route supp s k = .ok (.part i)) (hi : s.2[i]? = some (p, st)) (hpk : p <+: k)
include hr hi hpk

theorem getBytes_part : (mountOps P supp).getBytes s k = P.getBytes st (k.drop p.length) := by
  show Mt.routedRead P supp s k _ = _
  unfold Mt.routedRead
  rw [hr]
  simp only [Except.bind, Mt.readAt, hi]
  exact prefix_getBytes P hpk st

theorem isDir_part (ha : ¬ Above s.2 k) : (mountOps P supp).isDir s k = P.isDir st (k.drop p.length) := by
  show Mt.isDir P supp s k = _
  unfold Mt.isDir
  rw [if_neg (fun e => ha ((above_cond s.2 k).mp e)), hr]
  simp only [Mt.readAt, hi]
  exact prefix_isDir P hpk st (not_above_ne ha hi)

theorem contains_part (ha : ¬ Above s.2 k) :
    (mountOps P supp).contains s k = match P.isDir st (k.drop p.length) with
      | .error e => .error e
      | .ok true => .ok true
      | .ok false => P.contains st (k.drop p.length) := by
  show Mt.contains P supp s k = _
  unfold Mt.contains
  rw [show Mt.isDir P supp s k = _ from isDir_part P hr hi hpk ha, hr]
  simp only [Mt.readAt, hi]
  rw [prefix_contains P hpk st (not_above_ne ha hi)]
  rfl

theorem listBase_part : Mt.listBase P supp s k = (P.listdir st (k.drop p.length)).map (fun o => o.getD []) := by
  unfold Mt.listBase
  rw [hr]
  simp only [Mt.readAt, hi]
  rw [prefix_listdir P hpk st]

end part

theorem mount_isDir_default (s : MtState σ) (k : Key) (h : ¬ Above s.2 k) (hn : NoMount s.2 k) :
    (M P).isDir s k = match s.1 with | some d => P.isDir d k | none => .ok false := by
  show Mt.isDir P T s k = _
  unfold Mt.isDir
  rw [if_neg (fun e => h ((above_cond s.2 k).mp e)), route_T_default s hn]
  cases hd : s.1 with
  | none => rfl
  | some d => simp only [Option.isSome_some, ↓reduceIte, Mt.readAt, hd]

theorem mount_contains_default (s : MtState σ) (k : Key) (h : ¬ Above s.2 k) (hn : NoMount s.2 k) :
    (M P).contains s k = match s.1 with
      | none => .ok false
      | some d => match P.isDir d k with
        | .error e => .error e
        | .ok true => .ok true
        | .ok false => P.contains d k := by
  show Mt.contains P T s k = _
  unfold Mt.contains
  rw [show Mt.isDir P T s k = _ from mount_isDir_default P s k h hn, route_T_default s hn]
  cases hd : s.1 with
  | none => rfl
  | some d =>
    simp only [Option.isSome_some, ↓reduceIte, Mt.readAt, hd]
    rfl

theorem mount_getBytes_default (s : MtState σ) (k : Key) (hn : NoMount s.2 k) :
    (M P).getBytes s k = match s.1 with | some d => P.getBytes d k | none => .error .routeNotFound := by
  show Mt.routedRead P T s k _ = _
  unfold Mt.routedRead
  rw [route_T_default s hn]
  cases hd : s.1 with
  | none => rfl
  | some d => simp only [Option.isSome_some, ↓reduceIte, Except.bind, Mt.readAt, hd]

theorem mount_getMeta_default (s : MtState σ) (k : Key) (h : ¬ Above s.2 k)
    (hn : NoMount s.2 k) (d : σ) (hd : s.1 = some d) :
    (M P).getMeta s k = match P.getMeta d k with
      | .ok m => .ok { m with key := k }
      | .error e =>
        if e = .keyNotFound ∨ e = .routeNotFound then
          match P.isDir d k with
          | .error e => .error e
          | .ok true => .ok (Mt.dirMeta k)
          | .ok false => .error .keyNotFound
        else .error e := by
  show Mt.getMeta P T s k = _
  unfold Mt.getMeta Mt.routedRead
  rw [show Mt.isDir P T s k = _ from mount_isDir_default P s k h hn, route_T_default s hn, hd]
  simp only [Option.isSome_some, ↓reduceIte, Except.bind, Mt.readAt, hd]
  cases P.getMeta d k with
  | ok m => rfl
  | error e => cases e <;> rfl

theorem mount_meta_key (supp : σ → Key → Bool) (s : MtState σ) (k : Key) (m : MetaObs) :
    (mountOps P supp).getMeta s k = .ok m → m.key = k := by
  show Mt.getMeta P supp s k = _ → _
  fun_cases Mt.getMeta P supp s k
  case case1 => intro h; cases h; rfl
  case case4 => intro h; cases h
  all_goals
    -- the fall-back is the default directory metadata of `k` or an error
    rename_i fallback _
    simp only [fallback]
    split <;> intro h <;> cases h
    rfl

theorem mount_apply_routed (supp : σ → Key → Bool) (s : MtState σ) (op : StoreOp) (hop : isRemovedir op = false) :
    (mountOps P supp).apply s op = Mt.routedWrite P supp s (opKey op) (fun S st => S.apply st op) := by
  cases op with
  | removedir k r => cases hop
  | _ => rfl

theorem apply_part {supp : σ → Key → Bool} {s : MtState σ} {op : StoreOp} {i : Nat} {p : Key} {st : σ}
    (hr : Mt.route supp s (opKey op) = .ok (.part i)) (hi : s.2[i]? = some (p, st)) (hpk : p <+: opKey op)
    (hop : isRemovedir op = false) :
    (mountOps P supp).apply s op = (P.apply st (stripOp p op)).map (fun st' => (s.1, s.2.set i (p, st'))) := by
  rw [mount_apply_routed P supp s op hop]
  unfold Mt.routedWrite
  rw [hr]
  simp only [Except.bind, Mt.writeAt, hi]
  rw [prefix_apply P op hpk st]

theorem set_map_of_getElem? {α β : Type} (g : α → β) {l : List α} {i : Nat} {a a' : α} (hi : l[i]? = some a)
    (h : g a' = g a) : (l.set i a').map g = l.map g := by
  apply List.ext_getElem?
  intro j
  rw [List.getElem?_map, List.getElem?_map, List.getElem?_set]
  split
  · rename_i hij
    subst hij
    split
    · rw [hi]; exact congrArg some h
    · rename_i hlt
      rw [List.getElem?_eq_none (Nat.le_of_not_lt hlt)]
  · rfl

theorem writeAt_ok {s s' : MtState σ} {r : Route} {f : StoreOps σ → σ → Except StoreErr σ} :
    Mt.writeAt P s r f = .ok s' →
    (∃ d d', s.1 = some d ∧ f P d = .ok d' ∧ s' = (some d', s.2)) ∨
    (∃ i p st st', s.2[i]? = some (p, st) ∧ f (prefixOps P p) st = .ok st' ∧ s' = (s.1, s.2.set i (p, st'))) := by
  fun_cases Mt.writeAt P s r f
  case case1 d hd =>
    cases hf : f P d with
    | error e => intro h; cases h
    | ok d' => intro h; cases h; exact Or.inl ⟨d, d', hd, hf, rfl⟩
  case case2 => intro h; cases h
  case case3 i p st hi =>
    cases hf : f (prefixOps P p) st with
    | error e => intro h; cases h
    | ok st' => intro h; cases h; exact Or.inr ⟨i, p, st, st', hi, hf, rfl⟩
  case case4 => intro h; cases h

theorem mount_write_default (s : MtState σ) (op : StoreOp) (hop : isRemovedir op = false)
    (hn : NoMount s.2 (opKey op)) :
    (M P).apply s op = match s.1 with
      | some d => (P.apply d op).map (fun d' => (some d', s.2))
      | none => .error .routeNotFound := by
  rw [mount_apply_routed P T s op hop]
  unfold Mt.routedWrite
  rw [route_T_default s hn]
  cases hd : s.1 with
  | none => rfl
  | some d => simp only [Option.isSome_some, ↓reduceIte, Except.bind, Mt.writeAt, hd]

/-! `Mt.removedirX` writes its loop body and its tail inline; here they have names, so that lemmas can be stated about them
(`removedirX_succ` is by `rfl`). -/

section removedir
variable (supp : σ → Key → Bool)

def rmStep (recur : MtState σ → Key → MtState σ × Option StoreErr) (k : Key)
    (acc : MtState σ × Option StoreErr) (nm : Str) : MtState σ × Option StoreErr :=
  match acc.2 with
  | some _ => acc
  | none =>
    match Mt.isDir P supp acc.1 (k ++ [nm]) with
    | .error e => (acc.1, some e)
    | .ok true => recur acc.1 (k ++ [nm])
    | .ok false =>
      match Mt.remove P supp acc.1 (k ++ [nm]) with
      | .error e => (acc.1, some e)
      | .ok s' => (s', none)

def rmWalk (recur : MtState σ → Key → MtState σ × Option StoreErr) (s : MtState σ) (k : Key) :
    MtState σ × Option StoreErr :=
  match Mt.listdirL P supp s k with
  | .error e => (s, some e)
  | .ok names => names.foldl (rmStep P supp recur k) (s, none)

def rmTail (k : Key) (walked : MtState σ × Option StoreErr) : MtState σ × Option StoreErr :=
  match walked.2 with
  | some e => (walked.1, some e)
  | none =>
    if walked.1.2.any (fun e => e.1 == k) then (walked.1, some .other)
    else match Mt.routedWrite P supp walked.1 k (fun S st => S.removedir st k false) with
      | .error e => (walked.1, some e)
      | .ok s' => (s', none)

theorem removedirX_succ (n : Nat) (s : MtState σ) {k : Key} (hk : k ≠ []) (r : Bool) :
    Mt.removedirX P supp (n + 1) s k r =
      rmTail P supp k (if r then rmWalk P supp (fun st c => Mt.removedirX P supp n st c true) s k else (s, none)) := by
  rw [Mt.removedirX, if_neg (by simpa using hk)]
  rfl
theorem rmTail_mount {k : Key} {s : MtState σ} (h : s.2.any (fun e => e.1 == k) = true) :
    rmTail P supp k (s, none) = (s, some .other) :=
  if_pos h

theorem rmTail_error {k : Key} {s : MtState σ} {e : StoreErr} (h : s.2.any (fun e => e.1 == k) = false)
    (hw : Mt.routedWrite P supp s k (fun S st => S.removedir st k false) = .error e) :
    rmTail P supp k (s, none) = (s, some e) := by
  show (if s.2.any (fun e => e.1 == k) = true then _ else _) = _
  rw [if_neg (by simp [h]), hw]

theorem step_of_error {τ : Type} {S : StoreOps τ} {s : τ} {op : StoreOp} {e : StoreErr} (h : S.apply s op = .error e) :
    S.step s op = s := by
  unfold StoreOps.step
  rw [h]

theorem stepX_eq_step (s : MtState σ) {op : StoreOp} (hop : isRemovedir op = false) :
    Mt.stepX P supp s op = (mountOps P supp).step s op := by
  cases op with
  | removedir k r => cases hop
  | _ => rfl

theorem removedir_refused {s : MtState σ} {k : Key} {r : Bool} {e : StoreErr}
    (hx : Mt.removedirFull P supp s k r = (s, some e)) :
    (mountOps P supp).apply s (.removedir k r) = .error e ∧ Mt.stepX P supp s (.removedir k r) = s ∧
      (mountOps P supp).step s (.removedir k r) = s := by
  have ha : (mountOps P supp).apply s (.removedir k r) = .error e := by
    show Mt.removedir P supp s k r = _
    unfold Mt.removedir
    rw [hx]
  exact ⟨ha, congrArg Prod.fst hx, step_of_error ha⟩

theorem removedirX_root (n : Nat) (s : MtState σ) (r : Bool) : Mt.removedirX P supp (n + 1) s [] r = (s, none) := rfl

end removedir

theorem singleton_prefix (nm : Str) (t : Key) : [nm] <+: t ↔ t.head? = some nm := by
  cases t with
  | nil => simp
  | cons a rest => simp [List.cons_prefix_cons, eq_comm]

theorem mountChild_iff (k p : Key) (hp : p ≠ []) (nm : Str) :
    Mt.mountChild k p = some nm ↔ (k ++ [nm]) <+: p := by
  unfold Mt.mountChild
  by_cases hkp : k <+: p
  · -- `p = k ++ t`: both sides say that `t` starts with `nm`
    obtain ⟨t, rfl⟩ := hkp
    rw [List.prefix_append_right_inj, singleton_prefix]
    cases k with
    | nil =>
      cases t with
      | nil => exact absurd rfl hp
      | cons a rest => rfl
    | cons c k' =>
      have h1 : (c :: k').isPrefixOf (c :: k' ++ t) = true := List.isPrefixOf_iff_prefix.mpr (List.prefix_append _ _)
      rw [if_neg (by simp), h1]
      cases t with
      | nil => simp
      | cons a rest => simp
  · have hk : k.isEmpty = false := by
      cases k with
      | nil => exact absurd (List.nil_prefix) hkp
      | cons _ _ => rfl
    rw [hk, Bool.eq_false_iff.mpr fun h => hkp (List.isPrefixOf_iff_prefix.mp h)]
    exact ⟨fun h => (nomatch h), fun h => absurd ((List.prefix_append k [nm]).trans h) hkp⟩

theorem mem_mountChildren (tbl : List (Key × σ)) (hwf : tableWF (tbl.map (·.1)) = true) (k : Key) (nm : Str) :
    nm ∈ tbl.filterMap (fun e => Mt.mountChild k e.1) ↔ ∃ p st, (p, st) ∈ tbl ∧ (k ++ [nm]) <+: p := by
  simp only [List.mem_filterMap, Prod.exists]
  refine exists_congr fun p => exists_congr fun st => and_congr_right fun hm => ?_
  exact mountChild_iff k p (wf_nonempty hwf (List.mem_map.mpr ⟨(p, st), hm, rfl⟩)) nm

theorem mem_insertName (a x : Str) (l : List Str) : x ∈ Mt.insertName a l ↔ x = a ∨ x ∈ l := by
  induction l with
  | nil => simp [Mt.insertName]
  | cons b l ih =>
    unfold Mt.insertName
    split
    · simp
    · simp only [List.mem_cons, ih, or_left_comm]

theorem nodup_insertName (a : Str) (l : List Str) (ha : a ∉ l) (hl : l.Nodup) : (Mt.insertName a l).Nodup := by
  induction l with
  | nil => simp [Mt.insertName]
  | cons b l ih =>
    unfold Mt.insertName
    obtain ⟨hb, hl'⟩ := List.nodup_cons.mp hl
    split
    · exact List.nodup_cons.mpr ⟨ha, hl⟩
    · refine List.nodup_cons.mpr ⟨?_, ih (fun h => ha (List.mem_cons_of_mem _ h)) hl'⟩
      rw [mem_insertName]
      rintro (e | e)
      · exact ha (e ▸ List.mem_cons_self)
      · exact hb e

/-- `sorted(set(l))` has the elements of `l`, once each -/
theorem sortNames_spec (l : List Str) : (Mt.sortNames l.eraseDups).Nodup ∧ ∀ nm, nm ∈ Mt.sortNames l.eraseDups ↔ nm ∈ l := by
  have key : ∀ l : List Str, l.Nodup → (Mt.sortNames l).Nodup ∧ ∀ nm, nm ∈ Mt.sortNames l ↔ nm ∈ l := by
    intro l hl
    unfold Mt.sortNames
    induction l with
    | nil => simp
    | cons a l ih =>
      obtain ⟨ha, hl'⟩ := List.nodup_cons.mp hl
      obtain ⟨h1, h2⟩ := ih hl'
      rw [List.foldr_cons]
      exact ⟨nodup_insertName a _ (fun h => ha ((h2 a).mp h)) h1, fun nm => by rw [mem_insertName, h2, List.mem_cons]⟩
  obtain ⟨h1, h2⟩ := key l.eraseDups (nodup_eraseDups' l)
  exact ⟨h1, fun nm => by rw [h2, List.mem_eraseDups]⟩

theorem mount_listdir (supp : σ → Key → Bool) (s : MtState σ) (hwf : tableWF (s.2.map (·.1)) = true) (k : Key)
    (base : List Str) (hb : Mt.listBase P supp s k = .ok base) :
    ∃ l, (mountOps P supp).listdir s k = .ok (some l) ∧ l.Nodup ∧
      ∀ nm, nm ∈ l ↔ nm ∈ base ∨ ∃ p st, (p, st) ∈ s.2 ∧ (k ++ [nm]) <+: p := by
  obtain ⟨h1, h2⟩ := sortNames_spec (base ++ s.2.filterMap (fun e => Mt.mountChild k e.1))
  refine ⟨_, ?_, h1, fun nm => by rw [h2, List.mem_append, mem_mountChildren s.2 hwf]⟩
  show (Mt.listdirL P supp s k).map some = _
  unfold Mt.listdirL
  rw [hb]
  rfl

theorem listBase_default (s : MtState σ) (k : Key) (hn : NoMount s.2 k) {d : σ} (hd : s.1 = some d) :
    Mt.listBase P T s k = (P.listdir d k).map (fun o => o.getD []) := by
  unfold Mt.listBase
  rw [route_T_default s hn, hd]
  simp only [Option.isSome_some, ↓reduceIte, Mt.readAt, hd]

theorem listBase_noroute (s : MtState σ) (k : Key) (hn : NoMount s.2 k) (hd : s.1 = none) :
    Mt.listBase P T s k = .ok [] := by
  unfold Mt.listBase
  rw [route_T_default s hn, hd]
  rfl

section keys
variable (K : σ → List Key)

/-- what the store mounted at `p` adds to `keys()`: its keys re-prefixed, without its root and without what lies
under a prefix yielded earlier -/
def hereK (seen : List Key) (p : Key) (st : σ) : List Key :=
  ((K st).map (Pfx.inverse p)).filter (fun k => !(seen.any (fun q => q.isPrefixOf k)) && (p.isPrefixOf k && k != p))

/-- the mounted part of `keys()` when every part lists its keys as `K st` -/
def outK : List (Key × σ) → List Key → List Key
  | [], _ => []
  | (p, st) :: rest, seen => p :: hereK K seen p st ++ outK rest (seen ++ [p])

theorem keysMounts_eq (hK : ∀ st, P.keys st = .ok (K st)) (l : List (Key × σ)) (seen : List Key) :
    Mt.keysMounts P l seen = .ok (outK K l seen) := by
  induction l generalizing seen with
  | nil => rfl
  | cons e rest ih =>
    obtain ⟨p, st⟩ := e
    simp only [Mt.keysMounts, prefixOps, hK, Except.map, ih, outK, hereK]

theorem mem_here (seen : List Key) (p : Key) (st : σ) (x : Key) :
    x ∈ hereK K seen p st ↔ ∃ kk, kk ∈ K st ∧ x = p ++ kk ∧ kk ≠ [] ∧ ∀ q, q ∈ seen → ¬ q <+: x := by
  simp only [hereK, List.mem_filter, List.mem_map, Bool.and_eq_true, Bool.not_eq_true', List.any_eq_false,
    List.isPrefixOf_iff_prefix, bne_iff_ne, ne_eq]
  constructor
  · rintro ⟨⟨kk, hkk, rfl⟩, hseen, _, hne⟩
    exact ⟨kk, hkk, rfl, fun e => hne (by simp [Pfx.inverse, e]), hseen⟩
  · rintro ⟨kk, h1, rfl, h3, h4⟩
    exact ⟨⟨kk, h1, rfl⟩, h4, List.prefix_append _ _, fun e => h3 (List.append_cancel_left (e.trans (List.append_nil p).symm))⟩

theorem outK_append (l1 l2 : List (Key × σ)) (seen : List Key) :
    outK K (l1 ++ l2) seen = outK K l1 seen ++ outK K l2 (seen ++ l1.map (·.1)) := by
  induction l1 generalizing seen with
  | nil => simp [outK]
  | cons e rest ih =>
    obtain ⟨p, st⟩ := e
    simp [outK, ih, List.append_assoc]

/-- `keys()` walks the table from the entry mounted last, as `route_to` does: a key of a mounted store is listed iff
the key it gets in the composite is routed to that store -/
theorem mem_outK (tbl : List (Key × σ)) (seen : List Key) (x : Key) :
    x ∈ outK K tbl.reverse seen ↔
      (∃ p st, (p, st) ∈ tbl ∧ x = p) ∨
      ∃ i p st kk, tbl[i]? = some (p, st) ∧ kk ∈ K st ∧ kk ≠ [] ∧ x = p ++ kk ∧ Mt.routeIdx T tbl x = some i ∧
        ∀ q, q ∈ seen → ¬ q <+: x := by
  induction tbl with
  | nil => simp only [List.reverse_nil, outK, List.not_mem_nil, false_and, exists_false, List.getElem?_nil, reduceCtorEq,
      or_self]
  | cons e rest ih =>
    obtain ⟨p0, st0⟩ := e
    rw [List.reverse_cons, outK_append, List.mem_append, ih, outK, outK, List.append_nil, List.mem_cons, mem_here]
    constructor
    · rintro ((⟨p, st, hm, rfl⟩ | ⟨i, p, st, kk, hi, h1, h2, rfl, hr, hs⟩) | rfl | ⟨kk, h1, rfl, h2, hs⟩)
      · exact Or.inl ⟨x, st, List.mem_cons_of_mem _ hm, rfl⟩
      · exact Or.inr ⟨i + 1, p, st, kk, hi, h1, h2, rfl, routeIdx_cons_some p0 st0 hr, hs⟩
      · exact Or.inl ⟨x, st0, List.mem_cons_self, rfl⟩
      · -- nothing mounted later is on the path, so the route is this entry
        have hn : Mt.routeIdx T rest (p0 ++ kk) = none := (routeIdx_T_none rest _).mpr fun q st' hm =>
          hs q (List.mem_append_right _ (List.mem_map.mpr ⟨(q, st'), List.mem_reverse.mpr hm, rfl⟩))
        refine Or.inr ⟨0, p0, st0, kk, rfl, h1, h2, rfl, ?_, fun q hq => hs q (List.mem_append_left _ hq)⟩
        rw [routeIdx_cons_none p0 st0 hn, (hit_T p0 st0 _).mpr (List.prefix_append _ _)]
        rfl
    · rintro (⟨p, st, hm, rfl⟩ | ⟨i, p, st, kk, hi, h1, h2, rfl, hr, hs⟩)
      · rcases List.mem_cons.mp hm with e | e
        · cases e; exact Or.inr (Or.inl rfl)
        · exact Or.inl (Or.inl ⟨x, st, e, rfl⟩)
      · cases hn : Mt.routeIdx T rest (p ++ kk) with
        | some i0 =>
          rw [routeIdx_cons_some p0 st0 hn] at hr
          cases hr
          exact Or.inl (Or.inr ⟨i0, p, st, kk, hi, h1, h2, rfl, rfl, hs⟩)
        | none =>
          rw [routeIdx_cons_none p0 st0 hn] at hr
          have hi0 : i = 0 := by
            split at hr <;> cases hr
            rfl
          subst hi0
          cases hi
          refine Or.inr (Or.inr ⟨kk, h1, rfl, h2, fun q hq => ?_⟩)
          rcases List.mem_append.mp hq with hq | hq
          · exact hs q hq
          · obtain ⟨⟨q', st'⟩, hm, rfl⟩ := List.mem_map.mp hq
            exact (routeIdx_T_none rest _).mp hn q' st' (List.mem_reverse.mp hm)

theorem any_prefix_false (tbl : List (Key × σ)) (x : Key) :
    tbl.any (fun e => e.1.isPrefixOf x) = false ↔ NoMount tbl x := by
  simp only [NoMount, List.any_eq_false, List.isPrefixOf_iff_prefix, Prod.forall]

/-- what `keys()` lists from the stores (fix D7a): the walk over the mounts, then the default store's keys with no mount on the path -/
def listedK (s : MtState σ) : List Key :=
  outK K s.2.reverse [] ++ match s.1 with
    | none => []
    | some d => (K d).filter (fun k => !(s.2.any (fun e => e.1.isPrefixOf k)))

theorem keysListed_eq (hK : ∀ st, P.keys st = .ok (K st)) (s : MtState σ) : Mt.keysListed P s = .ok (listedK K s) := by
  unfold Mt.keysListed listedK
  rw [keysMounts_eq P K hK]
  cases s.1 with
  | none => exact congrArg Except.ok (List.append_nil _).symm
  | some d => simp only [hK]

/-- the mount points, the keys of every mounted store re-prefixed where that store is the innermost mount on the path,
and the default store's keys with no mount on the path -/
theorem mem_listedK (s : MtState σ) (hwf : tableWF (s.2.map (·.1)) = true) (x : Key) :
    x ∈ listedK K s ↔
      ((∃ p st, (p, st) ∈ s.2 ∧ x = p) ∨
       (∃ i p st kk, s.2[i]? = some (p, st) ∧ kk ∈ K st ∧ kk ≠ [] ∧ x = p ++ kk ∧ Owns s.2 i x) ∨
       (∃ d, s.1 = some d ∧ x ∈ K d ∧ NoMount s.2 x)) := by
  unfold listedK
  rw [List.mem_append, mem_outK, or_assoc]
  simp only [routeIdx_T_some s.2 hwf, List.not_mem_nil, false_imp_iff, implies_true, and_true]
  refine or_congr_right (or_congr_right ?_)
  cases s.1 with
  | none => simp only [List.not_mem_nil, reduceCtorEq, false_and, exists_false]
  | some d =>
    rw [List.mem_filter, Bool.not_eq_true', any_prefix_false]
    simp only [Option.some.injEq, exists_eq_left']

theorem outK_prefix (l : List (Key × σ)) (seen : List Key) (x : Key) (h : x ∈ outK K l seen) :
    ∃ p st, (p, st) ∈ l ∧ p <+: x ∧ (x = p ∨ ∀ q, q ∈ seen → ¬ q <+: x) := by
  induction l generalizing seen with
  | nil => cases h
  | cons e rest ih =>
    obtain ⟨p0, st0⟩ := e
    rw [outK, List.mem_append, List.mem_cons, mem_here] at h
    rcases h with (rfl | ⟨kk, _, rfl, _, hs⟩) | h
    · exact ⟨x, st0, List.mem_cons_self, List.prefix_refl _, Or.inl rfl⟩
    · exact ⟨p0, st0, List.mem_cons_self, List.prefix_append _ _, Or.inr hs⟩
    · obtain ⟨p, st, hm, hp, hx⟩ := ih _ h
      exact ⟨p, st, List.mem_cons_of_mem _ hm, hp, hx.imp_right fun hs q hq => hs q (List.mem_append_left _ hq)⟩

theorem nodup_outK (l : List (Key × σ)) (hKn : ∀ e, e ∈ l → (K e.2).Nodup) (seen : List Key)
    (hp : l.Pairwise (fun e1 e2 => ¬ e1.1 <+: e2.1)) : (outK K l seen).Nodup := by
  induction l generalizing seen with
  | nil => exact List.Pairwise.nil
  | cons e rest ih =>
    obtain ⟨p, st⟩ := e
    obtain ⟨hhead, htail⟩ := List.pairwise_cons.mp hp
    rw [outK]
    refine List.nodup_append.mpr ⟨?_, ih (fun e he => hKn e (List.mem_cons_of_mem _ he)) _ htail, ?_⟩
    · refine List.nodup_cons.mpr ⟨fun hm => ?_, ?_⟩
      · obtain ⟨kk, _, h2, h3, _⟩ := (mem_here K seen p st p).mp hm
        exact h3 (List.append_cancel_left (h2.symm.trans (List.append_nil p).symm))
      · exact List.Pairwise.filter _ (List.Pairwise.map (Pfx.inverse p)
          (fun a b hab e => hab (List.append_cancel_left e)) (hKn (p, st) List.mem_cons_self))
    · -- what this entry yields lies below `p`; what the rest yields does not, or is a prefix mounted earlier
      intro x hx y hy e
      subst e
      have hpx : p <+: x := by
        rcases List.mem_cons.mp hx with e | e
        · exact e ▸ List.prefix_refl _
        · obtain ⟨kk, _, h2, _, _⟩ := (mem_here K seen p st x).mp e
          exact h2 ▸ List.prefix_append _ _
      obtain ⟨p', st', hm, _, hcase⟩ := outK_prefix K rest (seen ++ [p]) x hy
      rcases hcase with h | h
      · exact hhead (p', st') hm (h ▸ hpx)
      · exact h p (List.mem_append_right _ List.mem_cons_self) hpx

theorem nodup_listedK (s : MtState σ) (hKn : ∀ e, e ∈ s.2 → (K e.2).Nodup) (hKd : ∀ d, s.1 = some d → (K d).Nodup)
    (hwf : tableWF (s.2.map (·.1)) = true) : (listedK K s).Nodup := by
  have hno := nodup_outK K s.2.reverse (fun e he => hKn e (List.mem_reverse.mp he)) []
    (List.pairwise_reverse.mpr (tableWF_pairwise s.2 hwf))
  unfold listedK
  cases hd : s.1 with
  | none => rw [List.append_nil]; exact hno
  | some d =>
    refine List.nodup_append.mpr ⟨hno, List.Pairwise.filter _ (hKd d hd), ?_⟩
    -- a key the walk yields has a mount on its path, a listed default key has none
    intro x hx y hy e
    subst e
    obtain ⟨p, st, hm, hpx, _⟩ := outK_prefix K s.2.reverse [] x hx
    rw [List.mem_filter, Bool.not_eq_true', any_prefix_false] at hy
    exact hy.2 p st (List.mem_reverse.mp hm) hpx

theorem mem_mountParents (tbl : List (Key × σ)) (a : Key) :
    a ∈ Mt.mountParents tbl ↔ a ≠ [] ∧ ∃ p st, (p, st) ∈ tbl ∧ a <+: p ∧ a ≠ p := by
  have hanc : ∀ p : Key, (List.range p.length).filterMap (fun i => if i = 0 then none else some (p.take i)) = ancestors p :=
    fun p => congrArg (List.filterMap · _) (funext fun i => by by_cases h : i = 0 <;> simp [h])
  unfold Mt.mountParents
  simp only [List.mem_eraseDups, List.mem_flatMap, hanc, mem_ancestors, Prod.exists]
  exact ⟨fun ⟨p, st, hm, h1, h2, h3⟩ => ⟨h1, p, st, hm, h2, h3⟩, fun ⟨h1, p, st, hm, h2, h3⟩ => ⟨p, st, hm, h1, h2, h3⟩⟩

end keys

end Liquer.MtL
