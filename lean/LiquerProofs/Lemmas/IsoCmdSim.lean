/-
C10: agreement of a heap state with a value-level state, and the simulation of one command: `cmdH` does on the heap what
`cmdV` does on values (`cmdH_sim`) when the input state owns distinct cells that the arguments (for `cvapp`: the context's
variables) do not share.  All commands but `let` leave the dictionary cell of the state as it is (`CmdSim.keep`).
-/
import LiquerProofs.Lemmas.IsoRef
import LiquerProofs.Lemmas.IsoCmd

namespace Liquer.Iso

structure Agrees (h : Heap) (st : HState) (r : RState) : Prop where
  data : absHV h st.data = r.data
  vars : absVars h (h.metaAt st.md).vars = r.vars
  volatile : (h.metaAt st.md).volatile = r.volatile
  caching : (h.metaAt st.md).caching = r.caching
  /-- not an agreement: the dictionary has distinct names, so that updating a variable's object is an assignment -/
  keys : ((h.metaAt st.md).vars.map Prod.fst).Nodup

theorem Agrees.congr {h h' : Heap} {st : HState} {r : RState} (a : Agrees h st r)
    (e : ∀ x ∈ cellsState h st, h'.cells x = h.cells x) : Agrees h' st r := by
  have emd : h'.metaAt st.md = h.metaAt st.md := Heap.metaAt_congr (e _ (md_mem_cellsState h st))
  refine ⟨(absHV_congr (fun x hx => e x (data_mem_cellsState hx))).trans a.data, ?_, emd ▸ a.volatile, emd ▸ a.caching,
    emd ▸ a.keys⟩
  rw [emd]
  exact (absVars_congr (fun x hx => e x (vars_mem_cellsState hx))).trans a.vars

theorem nodup_cellsState {h : Heap} {st : HState} (nd : (cellsState h st).Nodup) :
    st.md ∉ cellsHV st.data ∧ st.md ∉ cellsVars (h.metaAt st.md).vars ∧ (cellsVars (h.metaAt st.md).vars).Nodup ∧
      ∀ a ∈ cellsHV st.data, a ∉ cellsVars (h.metaAt st.md).vars := by
  rw [cellsState, cellsMeta, List.nodup_append, List.nodup_cons] at nd
  obtain ⟨-, ⟨h1, h2⟩, h3⟩ := nd
  exact ⟨fun hx => h3 _ hx _ List.mem_cons_self rfl, h1, h2, fun a ha hx => h3 a ha a (List.mem_cons_of_mem _ hx) rfl⟩

theorem cellsState_nodup_of {h : Heap} {d : HV} {md : Addr} (h1 : md ∉ cellsHV d)
    (h2 : md ∉ cellsVars (h.metaAt md).vars) (h3 : (cellsVars (h.metaAt md).vars).Nodup)
    (h4 : ∀ a ∈ cellsHV d, a ∉ cellsVars (h.metaAt md).vars) : (cellsState h ⟨d, md⟩).Nodup := by
  rw [cellsState, cellsMeta, List.nodup_append, List.nodup_cons]
  exact ⟨nodup_cellsHV d, ⟨h2, h3⟩, fun a ha b hb e => (List.mem_cons.1 hb).elim (fun hb => h1 ((show b = md from hb) ▸ e ▸ ha))
    (fun hb => h4 a ha (e ▸ hb))⟩

/-- the outcome of a command on the heap, in terms of the command on values -/
structure CmdSim (h : Heap) (old : HState) (name : String) (rp : RState) (h4 : Heap) (data : HV) (vol caching : Bool)
    (r' : RState) : Prop where
  hdata : absHV h4 data = r'.data
  hvars : absVars h4 (h4.metaAt old.md).vars = r'.vars
  hvol : r'.volatile = (rp.volatile || vol)
  hcach : r'.caching = (rp.caching && caching)
  mcach : (h4.metaAt old.md).caching = (h.metaAt old.md).caching
  keys : ((h4.metaAt old.md).vars.map Prod.fst).Nodup
  /-- `getvar` hands out a variable's own object as data: its result owns that cell twice -/
  nodup : name ≠ "getvar" → (cellsState h4 ⟨data, old.md⟩).Nodup
  mdfree : old.md ∉ cellsHV data ∧ old.md ∉ cellsVars (h4.metaAt old.md).vars

section
variable {h : Heap} {old : HState} {name : String} {rp : RState} (ag : Agrees h old rp) (nd : (cellsState h old).Nodup)
include ag nd

/-- the command leaves the dictionary cell of the state as it is -/
theorem CmdSim.keep {h4 : Heap} {d : HV} {vol caching : Bool} {r' : RState} (hm : h4.metaAt old.md = h.metaAt old.md)
    (e1 : absHV h4 d = r'.data) (e2 : absVars h4 (h.metaAt old.md).vars = r'.vars)
    (e3 : r'.volatile = (rp.volatile || vol)) (e4 : r'.caching = (rp.caching && caching))
    (e5 : name ≠ "getvar" → (cellsState h4 ⟨d, old.md⟩).Nodup) (e6 : old.md ∉ cellsHV d) :
    CmdSim h old name rp h4 d vol caching r' :=
  ⟨e1, hm ▸ e2, e3, e4, hm ▸ rfl, hm ▸ ag.keys, e5, e6, hm ▸ (nodup_cellsState nd).2.1⟩

theorem CmdSim.alloc (lt : ∀ a ∈ cellsState h old, a < h.next) {x : Val} {r' : RState} (e1 : x = r'.data)
    (e2 : r'.vars = rp.vars) (e3 : r'.volatile = rp.volatile) (e4 : r'.caching = rp.caching) :
    CmdSim h old name rp (h.alloc (.val x)).1 (.ref h.next) false true r' := by
  obtain ⟨-, n2, n3, -⟩ := nodup_cellsState nd
  have mdlt := lt _ (md_mem_cellsState h old)
  have hm : (h.alloc (.val x)).1.metaAt old.md = h.metaAt old.md := (HExt.alloc h _).metaAt mdlt
  have mdne : old.md ∉ cellsHV (.ref h.next) := fun hx => Nat.ne_of_lt mdlt (HV.ref.inj (mem_cellsHV.1 hx)).symm
  refine CmdSim.keep ag nd hm ((Heap.valAt_alloc_same h x).trans e1) ?_ (by rw [e3, Bool.or_false]) (by rw [e4, Bool.and_true])
    (fun _ => cellsState_nodup_of mdne (hm ▸ n2) (hm ▸ n3) (fun a ha hx => ?_)) mdne
  · rw [e2, ← ag.vars]
    exact absVars_congr (fun a ha => (HExt.alloc h _).frame a (lt a (vars_mem_cellsState ha)))
  · cases mem_cellsHV.1 ha
    exact Nat.lt_irrefl _ (lt _ (vars_mem_cellsState (hm ▸ hx)))

theorem CmdSim.write {a : Addr} {x y : Val} {r' : RState} (hcell : h.cells a = some (.val x))
    (e1 : absHV (h.write a (.val y)) old.data = r'.data) (e2 : absVars (h.write a (.val y)) (h.metaAt old.md).vars = r'.vars)
    (e3 : r'.volatile = rp.volatile) (e4 : r'.caching = rp.caching) :
    CmdSim h old name rp (h.write a (.val y)) old.data false true r' :=
  CmdSim.keep ag nd (metaAt_overwrite_val hcell y _) e1 e2 (by rw [e3, Bool.or_false]) (by rw [e4, Bool.and_true])
    (fun _ => (cellsState_write_val hcell y old).symm ▸ nd) (nodup_cellsState nd).1

theorem CmdSim.same {vol caching : Bool} {r' : RState} (e1 : r'.data = rp.data) (e2 : r'.vars = rp.vars)
    (e3 : r'.volatile = (rp.volatile || vol)) (e4 : r'.caching = (rp.caching && caching)) :
    CmdSim h old name rp h old.data vol caching r' :=
  CmdSim.keep ag nd rfl (ag.data.trans e1.symm) (ag.vars.trans e2.symm) e3 e4 (fun _ => nd) (nodup_cellsState nd).1

end

theorem cmdH_sim {h : Heap} {old : HState} {ctx : List (Str × HV)} {name : String} {args : List HV} {h4 : Heap} {data : HV}
    {vol caching : Bool} {rp : RState} (hc : cmdH h old ctx name args = .ok h4 data vol caching)
    (lt : ∀ a ∈ cellsState h old, a < h.next) (ag : Agrees h old rp)
    (nd : (cellsState h old).Nodup) (dj : ∀ a ∈ cellsState h old, ∀ v ∈ args, a ∉ cellsHV v)
    (hctx : absVars h ctx = rp.vars) (cj : name = "cvapp" → ∀ a ∈ cellsVars ctx, a ∉ cellsState h old) :
    ∃ r', cmdV rp name (args.map (absHV h)) = some r' ∧ CmdSim h old name rp h4 data vol caching r' := by
  obtain ⟨n1, n2, n3, n4⟩ := nodup_cellsState nd
  have or_f := (Bool.or_false rp.volatile).symm
  have and_t := (Bool.and_true rp.caching).symm
  -- the list object of the data is not one of the variables' objects
  have dataList : ∀ {a l}, listAt h old.data = some (a, l) →
      old.data = .ref a ∧ rp.data = .list l ∧ a ∉ cellsVars (h.metaAt old.md).vars := fun hl =>
    ⟨(listAt_some hl).1, ag.data.symm.trans (listAt_valAt hl), n4 _ (mem_cellsHV.2 (listAt_some hl).1)⟩
  revert dj cj hc
  fun_cases cmdH h old ctx name args <;> intro hc dj cj <;> cases hc
  · -- one
    exact ⟨{ rp with data := .int 1 }, by rw [List.map_nil, cmdV],
      CmdSim.keep ag nd rfl rfl ag.vars or_f and_t (fun _ => cellsState_nodup_of (fun h => nomatch h) n2 n3 (fun _ h => nomatch h))
        (fun h => nomatch h)⟩
  · -- mk
    next a' hh =>
      cases hh
      exact ⟨{ rp with data := .list (args.map (absHV h)) }, by rw [cmdV], CmdSim.alloc ag nd lt rfl rfl rfl rfl⟩
  · -- app
    next v a l hl =>
      obtain ⟨hda, hrd, aV⟩ := dataList hl
      refine ⟨{ rp with data := .list (l ++ [absHV h v]) }, by rw [List.map_cons, List.map_nil, cmdV, hrd], ?_⟩
      refine CmdSim.write ag nd (listAt_some hl).2 ?_ ((absVars_write_notin aV _).trans ag.vars) rfl rfl
      rw [hda]; exact Heap.valAt_write_same _ _ _
  · -- ident
    exact ⟨rp, by rw [List.map_nil, cmdV], CmdSim.same ag nd rfl rfl or_f and_t⟩
  · -- copyl
    next a l hl a' hh =>
      cases hh
      exact ⟨rp, by rw [List.map_nil, cmdV, (dataList hl).2.1], CmdSim.alloc ag nd lt (dataList hl).2.1.symm rfl rfl rfl⟩
  · -- ext: the argument's object is not the data object, so the second write leaves the first alone
    next o a l b lo hlo hl _ _ =>
      obtain ⟨hda, hrd, aV⟩ := dataList hl
      obtain ⟨hob, hcellb⟩ := listAt_some hlo
      have bold : b ∉ cellsState h old := fun hx => dj b hx o (List.mem_singleton.2 rfl) (mem_cellsHV.2 hob)
      have ba : b ≠ a := fun e => bold (data_mem_cellsState (mem_cellsHV.2 (e ▸ hda)))
      obtain ⟨xb, hxb⟩ := isVal_write_val (a := a) hcellb (.list (l ++ lo))
      have hm : ∀ z, ((h.write a (.val (.list (l ++ lo)))).write b (.val z)).metaAt old.md = h.metaAt old.md := fun z =>
        (metaAt_overwrite_val hxb z _).trans (metaAt_overwrite_val (listAt_some hl).2 _ _)
      refine ⟨{ rp with data := .list (l ++ lo) }, by simp only [List.map_cons, List.map_nil, cmdV, hrd, listAt_valAt hlo], ?_⟩
      refine CmdSim.keep ag nd (hm _) ?_ ?_ or_f and_t (fun _ => ?_) n1
      · rw [hda, absHV, Heap.valAt_write_ne _ _ (Ne.symm ba)]; exact Heap.valAt_write_same _ _ _
      · rw [absVars_write_notin (fun hx => bold (vars_mem_cellsState hx)), absVars_write_notin aV]; exact ag.vars
      · rw [cellsState_write_val hxb, cellsState_write_val (listAt_some hl).2]; exact nd
  · -- pair
    next o a' hh =>
      cases hh
      exact ⟨{ rp with data := .list [rp.data, absHV h o] }, by rw [List.map_cons, List.map_nil, cmdV],
        CmdSim.alloc ag nd lt (by rw [ag.data]) rfl rfl rfl⟩
  · -- let: the dictionary cell gets the updated variables
    next m k v k' hk =>
      dsimp only [m]
      cases strOf_some hk
      have vold : ∀ a ∈ cellsHV v, a ∉ cellsState h old := fun a ha hx => dj a hx v (List.mem_cons_of_mem _ (List.mem_singleton.2 rfl)) ha
      have mdsv : old.md ∉ cellsVars (setVar (h.metaAt old.md).vars k' v) := fun hx =>
        (mem_cellsVars_setVar hx).elim n2 (fun h1 => vold _ h1 (md_mem_cellsState _ _))
      refine ⟨{ rp with vars := setVarV rp.vars k' (absHV h v) }, by rw [List.map_cons, List.map_cons, List.map_nil, absHV, cmdV], ?_⟩
      have hm := Heap.metaAt_write_same h old.md { h.metaAt old.md with vars := setVar (h.metaAt old.md).vars k' v }
      refine ⟨(absHV_write_notin n1 _).trans ag.data, ?_, or_f, and_t, by rw [hm], ?_, fun _ => ?_, n1, by rw [hm]; exact mdsv⟩
      · rw [hm, absVars_write_notin mdsv, setVarV_abs, ag.vars]
      · rw [hm]; exact setKV_keys_nodup ag.keys _ _
      · refine cellsState_nodup_of n1 (by rw [hm]; exact mdsv) ?_ (fun a ha hx => ?_)
        · rw [hm]
          exact cellsVars_setVar_nodup ag.keys n3 (fun a ha hx => vold a ha (vars_mem_cellsState hx))
        · rw [hm] at hx
          exact (mem_cellsVars_setVar hx).elim (n4 a ha) (fun h1 => vold a h1 (data_mem_cellsState ha))
  · -- getvar: the data is the variable's own object
    next m k k' hk =>
      dsimp only [m]
      cases strOf_some hk
      refine ⟨{ rp with data := (getVarV rp.vars k').getD .none }, by rw [List.map_cons, List.map_nil, absHV, cmdV], ?_⟩
      refine CmdSim.keep ag nd rfl ?_ ag.vars or_f and_t (fun hne => absurd rfl hne) (fun hx => n2 (mem_cellsHV_getVar hx))
      show _ = (getVarV rp.vars k').getD .none
      rw [← ag.vars, getVarV_abs]
      cases getVar (h.metaAt old.md).vars k' <;> rfl
  · -- vapp: updating the variable's object in place is assigning the new list to the variable
    next m k v k' hk a l hl =>
      dsimp only [m] at hl
      cases strOf_some hk
      obtain ⟨hg, hin, hcell⟩ := getVar_listAt hl
      have hgv : getVarV rp.vars k' = some (.list l) := by
        rw [← ag.vars, getVarV_abs, hg, Option.map_some, absHV, Heap.valAt_eq, hcell]
      refine ⟨{ rp with vars := setVarV rp.vars k' (.list (l ++ [absHV h v])) },
        by rw [List.map_cons, List.map_cons, List.map_nil, absHV, cmdV, hgv], ?_⟩
      exact CmdSim.write ag nd hcell ((absHV_write_notin (fun hx => n4 a hx hin) _).trans ag.data)
        ((absVars_write_var _ ag.keys n3 hg).trans (by rw [ag.vars])) rfl rfl
  · -- cvapp: the write hits an object of the context, not of the state in hand
    next k v k' hk a l hl =>
      cases strOf_some hk
      obtain ⟨hg, hin, hcell⟩ := getVar_listAt hl
      have hgv : getVarV rp.vars k' = some (.list l) := by
        rw [← hctx, getVarV_abs, hg, Option.map_some, absHV, Heap.valAt_eq, hcell]
      have aold : a ∉ cellsState h old := cj rfl a hin
      refine ⟨rp, by rw [List.map_cons, List.map_cons, List.map_nil, absHV, cmdV, hgv], ?_⟩
      exact CmdSim.write ag nd hcell ((absHV_write_notin (fun hx => aold (data_mem_cellsState hx)) _).trans ag.data)
        ((absVars_write_notin (fun hx => aold (vars_mem_cellsState hx)) _).trans ag.vars) rfl rfl
  · -- vol
    exact ⟨{ rp with volatile := true }, by rw [List.map_nil, cmdV], CmdSim.same ag nd rfl rfl (Bool.or_true _).symm and_t⟩
  · -- nocache
    exact ⟨{ rp with caching := false }, by rw [List.map_nil, cmdV], CmdSim.same ag nd rfl rfl or_f (Bool.and_false _).symm⟩

end Liquer.Iso
