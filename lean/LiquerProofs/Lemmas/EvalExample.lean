/-
Concrete instances of the hypotheses of the evaluator theorems, shared by the non-vacuity examples of the
property files: the real vocabulary, and as hand-built ASTs the family `C0`
  `one`, `/one`, `one/add-2`, `one/add-~X~/one~E`   (the last with an absolute link argument)
and the chain `C1`: `one`, `one/add-2`, `one/add-2/add-1`.  Closure and `CanonOK` are *proved* for both
(`CanonOK` from well-formedness, which the kernel evaluates).
-/
import LiquerProofs.Lemmas.EvalDec
import LiquerProofs.Lemmas.EvalCanon
import LiquerProofs.Lemmas.Text
import LiquerModel.Text

namespace Liquer.Ex

def env0 : Env := { reg := Gen.registry, defaults := [], dec := decUtf8 }

def aOne (pos : Nat) : Action := .mk (s "one") [] pos
def qOne : Query := .mk [.transform none [aOne 0] none] false
def qAbsOne : Query := .mk [.transform none [aOne 1] none] true
def aAdd2 : Action := .mk (s "add") [.str (s "2") 8] 4
def aAddLink : Action := .mk (s "add") [.link qAbsOne 8] 4
def qOneAdd : Query := .mk [.transform none [aOne 0, aAdd2] none] false
def qLink : Query := .mk [.transform none [aOne 0, aAddLink] none] false
/-- `one/boom/add-2`: the second step raises -/
def qBoom : Query := .mk [.transform none [aOne 0, .mk (s "boom") [] 4, .mk (s "add") [.str (s "2") 13] 9] none] false

/-- `one/boom`: the last step raises -/
def qOneBoom : Query := .mk [.transform none [aOne 0, .mk (s "boom") [] 4] none] false

theorem keys : qOne.encode Gen.escapeTable = s "one" ∧ qAbsOne.encode Gen.escapeTable = s "/one" ∧
    qOneAdd.encode Gen.escapeTable = s "one/add-2" ∧ qLink.encode Gen.escapeTable = s "one/add-~X~/one~E" := by
  decide +kernel

def C0 (q : Query) : Prop := q = qLink ∨ q = qOneAdd ∨ q = qOne ∨ q = qAbsOne
def T0 (_ : Str) : Prop := False

theorem closed0 : Closed env0 C0 T0 where
  pred := by
    rintro q p r (rfl | rfl | rfl | rfl) hp hpe <;> cases hp
    · exact .inr (.inr (.inl rfl))
    · exact .inr (.inr (.inl rfl))
    · cases hpe
    · cases hpe
  act := by
    rintro q p h a (rfl | rfl | rfl | rfl) hp <;> cases hp
    · refine ⟨fun lq pos hm => ?_, SubIn.of_name _ _ (by decide)⟩
      simp [aAddLink, Action.params] at hm
      obtain ⟨rfl, rfl⟩ := hm
      exact ⟨fun _ => Or.inr (Or.inr (Or.inr rfl)), fun hc => by simp [qAbsOne, Query.absolute] at hc⟩
    all_goals exact plain_act _ _ _ _ (by decide)
  text := fun _ _ h => h.elim

theorem wf0 : ∀ q, C0 q → wfTop Gen.escapeTable q = true := by
  intro q hq
  rcases hq with rfl | rfl | rfl | rfl <;> decide +kernel

theorem canon0 : ∀ q, C0 q → CanonOK env0 q :=
  fun q hq => Canon.canonOK_of_wf env0 decUtf8_ok q (wf0 q hq)

def aAdd1 : Action := .mk (s "add") [.str (s "1") 14] 10
def qOneAddAdd : Query := .mk [.transform none [aOne 0, aAdd2, aAdd1] none] false

theorem key2 : qOneAddAdd.encode Gen.escapeTable = s "one/add-2/add-1" := by decide +kernel

def C1 (q : Query) : Prop := q = qOneAddAdd ∨ q = qOneAdd ∨ q = qOne

theorem closed1 : Closed env0 C1 T0 where
  pred := by
    rintro q p r (rfl | rfl | rfl) hp hpe <;> cases hp
    · exact .inr (.inl rfl)
    · exact .inr (.inr rfl)
    · cases hpe
  act := by
    rintro q p h a (rfl | rfl | rfl) hp <;> cases hp <;> exact plain_act _ _ _ _ (by decide)
  text := fun _ _ h => h.elim

theorem wf1 : ∀ q, C1 q → wfTop Gen.escapeTable q = true := by
  intro q hq
  rcases hq with rfl | rfl | rfl <;> decide +kernel

theorem canon1 : ∀ q, C1 q → CanonOK env0 q :=
  fun q hq => Canon.canonOK_of_wf env0 decUtf8_ok q (wf1 q hq)

end Liquer.Ex
