/-
C10: the value-level meaning `refChain`: its equations, monotonicity in the fuel, what a command on values can change
(`cmdV_spec`), what every step keeps holds of the meaning (`refChain_invariant`), and variable scope on the meaning.
-/
import LiquerProofs.Lemmas.IsoVars

namespace Liquer.Iso

def predRef (dflt : List (Str × Val)) (n : Nat) (acts : List Act) : Option RState :=
  if acts.dropLast.isEmpty then some { vars := dflt } else refChain dflt n acts.dropLast

theorem refChain_zero (d : List (Str × Val)) (acts : List Act) : refChain d 0 acts = none := by rw [refChain]

theorem refChain_nil {d : List (Str × Val)} {n : Nat} {acts : List Act} (hl : acts.getLast? = none) :
    refChain d (n + 1) acts = some { vars := d } := by
  rw [refChain, hl]

theorem refChain_succ {d : List (Str × Val)} {n : Nat} {acts : List Act} {act : Act} (hl : acts.getLast? = some act) :
    refChain d (n + 1) acts =
      (predRef d n acts).bind (fun pred =>
        (refArgs d n act.args).bind (fun args => cmdV pred (String.ofList act.name) args)) := by
  rw [refChain, hl, predRef]
  dsimp only
  cases (if acts.dropLast.isEmpty = true then some ({ vars := d } : RState) else refChain d n acts.dropLast) with
  | none => rfl
  | some pred => cases refArgs d n act.args <;> rfl

theorem refArgs_zero (d : List (Str × Val)) (args : List Arg) : refArgs d 0 args = none := by rw [refArgs]

theorem refArgs_nil (d : List (Str × Val)) (n : Nat) : refArgs d (n + 1) [] = some [] := by rw [refArgs]

theorem refArgs_text (d : List (Str × Val)) (n : Nat) (t : Str) (rest : List Arg) :
    refArgs d (n + 1) (.text t :: rest) = (refArgs d n rest).map (fun vs => .str t :: vs) := by rw [refArgs]

theorem refArgs_link (d : List (Str × Val)) (n : Nat) (q : List Act) (rest : List Arg) :
    refArgs d (n + 1) (.link q :: rest) =
      (refChain d n q).bind (fun v => (refArgs d n rest).map (fun vs => v.data :: vs)) := by
  rw [refArgs]; cases refChain d n q <;> rfl

theorem ref_mono (d : List (Str × Val)) (n : Nat) :
    (∀ acts r, refChain d n acts = some r → ∀ m, n ≤ m → refChain d m acts = some r) ∧
    (∀ args vs, refArgs d n args = some vs → ∀ m, n ≤ m → refArgs d m args = some vs) := by
  induction n with
  | zero =>
    refine ⟨fun acts r h => ?_, fun args vs h => ?_⟩
    · rw [refChain_zero] at h; cases h
    · rw [refArgs_zero] at h; cases h
  | succ n ih =>
    refine ⟨fun acts r h m hm => ?_, fun args vs h m hm => ?_⟩ <;>
      obtain ⟨m, rfl⟩ : ∃ m', m = m' + 1 := ⟨m - 1, (Nat.sub_add_cancel (Nat.le_trans (Nat.le_add_left 1 n) hm)).symm⟩ <;>
      have hm' : n ≤ m := Nat.le_of_succ_le_succ hm
    · cases hl : acts.getLast? with
      | none => rw [refChain_nil hl] at h ⊢; exact h
      | some act =>
        rw [refChain_succ hl] at h ⊢
        obtain ⟨pred, hp, h⟩ := Option.bind_eq_some_iff.1 h
        obtain ⟨args, ha, h⟩ := Option.bind_eq_some_iff.1 h
        have hp' : predRef d m acts = some pred := by
          unfold predRef at hp ⊢
          split
          · next he => rwa [if_pos he] at hp
          · next he => rw [if_neg he] at hp; exact ih.1 _ _ hp m hm'
        rw [hp', Option.bind_some, ih.2 _ _ ha m hm', Option.bind_some]
        exact h
    · cases args with
      | nil => rw [refArgs_nil] at h ⊢; exact h
      | cons arg rest =>
        cases arg with
        | text t =>
          rw [refArgs_text] at h ⊢
          obtain ⟨vs', h1, h2⟩ := Option.map_eq_some_iff.1 h
          rw [ih.2 _ _ h1 m hm']; exact congrArg some h2
        | link q =>
          rw [refArgs_link] at h ⊢
          obtain ⟨v, h0, h⟩ := Option.bind_eq_some_iff.1 h
          obtain ⟨vs', h1, h2⟩ := Option.map_eq_some_iff.1 h
          rw [ih.1 _ _ h0 m hm', Option.bind_some, ih.2 _ _ h1 m hm']; exact congrArg some h2

theorem refChain_mono {d : List (Str × Val)} {n m : Nat} {acts : List Act} {r : RState} (h : refChain d n acts = some r)
    (le : n ≤ m) : refChain d m acts = some r := (ref_mono d n).1 acts r h m le

theorem refArgs_mono {d : List (Str × Val)} {n m : Nat} {args : List Arg} {vs : List Val}
    (h : refArgs d n args = some vs) (le : n ≤ m) : refArgs d m args = some vs := (ref_mono d n).2 args vs h m le

theorem predRef_mono {d : List (Str × Val)} {n m : Nat} {acts : List Act} {r : RState} (h : predRef d n acts = some r)
    (le : n ≤ m) : predRef d m acts = some r := by
  unfold predRef at h ⊢
  split
  · next he => rwa [if_pos he] at h
  · next he => rw [if_neg he] at h; exact refChain_mono h le

/-- only `vol` makes a state volatile; only `let` and `vapp` change the variables, and only the one they name -/
theorem cmdV_spec {st r' : RState} {name : String} {args : List Val} (h : cmdV st name args = some r') :
    (name = "vol" ∨ r'.volatile = st.volatile) ∧
      (r'.vars = st.vars ∨ ∃ k v rest, (name = "let" ∨ name = "vapp") ∧ args = .str k :: rest ∧ r'.vars = setVarV st.vars k v) := by
  revert h
  -- the cases are numbered in the order of the alternatives of `cmdV`, failing branches included
  fun_cases cmdV st name args <;> intro h <;> cases h
  case case11 => exact ⟨Or.inr rfl, Or.inr ⟨_, _, _, Or.inl rfl, rfl, rfl⟩⟩      -- let
  case case13 => exact ⟨Or.inr rfl, Or.inr ⟨_, _, _, Or.inr rfl, rfl, rfl⟩⟩      -- vapp
  case case17 => exact ⟨Or.inl rfl, Or.inl rfl⟩                                  -- vol
  -- the others leave volatility and variables as they are
  all_goals exact ⟨Or.inr rfl, Or.inl rfl⟩

theorem cmdV_volatile {st r' : RState} {name : String} {args : List Val} (h : cmdV st name args = some r')
    (hn : name ≠ "vol") : r'.volatile = st.volatile := (cmdV_spec h).1.resolve_left hn

theorem dropLast_getLast? {α : Type} {l : List α} {a : α} (h : l.getLast? = some a) : l.dropLast ++ [a] = l := by
  have hne : l ≠ [] := fun e => by rw [e] at h; cases h
  rw [List.getLast?_eq_some_getLast hne] at h
  exact Option.some.inj h ▸ List.dropLast_concat_getLast hne

section scope
variable {d : List (Str × Val)}

/-- a property of states that the steps of a chain keep (each step satisfying `ok`) holds of the meaning of the chain -/
theorem refChain_invariant {I : RState → Prop} {ok : Act → Prop} (h0 : I { vars := d })
    (hstep : ∀ {st r' act args n}, refArgs d n act.args = some args → cmdV st (String.ofList act.name) args = some r' →
      ok act → I st → I r') (m : Nat) :
    ∀ (acts : List Act) (r : RState), refChain d m acts = some r → (∀ b ∈ acts, ok b) → I r := by
  induction m with
  | zero => intro acts r h; rw [refChain_zero] at h; cases h
  | succ m ih =>
    intro acts r h hv
    cases hl : acts.getLast? with
    | none => rw [refChain_nil hl] at h; cases h; exact h0
    | some act =>
      rw [refChain_succ hl] at h
      obtain ⟨pred, hp, h⟩ := Option.bind_eq_some_iff.1 h
      obtain ⟨args, ha, h⟩ := Option.bind_eq_some_iff.1 h
      have hacts : acts.dropLast ++ [act] = acts := dropLast_getLast? hl
      refine hstep ha h (hv act (hacts ▸ List.mem_append_right _ List.mem_cons_self)) ?_
      unfold predRef at hp
      split at hp
      · cases hp; exact h0
      · exact ih _ _ hp (fun b hb => hv b (hacts ▸ List.mem_append_left _ hb))

theorem refChain_nonvolatile (m : Nat) (acts : List Act) (r : RState) (h : refChain d m acts = some r)
    (hv : ∀ b ∈ acts, String.ofList b.name ≠ "vol") : r.volatile = false :=
  refChain_invariant (I := fun r => r.volatile = false) (ok := fun b => String.ofList b.name ≠ "vol") rfl
    (fun _ hc hn hi => (cmdV_volatile hc hn).trans hi) m acts r h hv

theorem refChain_snoc (n : Nat) (acts : List Act) (act : Act) :
    refChain d (n + 1) (acts ++ [act]) =
      (if acts.isEmpty then some { vars := d } else refChain d n acts).bind (fun pred =>
        (refArgs d n act.args).bind (fun args => cmdV pred (String.ofList act.name) args)) := by
  rw [refChain_succ (act := act) List.getLast?_concat, predRef, List.dropLast_concat]

theorem first_step_from_defaults (n : Nat) (act : Act) :
    refChain d (n + 1) [act] = (refArgs d n act.args).bind (fun args => cmdV { vars := d } (String.ofList act.name) args) :=
  refChain_snoc n [] act

theorem refArgs_texts (n : Nat) : ∀ ts : List Str, ts.length < n → refArgs d n (ts.map .text) = some (ts.map .str)
  | [], h => by obtain ⟨n, rfl⟩ : ∃ m, n = m + 1 := ⟨n - 1, (Nat.sub_add_cancel h).symm⟩; exact refArgs_nil d n
  | t :: ts, h => by
    obtain ⟨n, rfl⟩ : ∃ m, n = m + 1 := ⟨n - 1, (Nat.sub_add_cancel (Nat.le_trans (Nat.le_add_left 1 _) h)).symm⟩
    rw [List.map_cons, refArgs_text, refArgs_texts n ts (Nat.lt_of_succ_lt_succ h)]; rfl

/-- `let-k-v` makes `getvar-k` to its right return `v` (`lt`, `gt`: the names of the two commands as the chain spells them) -/
theorem let_visible_right {n : Nat} {acts : List Act} {r : RState} {lt gt : Str} (hl : String.ofList lt = "let")
    (hg : String.ofList gt = "getvar") (k v : Str) (hne : acts ≠ []) (h : refChain d n acts = some r) :
    ∃ m, refChain d m (acts ++ [Act.mk lt [.text k, .text v], Act.mk gt [.text k]]) =
      some ⟨.str v, setVarV r.vars k (.str v), r.volatile, r.caching⟩ := by
  -- two more steps (+2), each reading an argument list of at most two texts (+3)
  refine ⟨n + 5, ?_⟩
  have a2 : refArgs d (n + 3) [.text k, .text v] = some [.str k, .str v] :=
    refArgs_texts (n + 3) [k, v] (Nat.le_add_left 3 n)
  have a1 : refArgs d (n + 4) [.text k] = some [.str k] := refArgs_texts (n + 4) [k] (Nat.le_add_left 2 (n + 2))
  rw [List.append_cons, refChain_snoc, if_neg (by simp), refChain_snoc, if_neg (by simpa using hne),
    refChain_mono h (Nat.le_add_right n 3), Option.bind_some, Act.args, Act.name, a2, Option.bind_some, hl, cmdV,
    Option.bind_some, Act.args, Act.name, a1, Option.bind_some, hg, cmdV, getVarV_eq, setVarV_eq, getKV_setKV_self]
  rfl

/-- the first argument of every `let` / `vapp` of the chain is a literal name other than `k` -/
def NoSet (k : Str) (acts : List Act) : Prop :=
  ∀ b ∈ acts, (String.ofList b.name = "let" ∨ String.ofList b.name = "vapp") →
    ∃ k' rest, b.args = .text k' :: rest ∧ k' ≠ k

/-- a chain that never assigns `k` leaves `k` at its configured default: nothing set elsewhere can leak in -/
theorem unset_var_is_default (k : Str) (m : Nat) (acts : List Act) (r : RState) (h : refChain d m acts = some r)
    (hn : NoSet k acts) : getVarV r.vars k = getVarV d k := by
  refine refChain_invariant (I := fun r => getVarV r.vars k = getVarV d k)
    (ok := fun b => (String.ofList b.name = "let" ∨ String.ofList b.name = "vapp") →
      ∃ k' rest, b.args = .text k' :: rest ∧ k' ≠ k) rfl (fun {st r' act args n} ha hc hok hi => ?_) m acts r h hn
  rcases (cmdV_spec hc).2 with e | ⟨k', v, rest, hnm, he, e⟩
  · rw [e]; exact hi
  · -- the name assigned is the literal first argument
    obtain ⟨k'', rest', hargs, hne⟩ := hok hnm
    rw [hargs] at ha
    cases n with
    | zero => rw [refArgs_zero] at ha; cases ha
    | succ n =>
      rw [refArgs_text] at ha
      obtain ⟨vs, -, hvs⟩ := Option.map_eq_some_iff.1 ha
      cases hvs.trans he
      rw [e, getVarV_eq, setVarV_eq, getKV_setKV_ne _ _ hne]
      exact hi

end scope

end Liquer.Iso
