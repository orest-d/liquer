/-
C08 over the `MemoryStore` model `memOps`: what the recipe layer needs of it at one key (`memAt`).  An entry is the
key's binding in the `data` and in the `metadata` dictionary; a failed recipe leaves a metadata-only entry, which
`contains` reports.
-/
import LiquerProofs.Lemmas.Recipes
import LiquerProofs.Lemmas.StoreMem

namespace Liquer.Rcp
open Liquer

theorem mem_store_data (s : MemState) (k' : Key) (d : Data) (m : UMeta) (k : Key) :
    alGet (Mem.store s k' d m).data k = if k' = k then some d else alGet s.data k := by
  simp [Mem.store, Mem.makedir, alGet_set]

theorem mem_store_meta (s : MemState) (k' : Key) (d : Data) (m : UMeta) (k : Key) :
    alGet (Mem.store s k' d m).metadata k =
      if k' = k then some { m with size := some d.length, md5 := some d } else alGet s.metadata k := by
  simp [Mem.store, Mem.makedir, alGet_set]

theorem mem_storeMeta_meta (s : MemState) (k' : Key) (m : UMeta) (k : Key) :
    alGet (Mem.storeMeta s k' m).metadata k = if k' = k then some m else alGet s.metadata k := by
  simp [Mem.storeMeta, alGet_set]

theorem mem_store_dirs (s : MemState) (k' : Key) (d : Data) (m : UMeta) (q : Key) :
    q ∈ (Mem.store s k' d m).directories ↔ q ∈ s.directories ∨ q ∈ ancestors (parentKey k') ∨ (parentKey k' ≠ [] ∧ q = parentKey k') := by
  simp only [Mem.store, Mem.makedir, mem_foldl_setAdd, List.mem_append]
  by_cases h : parentKey k' = [] <;> simp [h]

theorem mem_absent {s : MemState} {k : Key} :
    Mem.contains s k = false ↔ Mem.isDir s k = false ∧ alGet s.data k = none ∧ alGet s.metadata k = none := by
  simp [Mem.contains, Mem.isDir, and_assoc]

theorem mem_absent_ne_nil {s : MemState} {k : Key} (h : Mem.contains s k = false) : k ≠ [] := by
  rintro rfl
  cases h

theorem mem_store_absent {s : MemState} {k k' : Key} (d : Data) (m : UMeta) (h : Mem.contains s k = false)
    (hne : k' ≠ k) (hp : parentKey k' = parentKey k) : Mem.contains (Mem.store s k' d m) k = false := by
  have hk := mem_absent_ne_nil h
  obtain ⟨a1, a2, a3⟩ := mem_absent.mp h
  refine mem_absent.mpr ⟨?_, by rw [mem_store_data, if_neg hne, a2], by rw [mem_store_meta, if_neg hne, a3]⟩
  -- the write adds the parent directory and its ancestors to `directories`: none of them is `k`
  have hpar : ¬ k <+: parentKey k := by
    have h := child_not_prefix_parent (parentKey k) (keyName k)
    rwa [← key_eq_parent_name hk] at h
  have hd : k ∉ (Mem.store s k' d m).directories := by
    rw [mem_store_dirs, hp]
    rintro (c | c | c)
    · simp [Mem.isDir, c] at a1
    · exact hpar (ancestors_prefix c)
    · exact hpar (c.2 ▸ List.prefix_refl _)
  simpa [Mem.isDir, hk] using hd

def memAt (cfg : Cfg) {k : Key} (hk : k ≠ []) (hsf : keyName k ≠ statusFile) : AtKey memOps cfg k where
  W _ := True
  NoData s := alGet s.data k = none
  Ent s x um := alGet s.data k = x ∧ alGet s.metadata k = some um
  Gone s := Mem.contains s k = false
  dirOK := True
  store_ok d m _ := ⟨_, rfl, by rw [mem_store_data, if_pos rfl], by rw [mem_store_meta, if_pos rfl]⟩
  storeMeta_new m _ hn := ⟨_, rfl, hn, by rw [mem_storeMeta_meta, if_pos rfl]⟩
  storeMeta_ent um' h := ⟨_, rfl, h.1, by rw [mem_storeMeta_meta, if_pos rfl]⟩
  remove_ok _ := ⟨_, rfl, by simp [Mem.contains, Mem.remove, alGet_erase, hk]⟩
  ent_w _ := trivial
  gone_w _ := trivial
  getMeta_ent {s _ _} h := ⟨Mem.isDir s k, by show Mem.getMeta s k = _; simp only [Mem.getMeta, h.2]⟩
  getBytes_data h := by
    refine ⟨?_, by show Mem.getBytes _ k = _; simp only [Mem.getBytes, h.1]⟩
    show Except.ok (Mem.contains _ k) = _
    simp [Mem.contains, h.1]
  getBytes_none h := by show Mem.getBytes _ k = _; simp only [Mem.getBytes, h.1]
  gone_reads h := by
    obtain ⟨a1, _, a3⟩ := mem_absent.mp h
    refine ⟨congrArg _ h, congrArg _ a1, ?_⟩
    show Mem.getMeta _ k = _
    simp [Mem.getMeta, a1, a3]
  status_ent {_ x um} h _ := createStatus_cases (P := fun st' => alGet st'.sub.data k = x ∧ alGet st'.sub.metadata k = some um) memOps cfg _ k h
    fun d s' _ hs => by
    obtain rfl : Mem.store _ (statusKeyOf d k) [] statusMeta = s' := Except.ok.inj hs
    rw [mem_store_data, mem_store_meta, if_neg (statusKey_ne hsf d k), if_neg (statusKey_ne hsf d k)]
    exact h
  status_gone h hnd := createStatus_cases (P := fun st' => Mem.contains st'.sub k = false) memOps cfg _ k h fun d s' hd hs => by
    obtain rfl : Mem.store _ (statusKeyOf d k) [] statusMeta = s' := Except.ok.inj hs
    rw [isDir_of_sub memOps cfg (congrArg _ (mem_absent.mp h).1), hnd] at hd
    cases hd
    exact mem_store_absent _ _ h (statusKey_ne hsf false k) (by simp [statusKeyOf, parentKey])

/-- a read of a key of which the `MemoryStore` has metadata only (a failed recipe): fails, nothing is evaluated again -/
theorem getBytesF_mem_metaonly (cfg : Cfg) (E : Env) (n : Nat) (st : RState MemState) (k : Key) (m : UMeta)
    (hm : alGet st.sub.metadata k = some m) (hd : alGet st.sub.data k = none) :
    getBytesF memOps cfg E (n + 1) st k = (st, .error .keyNotFound) := by
  rw [getBytesF_present memOps cfg E n st k (by show Except.ok (Mem.contains st.sub k) = _; simp [Mem.contains, hm])]
  show (st, Mem.getBytes st.sub k) = _
  simp only [Mem.getBytes, hd]

end Liquer.Rcp
