/-
The terminals of the grammar in their canonical context: what each one consumes when the text that
follows is a delimiter (`-`, `/`, `~E`) or the end of the input.
-/
import LiquerProofs.Lemmas.ParseParam

namespace Liquer
open PS

/-- what may follow a query: the end of the input or the end of the enclosing link -/
def qStop (r : Str) : Prop := r = [] ∨ ∃ t, r = '~' :: 'E' :: t

/-- what may follow a parameter list, a file name or a resource name -/
def dpStop (r : Str) : Prop := qStop r ∨ ∃ t, r = '/' :: t

theorem pieceStop_dash (t : Str) : pieceStop ('-' :: t) = true := by simp [pieceStop]
theorem pieceStop_slash (t : Str) : pieceStop ('/' :: t) = true := by simp [pieceStop]

theorem pieceStop_of_dpStop {r : Str} (h : dpStop r) : pieceStop r = true := by
  rcases h with (rfl | ⟨t, rfl⟩) | ⟨t, rfl⟩
  · rfl
  · rfl
  · exact pieceStop_slash t

theorem dpStop.head {r : Str} (h : dpStop r) : HeadIn ['/', '~'] r := by
  rcases h with (rfl | ⟨t, rfl⟩) | ⟨t, rfl⟩
  · exact HeadIn.nil
  · exact HeadIn.cons (by simp)
  · exact HeadIn.cons (by simp)

theorem dpStop.noDash {r : Str} (h : dpStop r) : r.head? ≠ some '-' := h.head.ne (by decide)

theorem qStop.noSlash {r : Str} (h : qStop r) : r.head? ≠ some '/' := by
  rcases h with rfl | ⟨t, rfl⟩ <;> simp

theorem excl_item {r : Re} {c : Char} (h : Inst.excl r c = true) {it : ReItem} (hit : it ∈ r) :
    inRanges it.ranges c = false := by
  simpa using List.all_eq_true.mp h it hit

theorem stopAt_of_excl {r : Re} {ds : List Char} (h : ds.all (Inst.excl r) = true) {rest : Str}
    (hr : HeadIn ds rest) : ∀ it ∈ r, stopAt it.ranges rest = true := by
  intro it hit
  cases rest with
  | nil => rfl
  | cons c t => exact stopAt_cons (excl_item (List.all_eq_true.mp h c (hr c rfl)) hit)

theorem not_mem_of_excl {r : Re} {s : Str} (hf : fullMatch r s = true) {c : Char}
    (hc : Inst.excl r c = true) : c ∉ s := by
  intro hm
  obtain ⟨it, hit, hin⟩ := fullMatch_mem hf c hm
  rw [excl_item hc hit] at hin; cases hin

theorem head?_append_ne {s rest : Str} {c : Char} (hs : s ≠ []) (hc : c ∉ s) :
    (s ++ rest).head? ≠ some c := by
  cases s with
  | nil => exact absurd rfl hs
  | cons a t => exact fun e => hc (Option.some.inj e ▸ List.mem_cons_self)

theorem fullMatch_noWs {r : Re}
    (hr : r ∈ [Gen.identifierRe, Gen.filenameRe, Gen.resourceNameRe, Gen.parameterTextRe,
      Gen.percentEncodingRe, Gen.resourceIdentifierRe, Gen.segmentIdentifierNamedRe,
      Gen.segmentIdentifierBareRe]) {s : Str} (h : fullMatch r s = true) : NoWs s := by
  intro c hc
  cases hw : isWhite c with
  | false => rfl
  | true =>
    have hm : c ∈ Gen.whiteChars := by simpa [isWhite] using hw
    exact absurd hc (not_mem_of_excl h (List.all_eq_true.mp (List.all_eq_true.mp Inst.terminals_noWhite r hr) c hm))

theorem isWhite_tilde : isWhite '~' = false := isWhite_false_of Inst.tokSafe_noWhite (by decide)

theorem noWs_replicate_dash (n : Nat) : NoWs (List.replicate n '-') :=
  fun _ hc => (List.mem_replicate.mp hc).2 ▸ Inst.dash_noWhite

theorem re_identifier {name rest : Str} {p : Nat} (hf : fullMatch Gen.identifierRe name = true)
    (hs : pieceStop rest = true) (hws : NoWs (name ++ rest)) :
    PS.re Gen.identifierRe ⟨name ++ rest, p⟩ = some (name, ⟨rest, p + name.length⟩) :=
  re_append hf (stopAt_of_excl Inst.identifier_stops (pieceStop_head hs)) hws

theorem re_identifier_none {r : Str} {p : Nat} (hws : NoWs r) (hr : HeadIn Inst.delims r) :
    PS.re Gen.identifierRe ⟨r, p⟩ = none := by
  have := stopAt_of_excl Inst.identifier_stops hr
  rw [Inst.identifier_shape] at this ⊢
  exact re_fail_first hws (this _ List.mem_cons_self)

theorem re_filename {name rest : Str} {p : Nat} (hf : fullMatch Gen.filenameRe name = true)
    (hs : dpStop rest) (hws : NoWs (name ++ rest)) :
    PS.re Gen.filenameRe ⟨name ++ rest, p⟩ = some (name, ⟨rest, p + name.length⟩) :=
  re_append hf (stopAt_of_excl Inst.filename_stops hs.head) hws

theorem stopAt_dash {x : Str} (hx : x.head? ≠ some '-') : stopAt [(45, 45)] x = true :=
  stopAt_single (d := '-') hx

theorem takeWhile_dash_replicate (n : Nat) (x : Str) (hx : x.head? ≠ some '-') :
    (List.replicate n '-' ++ x).takeWhile (· == '-') = List.replicate n '-' := by
  induction n with
  | zero =>
    cases x with
    | nil => rfl
    | cons c t =>
      have : c ≠ '-' := fun e => hx (e ▸ rfl)
      simp [this]
  | succ n ih => simp [List.replicate_succ, ih]

theorem splitLevel_replicate (n : Nat) (x : Str) (hx : x.head? ≠ some '-') :
    splitLevel (List.replicate n '-' ++ x) = (n, x) := by
  simp [splitLevel, takeWhile_dash_replicate n x hx]

theorem matchRe_dashes {tl : Re} {lvl : Nat} {x : Str} (hl : 1 ≤ lvl) (hx : x.head? ≠ some '-') :
    matchRe (Inst.dashItem :: tl) (List.replicate lvl '-' ++ x) =
      match matchRe tl x with
      | none => none
      | some (m2, r2) => some (List.replicate lvl '-' ++ m2, r2) := by
  have : takeClass Inst.dashItem.ranges Inst.dashItem.max (List.replicate lvl '-' ++ x) =
      (List.replicate lvl '-', x) :=
    takeClass_run _ (stopAt_dash hx) _ (fun c hc => (List.mem_replicate.mp hc).2 ▸ by decide)
  rw [matchRe_cons, this]
  simp only [List.length_replicate]
  rw [if_neg (by simp only [Inst.dashItem]; omega)]
  rfl

/-- the dash in front of a header name, which the well-formedness conditions write out, is matched by `-+` -/
theorem fullMatch_dash_cons {tl : Re} {n : Str} (hx : n.head? ≠ some '-') :
    fullMatch (Inst.dashItem :: tl) ('-' :: n) = fullMatch tl n := by
  have := matchRe_dashes (tl := tl) (lvl := 1) (Nat.le_refl _) hx
  simp only [List.replicate_one, List.singleton_append] at this
  unfold fullMatch
  rw [this]
  cases matchRe tl n with
  | none => rfl
  | some mr => obtain ⟨m, _ | _⟩ := mr <;> rfl

theorem segIdTail_of_nameOK {n : Str} (h : transformHeaderNameOK n = true) (hne : n ≠ []) :
    fullMatch Inst.segIdTail n = true := by
  simp only [transformHeaderNameOK, Bool.or_eq_true, Bool.and_eq_true, bne_iff_ne, ne_eq] at h
  rcases h with h | ⟨h1, h2⟩
  · exact absurd (List.isEmpty_iff.mp h) hne
  · rwa [Inst.segmentIdentifierNamed_shape, fullMatch_dash_cons h1] at h2

theorem resIdTail_of_nameOK {n : Str} (h : resourceHeaderNameOK n = true) :
    fullMatch Inst.resIdTail ('R' :: n) = true := by
  rwa [resourceHeaderNameOK, Inst.resourceIdentifier_shape, fullMatch_dash_cons (by simp)] at h

theorem matchRe_dashes_append {tl : Re} {lvl : Nat} {name rest : Str} (hl : 1 ≤ lvl)
    (hf : fullMatch tl name = true) (hx : (name ++ rest).head? ≠ some '-')
    (hstop : ∀ it ∈ tl, stopAt it.ranges rest = true) :
    matchRe (Inst.dashItem :: tl) (List.replicate lvl '-' ++ (name ++ rest)) =
      some (List.replicate lvl '-' ++ name, rest) := by
  rw [matchRe_dashes hl hx, matchRe_append _ _ _ rest ((fullMatch_iff _ _).mp hf) hstop]

theorem parseSegIdent_named {lvl : Nat} {name rest : Str} {p : Nat} (hl : 1 ≤ lvl)
    (hf : fullMatch Inst.segIdTail name = true) (hs : pieceStop rest = true)
    (hws : NoWs (List.replicate lvl '-' ++ (name ++ rest))) :
    parseSegIdent ⟨List.replicate lvl '-' ++ (name ++ rest), p⟩ =
      some ((lvl, name), ⟨rest, p + (List.replicate lvl '-' ++ name).length⟩) := by
  have hne : name ≠ [] := by
    rw [Inst.segIdTail_shape] at hf
    obtain ⟨c, t, rfl, _⟩ := fullMatch_first hf
    simp
  have hd : '-' ∉ name :=
    not_mem_of_excl hf (List.all_eq_true.mp Inst.segIdTail_stops '-' (by simp [Inst.delims]))
  have hm := matchRe_dashes_append hl hf (head?_append_ne hne hd)
    (stopAt_of_excl Inst.segIdTail_stops (pieceStop_head hs))
  have hx : name.head? ≠ some '-' := by simpa using head?_append_ne (rest := []) hne hd
  simp only [parseSegIdent, re_noWs hws, Inst.segmentIdentifierNamed_shape, hm, splitLevel_replicate lvl _ hx]

theorem parseResIdent_ok {lvl : Nat} {name rest : Str} {p : Nat} (hl : 1 ≤ lvl)
    (hf : fullMatch Inst.resIdTail ('R' :: name) = true) (hs : pieceStop rest = true)
    (hws : NoWs (List.replicate lvl '-' ++ ('R' :: name ++ rest))) :
    parseResIdent ⟨List.replicate lvl '-' ++ ('R' :: name ++ rest), p⟩ =
      some ((lvl, name), ⟨rest, p + (List.replicate lvl '-' ++ 'R' :: name).length⟩) := by
  have hm := matchRe_dashes_append hl hf (by simp)
    (stopAt_of_excl Inst.resIdTail_stops (pieceStop_head hs))
  simp only [parseResIdent, re_noWs hws, Inst.resourceIdentifier_shape, hm,
    splitLevel_replicate lvl ('R' :: name) (by simp), List.drop_succ_cons, List.drop_zero]

theorem re_segIdNamed_none {lvl : Nat} {c : Char} {r : Str} {p : Nat} (hl : 1 ≤ lvl)
    (hc : c ∈ ['/', 'R']) (hws : NoWs (List.replicate lvl '-' ++ c :: r)) :
    PS.re Gen.segmentIdentifierNamedRe ⟨List.replicate lvl '-' ++ c :: r, p⟩ = none := by
  have hx : (c :: r).head? ≠ some '-' := by
    rintro e; cases Option.some.inj e; simp at hc
  have h1 : matchRe Inst.segIdTail (c :: r) = none := by
    rw [Inst.segIdTail_shape]
    exact matchRe_fail_first (Nat.le_refl 1) ((HeadIn.cons hc).stopAt Inst.segId_first)
  rw [re_noWs hws, Inst.segmentIdentifierNamed_shape, matchRe_dashes hl hx, h1]

theorem parseSegIdent_bare {lvl : Nat} {r : Str} {p : Nat} (hl : 1 ≤ lvl)
    (hws : NoWs (List.replicate lvl '-' ++ '/' :: r)) :
    parseSegIdent ⟨List.replicate lvl '-' ++ '/' :: r, p⟩ =
      some ((lvl, []), ⟨'/' :: r, p + (List.replicate lvl '-').length⟩) := by
  have h2 := splitLevel_replicate lvl [] (by simp)
  simp only [List.append_nil] at h2
  have hm := matchRe_dashes (tl := []) (x := '/' :: r) hl (by simp)
  simp only [parseSegIdent, re_segIdNamed_none hl (by simp) hws, re_noWs hws,
    Inst.segmentIdentifierBare_shape, hm, matchRe_nil, List.append_nil, lit_cons hws.right, h2]

theorem parseSegIdent_resource {lvl : Nat} {r : Str} {p : Nat} (hl : 1 ≤ lvl)
    (hws : NoWs (List.replicate lvl '-' ++ 'R' :: r)) :
    parseSegIdent ⟨List.replicate lvl '-' ++ 'R' :: r, p⟩ = none := by
  have hm := matchRe_dashes (tl := []) (x := 'R' :: r) hl (by simp)
  have hlit : ∀ q, lit ['/'] ⟨'R' :: r, q⟩ = none := fun q => lit_ne_head hws.right (by simp)
  simp only [parseSegIdent, re_segIdNamed_none hl (by simp) hws, re_noWs hws,
    Inst.segmentIdentifierBare_shape, hm, matchRe_nil, List.append_nil, hlit]

theorem notSegStart_of_noDash {r : Str} {p : Nat} (hws : NoWs r) (hx : r.head? ≠ some '-') :
    parseSegIdent ⟨r, p⟩ = none ∧ parseResIdent ⟨r, p⟩ = none ∧ notSegStart ⟨r, p⟩ = true := by
  have h : ∀ its, PS.re (⟨[(45, 45)], 1, none⟩ :: its) ⟨r, p⟩ = none :=
    fun its => re_fail_first hws (stopAt_dash hx)
  have h1 : parseSegIdent ⟨r, p⟩ = none := by
    simp only [parseSegIdent, Inst.segmentIdentifierNamed_shape, Inst.segmentIdentifierBare_shape,
      Inst.dashItem, h]
  have h2 : parseResIdent ⟨r, p⟩ = none := by
    simp only [parseResIdent, Inst.resourceIdentifier_shape, Inst.dashItem, h]
  exact ⟨h1, h2, by simp [notSegStart, h1, h2]⟩

end Liquer
