/-
Properties of the reference interpretation alone: fuel monotonicity (a modelled result is stable under more
fuel: `Stable`), independence of successful results from the as-typed text and from empty extra parameters,
the `status` of the input state is never read, and the reference half of C06 (what a failing action returns,
how a failure travels through later steps).
-/
import LiquerProofs.Lemmas.EvalStep

namespace Liquer

@[simp] theorem subOutcome_unmodelled (st act raw sig xv x) : subOutcome st act raw sig xv x .unmodelled = .unmodelled := rfl

@[simp] theorem refAfter_unmodelled (env n parent r key raw extra) :
    refAfter env n .unmodelled parent r key raw extra = (.unmodelled, []) := rfl

def MonoAt (env : Env) (n : Nat) : Prop :=
  (∀ q raw extra input, (refQ env n q raw extra input).1 ≠ .unmodelled →
      refQ env (n+1) q raw extra input = refQ env n q raw extra input) ∧
  (∀ st a raw parent extra, (refAction env n st a raw parent extra).1 ≠ .unmodelled →
      refAction env (n+1) st a raw parent extra = refAction env n st a raw parent extra) ∧
  (∀ ps raw parent, (refParams env n ps raw parent).1 ≠ .inr .unmodelled →
      refParams env (n+1) ps raw parent = refParams env n ps raw parent) ∧
  (∀ t, (refText env n t).1 ≠ .unmodelled → refText env (n+1) t = refText env n t)

theorem refCall_mono {env : Env} {n : Nat} (ih : MonoAt env n) (st act raw sig x)
    (h : (refCall env n st act raw sig x).1 ≠ .unmodelled) :
    refCall env (n+1) st act raw sig x = refCall env n st act raw sig x := by
  unfold refCall at h ⊢
  generalize parseArgv sig.args x.1 x.2.1 = pa at h ⊢
  cases pa with
  | ok args =>
    dsimp only at h ⊢
    generalize cmdSem sig.ns sig.name st.data st.vars args = ce at h ⊢
    cases ce with
    | subeval y qt =>
      dsimp only at h ⊢
      rw [ih.2.2.2 qt (fun hu => h (by rw [hu]; rfl))]
    | _ => rfl
  | _ => rfl

theorem refPost_mono {env : Env} {n : Nat} (ih : MonoAt env n) (st parent r key raw extra)
    (h : (refPost env n st parent r key raw extra).1 ≠ .unmodelled) :
    refPost env (n+1) st parent r key raw extra = refPost env n st parent r key raw extra := by
  unfold refPost at h ⊢
  split
  · rfl
  · rfl
  · next a =>
    simp only at h
    have : (refAction env n st a raw parent extra).1 ≠ .unmodelled := by
      intro hu; rw [hu] at h; simp at h
    rw [ih.2.1 _ _ _ _ _ this]
  · rfl

theorem refAfter_mono {env : Env} {n : Nat} (ih : MonoAt env n) (o parent r key raw extra)
    (h : (refAfter env n o parent r key raw extra).1 ≠ .unmodelled) :
    refAfter env (n+1) o parent r key raw extra = refAfter env n o parent r key raw extra := by
  unfold refAfter at h ⊢
  split
  · rfl
  · rfl
  · rfl
  · split
    · rfl
    · next hne => simp only [hne] at h; exact refPost_mono ih _ _ _ _ _ _ h

theorem refLink_mono {env : Env} {n : Nat} (ih : MonoAt env n) (lq parent)
    (h : (refLink env n lq parent).1 ≠ .unmodelled) :
    refLink env (n+1) lq parent = refLink env n lq parent := by
  unfold refLink at h ⊢
  split
  · next hc => simp only [hc, if_true] at h; exact ih.1 _ _ _ _ h
  · next hc =>
    simp only [hc] at h
    split
    · split
      · rfl
      · next pq hpq => simp only [hpq] at h; exact ih.2.2.2 _ h
    · rfl

theorem mono_zero (env : Env) : MonoAt env 0 := by
  refine ⟨?_, ?_, ?_, ?_⟩
  · intro q raw extra input h; simp [refQ_zero] at h
  · intro st a raw parent extra h; simp [refAction_zero] at h
  · intro ps raw parent h; simp [refParams_zero] at h
  · intro t h; simp [refText_zero] at h

theorem mono_succ_Q {env : Env} {n : Nat} (ih : MonoAt env n) (q raw extra input)
    (h : (refQ env (n+1) q raw extra input).1 ≠ .unmodelled) :
    refQ env (n+2) q raw extra input = refQ env (n+1) q raw extra input := by
  rw [refQ_succ] at h ⊢
  rw [refQ_succ env n]
  split
  · rfl
  · next hres =>
    simp only [hres] at h
    split
    · next hp => simp only [hp] at h; exact refAfter_mono ih _ _ _ _ _ _ h
    · next p r hp =>
      simp only [hp] at h
      split
      · next hpe => simp only [hpe, if_true] at h; exact refAfter_mono ih _ _ _ _ _ _ h
      · next hpe =>
        simp only [hpe] at h
        have h1 : (refQ env n p (p.encode Gen.escapeTable) .none input).1 ≠ .unmodelled := by
          intro hu; rw [hu] at h; simp at h
        rw [ih.1 _ _ _ _ h1, refAfter_mono ih _ _ _ _ _ _ h]

theorem mono_succ_A {env : Env} {n : Nat} (ih : MonoAt env n) (st a raw parent extra)
    (h : (refAction env (n+1) st a raw parent extra).1 ≠ .unmodelled) :
    refAction env (n+2) st a raw parent extra = refAction env (n+1) st a raw parent extra := by
  rw [refAction_succ] at h ⊢
  rw [refAction_succ env n]
  split
  · rfl
  · next nss hns =>
    simp only [hns] at h
    split
    · rfl
    · next hl =>
      simp only [hl] at h
      split
      · rfl
      · next sig hr =>
        simp only [hr] at h
        rcases hp : refParams env n a.params raw parent with ⟨r, c1⟩
        rw [hp] at h
        have hpm : refParams env (n+1) a.params raw parent = (r, c1) := by
          rw [← hp]; apply ih.2.2.1
          rw [hp]; cases r with
          | inl g => simp
          | inr o => simp only [ne_eq, Sum.inr.injEq]; exact h
        rw [hpm]
        cases r with
        | inr o => rfl
        | inl g =>
          simp only at h ⊢
          rw [refCall_mono ih _ _ _ _ _ h]

theorem mono_succ_P {env : Env} {n : Nat} (ih : MonoAt env n) (ps raw parent)
    (h : (refParams env (n+1) ps raw parent).1 ≠ .inr .unmodelled) :
    refParams env (n+2) ps raw parent = refParams env (n+1) ps raw parent := by
  cases ps with
  | nil => simp [refParams_nil]
  | cons p ps =>
    cases p with
    | str t pos =>
      rw [refParams_str] at h ⊢
      rw [refParams_str env n]
      rcases hp : refParams env n ps raw parent with ⟨r, c⟩
      rw [hp] at h
      have hpm : refParams env (n+1) ps raw parent = (r, c) := by
        rw [← hp]; apply ih.2.2.1
        rw [hp]; cases r with
        | inl g => simp
        | inr o => exact h
      rw [hpm]
    | link lq pos =>
      rw [refParams_link] at h ⊢
      rw [refParams_link env n]
      rcases hl : refLink env n lq parent with ⟨o, c1⟩
      rw [hl] at h
      have hlm : refLink env (n+1) lq parent = (o, c1) := by
        rw [← hl]; apply refLink_mono ih
        rw [hl]; intro hu; simp only at hu; subst hu; simp at h
      rw [hlm]
      cases o with
      | st v =>
        simp only at h ⊢
        cases hv : v.isError
        · simp only [hv, Bool.false_eq_true, if_false] at h ⊢
          rcases hp : refParams env n ps raw parent with ⟨r, c⟩
          rw [hp] at h
          have hpm : refParams env (n+1) ps raw parent = (r, c) := by
            rw [← hp]; apply ih.2.2.1
            rw [hp]; cases r with
            | inl g => simp
            | inr o => exact h
          rw [hpm]
        · simp
      | _ => rfl

theorem mono_succ_T {env : Env} {n : Nat} (ih : MonoAt env n) (t)
    (h : (refText env (n+1) t).1 ≠ .unmodelled) :
    refText env (n+2) t = refText env (n+1) t := by
  rw [refText_succ] at h ⊢
  rw [refText_succ env n]
  split
  · rfl
  · next q hq => simp only [hq] at h; exact ih.1 _ _ _ _ h

theorem ref_mono (env : Env) : ∀ n, MonoAt env n
  | 0 => mono_zero env
  | n + 1 => ⟨mono_succ_Q (ref_mono env n), mono_succ_A (ref_mono env n), mono_succ_P (ref_mono env n),
      mono_succ_T (ref_mono env n)⟩

/-- `f`, indexed by fuel, keeps every result that satisfies `ok` when the fuel grows -/
def Stable {α : Type} (ok : α → Prop) (f : Nat → α) : Prop := ∀ n, ok (f n) → f (n + 1) = f n

theorem Stable.le {α : Type} {ok : α → Prop} {f : Nat → α} (hs : Stable ok f) {m m' : Nat} (hle : m ≤ m')
    (h : ok (f m)) : f m' = f m := by
  induction hle with
  | refl => rfl
  | step _ ih => rw [hs _ (by rw [ih]; exact h), ih]

theorem Stable.det {α : Type} {ok : α → Prop} {f : Nat → α} (hs : Stable ok f) {m m' : Nat} (h : ok (f m))
    (h' : ok (f m')) : f m = f m' := by
  rw [← hs.le (Nat.le_max_left m m') h, ← hs.le (Nat.le_max_right m m') h']

/-- two stable computations have their acceptable results at one common fuel -/
theorem Stable.align {α β : Type} {ok : α → Prop} {ok' : β → Prop} {f : Nat → α} {g : Nat → β} (hf : Stable ok f)
    (hg : Stable ok' g) {m m' : Nat} (h : ok (f m)) (h' : ok' (g m')) : ∃ M, f M = f m ∧ g M = g m' :=
  ⟨max m m', hf.le (Nat.le_max_left m m') h, hg.le (Nat.le_max_right m m') h'⟩

abbrev Modelled (r : Outcome × List Str) : Prop := r.1 ≠ .unmodelled

abbrev ModelledP (r : (List PVal ⊕ Outcome) × List Str) : Prop := r.1 ≠ .inr .unmodelled

theorem refQ_stable (env : Env) (q raw extra input) : Stable Modelled (fun n => refQ env n q raw extra input) :=
  fun n => (ref_mono env n).1 q raw extra input
theorem refAction_stable (env : Env) (st a raw parent extra) : Stable Modelled (fun n => refAction env n st a raw parent extra) :=
  fun n => (ref_mono env n).2.1 st a raw parent extra
theorem refParams_stable (env : Env) (ps raw parent) : Stable ModelledP (fun n => refParams env n ps raw parent) :=
  fun n => (ref_mono env n).2.2.1 ps raw parent
theorem refText_stable (env : Env) (t) : Stable Modelled (fun n => refText env n t) :=
  fun n => (ref_mono env n).2.2.2 t
theorem refLink_stable (env : Env) (lq parent) : Stable Modelled (fun n => refLink env n lq parent) :=
  fun n => refLink_mono (ref_mono env n) lq parent
theorem refCall_stable (env : Env) (st act raw sig x) : Stable Modelled (fun n => refCall env n st act raw sig x) :=
  fun n => refCall_mono (ref_mono env n) st act raw sig x
theorem refPre_stable (env : Env) (q input) : Stable Modelled (fun n => refPre env n q input) := by
  unfold refPre
  cases q.preQ with
  | none => exact fun _ _ => rfl
  | some p => exact refQ_stable env p _ .none input

theorem refAction_mono_le (env : Env) {m m' : Nat} (hle : m ≤ m') (st a raw parent extra)
    (h : (refAction env m st a raw parent extra).1 ≠ .unmodelled) :
    refAction env m' st a raw parent extra = refAction env m st a raw parent extra :=
  (refAction_stable env st a raw parent extra).le hle h

theorem refParams_mono_le (env : Env) {m m' : Nat} (hle : m ≤ m') (ps raw parent)
    (h : (refParams env m ps raw parent).1 ≠ .inr .unmodelled) :
    refParams env m' ps raw parent = refParams env m ps raw parent := (refParams_stable env ps raw parent).le hle h

theorem refLink_mono_le (env : Env) {m m' : Nat} (hle : m ≤ m') (lq parent)
    (h : (refLink env m lq parent).1 ≠ .unmodelled) :
    refLink env m' lq parent = refLink env m lq parent := (refLink_stable env lq parent).le hle h

theorem refCall_mono_le (env : Env) {m m' : Nat} (hle : m ≤ m') (st act raw sig x)
    (h : (refCall env m st act raw sig x).1 ≠ .unmodelled) :
    refCall env m' st act raw sig x = refCall env m st act raw sig x := (refCall_stable env st act raw sig x).le hle h

theorem refPre_mono_le (env : Env) {m m' : Nat} (hle : m ≤ m') (q input)
    (h : (refPre env m q input).1 ≠ .unmodelled) :
    refPre env m' q input = refPre env m q input := (refPre_stable env q input).le hle h

theorem refText_det (env : Env) {m m' : Nat} (t)
    (h : (refText env m t).1 ≠ .unmodelled) (h' : (refText env m' t).1 ≠ .unmodelled) :
    refText env m t = refText env m' t := (refText_stable env t).det h h'

theorem refQ_det (env : Env) {m m' : Nat} (q raw extra input)
    (h : (refQ env m q raw extra input).1 ≠ .unmodelled) (h' : (refQ env m' q raw extra input).1 ≠ .unmodelled) :
    refQ env m q raw extra input = refQ env m' q raw extra input := (refQ_stable env q raw extra input).det h h'

theorem applyExtra_of_isEmpty {extra : Extra} (h : extra.isEmpty = true) (given : List PVal) :
    applyExtra extra given = (given, [], false) := by
  cases extra with
  | none => rfl
  | list vs => simp [Extra.isEmpty] at h; simp [applyExtra, h]
  | dict kv => simp [Extra.isEmpty] at h; simp [applyExtra, h]

theorem applyExtra_of_not_isEmpty {extra : Extra} (h : extra.isEmpty = false) (given : List PVal) :
    (applyExtra extra given).2.2 = true := by
  cases extra with
  | none => simp [Extra.isEmpty] at h
  | list vs => simp [Extra.isEmpty] at h; simp [applyExtra, h]
  | dict kv => simp [Extra.isEmpty] at h; simp [applyExtra, h]

theorem refCall_raw_indep (env : Env) (n : Nat) (st act raw raw' sig x s)
    (h : (refCall env n st act raw sig x).1 = .st s) (hs : s.isError = false) :
    refCall env n st act raw' sig x = refCall env n st act raw sig x := by
  unfold refCall at h ⊢
  split
  · rfl
  · next hpa => simp only [hpa, Outcome.st.injEq] at h; subst h; simp [failSt] at hs
  · next args hpa =>
    simp only [hpa] at h
    split
    all_goals try rfl
    · next hc => simp only [hc, Outcome.st.injEq] at h; subst h; simp [failSt] at hs
    · next y qtext hc =>
      simp only [hc] at h
      cases ho : (refText env n qtext).1 with
      | parseError => rw [ho] at h; simp only [subOutcome, Outcome.st.injEq] at h; subst h; simp [failSt] at hs
      | _ => simp [subOutcome]

theorem refCall_xv_volatile (env : Env) (n : Nat) (st act raw sig x s)
    (h : (refCall env n st act raw sig x).1 = .st s) (hs : s.isError = false) (hx : x.2.2 = true) :
    s.volatile = true := by
  rcases refCall_st h with ⟨vol, pos, q, rfl⟩ | ⟨v, vars, c, rfl⟩
  · cases hs
  · simp [doneSt, hx]

theorem refAction_good_indep (env : Env) (raw' : Str) (n : Nat) (st a raw parent extra s)
    (h : (refAction env n st a raw parent extra).1 = .st s) (hs : s.isError = false)
    (hx : extra.isEmpty = true ∨ s.volatile = false) :
    refAction env n st a raw' parent .none = refAction env n st a raw parent extra := by
  cases n with
  | zero => cases h
  | succ n =>
    obtain ⟨nss, hns, hl, ⟨_, rfl⟩ | ⟨sig, g, c1, hr, hp, hc⟩⟩ := refAction_inv h
    · cases hs
    have he : extra.isEmpty = true := by
      rcases hx with hx | hx
      · exact hx
      · cases he : extra.isEmpty with
        | true => rfl
        | false => cases hx.symm.trans (refCall_xv_volatile env n st a raw sig _ s hc hs (applyExtra_of_not_isEmpty he g))
    rw [refAction_resolved env n st a raw' parent .none nss sig hns hl hr,
      refAction_resolved env n st a raw parent extra nss sig hns hl hr,
      refParams_raw_indep env raw' n a.params raw parent g (by rw [hp]), hp]
    dsimp only
    rw [applyExtra_of_isEmpty he] at hc ⊢
    rw [applyExtra_of_isEmpty (by rfl : Extra.none.isEmpty = true), refCall_raw_indep env n st a raw raw' sig _ s hc hs]

theorem refPost_good_indep (env : Env) (raw' : Str) (n : Nat) (st parent r key raw extra s)
    (h : (refPost env n st parent r key raw extra).1 = .st s) (hs : s.isError = false)
    (hx : extra.isEmpty = true ∨ s.volatile = false) :
    refPost env n st parent r key raw' .none = refPost env n st parent r key raw extra := by
  unfold refPost at h ⊢
  split
  · rfl
  · rfl
  · next a =>
    simp only at h
    cases ho : (refAction env n st a raw parent extra).1 with
    | st st2 =>
      rw [ho] at h
      simp only [Outcome.st.injEq] at h; subst h
      rw [refAction_good_indep env raw' n st a raw parent extra st2 ho hs hx, ho]
    | _ => rw [ho] at h; simp at h
  · rfl

theorem refAfter_good_indep (env : Env) (raw' : Str) (n : Nat) (o parent r key raw extra s)
    (h : (refAfter env n o parent r key raw extra).1 = .st s) (hs : s.isError = false)
    (hx : extra.isEmpty = true ∨ s.volatile = false) :
    refAfter env n o parent r key raw' .none = refAfter env n o parent r key raw extra := by
  unfold refAfter at h ⊢
  split
  · rfl
  · rfl
  · rfl
  · split
    · rfl
    · next hne => simp only [hne] at h; exact refPost_good_indep env raw' n _ _ _ _ _ _ s h hs hx

/-- a successful reference result does not depend on the text the query was typed as, nor on empty extra
parameters; non-empty extra parameters make the result volatile -/
theorem refQ_good_indep (env : Env) (raw' : Str) (n : Nat) (q raw extra input s)
    (h : (refQ env n q raw extra input).1 = .st s) (hs : s.isError = false)
    (hx : extra.isEmpty = true ∨ s.volatile = false) :
    refQ env n q raw' .none input = refQ env n q raw extra input := by
  cases n with
  | zero => simp [refQ_zero] at h
  | succ n =>
    rw [refQ_succ] at h ⊢
    rw [refQ_succ]
    split
    · rfl
    · next hres =>
      simp only [hres] at h
      split
      · next hp => simp only [hp] at h; exact refAfter_good_indep env raw' n _ _ _ _ _ _ s h hs hx
      · next p r hp =>
        simp only [hp] at h
        split
        · next hpe => simp only [hpe, if_true] at h; exact refAfter_good_indep env raw' n _ _ _ _ _ _ s h hs hx
        · next hpe =>
          simp only [hpe] at h
          rw [refAfter_good_indep env raw' n _ _ _ _ _ _ s h hs hx]

theorem refAction_extra_empty (env : Env) (n : Nat) (st a raw parent) {extra : Extra} (hx : extra.isEmpty = true) :
    refAction env n st a raw parent extra = refAction env n st a raw parent .none := by
  cases n with
  | zero => simp [refAction_zero]
  | succ n =>
    rw [refAction_succ, refAction_succ]
    simp only [applyExtra_of_isEmpty hx, applyExtra_of_isEmpty (rfl : Extra.none.isEmpty = true)]

theorem refQ_extra_empty (env : Env) (n : Nat) (q raw input) {extra : Extra} (hx : extra.isEmpty = true) :
    refQ env n q raw extra input = refQ env n q raw .none input := by
  cases n with
  | zero => simp [refQ_zero]
  | succ n =>
    rw [refQ_succ, refQ_succ]
    simp only [refAfter, refPost, refAction_extra_empty env n _ _ _ _ hx]

theorem refQ_good_indep' (env : Env) (raw' : Str) (n : Nat) (q raw extra input s)
    (h : (refQ env n q raw .none input).1 = .st s) (hs : s.isError = false) (hx : extra.isEmpty = true) :
    refQ env n q raw' extra input = refQ env n q raw .none input := by
  rw [refQ_extra_empty env n q raw' input hx]
  exact refQ_good_indep env raw' n q raw .none input s h hs (Or.inl rfl)


theorem refCall_status (env : Env) (n : Nat) (st : EState) (x0 : Str) (act raw sig x) :
    refCall env n { st with status := x0 } act raw sig x = refCall env n st act raw sig x := rfl

theorem refAction_status (env : Env) (n : Nat) (st : EState) (x0 : Str) (a raw parent extra) :
    refAction env n { st with status := x0 } a raw parent extra = refAction env n st a raw parent extra := by
  cases n with
  | zero => simp [refAction_zero]
  | succ n => rw [refAction_succ, refAction_succ]; rfl

theorem evalCall_status (env : Env) (n : Nat) (w : World) (st : EState) (x0 : Str) (act raw sig x uc) :
    evalCall env n w { st with status := x0 } act raw sig x uc = evalCall env n w st act raw sig x uc := rfl

theorem evalAction_status (env : Env) (n : Nat) (w : World) (st : EState) (x0 : Str) (a raw parent extra uc) :
    evalAction env n w { st with status := x0 } a raw parent extra uc = evalAction env n w st a raw parent extra uc := by
  cases n with
  | zero => simp [evalAction_zero]
  | succ n => rw [evalAction_succ, evalAction_succ]; rfl

theorem refAction_core (env : Env) (n : Nat) {st st' : EState} (h : st.core = st'.core) (a raw parent extra) :
    refAction env n st a raw parent extra = refAction env n st' a raw parent extra := by
  rw [EState.core_eq_withStatus h, refAction_status]

theorem evalAction_core (env : Env) (n : Nat) (w : World) {st st' : EState} (h : st.core = st'.core) (a raw parent extra uc) :
    evalAction env n w st a raw parent extra uc = evalAction env n w st' a raw parent extra uc := by
  rw [EState.core_eq_withStatus h, evalAction_status]


theorem refCall_error_no_data (env : Env) (n : Nat) (st : EState) (act : Action) (raw : Str) (sig : CmdSig) (x)
    (e : EState) (hst : st.isError = false)
    (h : (refCall env n st act raw sig x).1 = .st e) (he : e.isError = true) : e.data = .none := by
  rcases refCall_st h with ⟨vol, pos, q, rfl⟩ | ⟨v, vars, c, rfl⟩
  · rfl
  · cases hst.symm.trans he

/-- an error state produced by an action on a successful input has no data: a failing step never yields a
normal-looking value -/
theorem refAction_error_no_data (env : Env) (n : Nat) (st : EState) (act : Action) (raw parent : Str) (extra : Extra)
    (e : EState) (hst : st.isError = false)
    (h : (refAction env n st act raw parent extra).1 = .st e) (he : e.isError = true) : e.data = .none := by
  cases n with
  | zero => cases h
  | succ n =>
    obtain ⟨_, _, _, ⟨_, rfl⟩ | ⟨sig, g, _, _, _, hc⟩⟩ := refAction_inv h
    · rfl
    · exact refCall_error_no_data env n st act raw sig _ e hst hc he

/-- the failure of the predecessor propagates unchanged (same position, same query) and no further call is made -/
theorem ref_error_stops (env : Env) (n : Nat) (p q : Query) (r : Option Seg) (raw : Str) (extra : Extra)
    (input : Option Val) (e : EState) (c : List Str)
    (h : refQ env n p (p.encode Gen.escapeTable) .none input = (.st e, c)) (he : e.isError = true)
    (hp : q.predecessor = some (p, r)) (hpe : p.segments.isEmpty = false) :
    refQ env (n+1) q raw extra input = (.st { e with data := .none, query := q.encode Gen.escapeTable }, c) := by
  rw [refQ_succ, Query.predecessor_not_isRes hp]
  simp [hp, hpe, h, refAfter, he]

theorem ref_raised_stops (env : Env) (n : Nat) (p q : Query) (r : Option Seg) (raw : Str) (extra : Extra)
    (input : Option Val) (a : Option Nat) (b : Option Str) (c : List Str)
    (h : refQ env n p (p.encode Gen.escapeTable) .none input = (.raised a b, c))
    (hp : q.predecessor = some (p, r)) (hpe : p.segments.isEmpty = false) :
    refQ env (n+1) q raw extra input = (.raised a b, c) := by
  rw [refQ_succ, Query.predecessor_not_isRes hp]
  simp [hp, hpe, h, refAfter]

end Liquer
