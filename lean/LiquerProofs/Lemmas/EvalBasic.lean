/-
Frame lemmas for `World` (the global cache with its call log), `core`/`sim` algebra, and the
preservation of `Sound` by the cache operations.
-/
import LiquerProofs.Lemmas.EvalDefs

namespace Liquer

theorem EState.core_eq_withStatus {a b : EState} (h : a.core = b.core) : a = { b with status := a.status } := by
  cases a; cases b; simp [EState.core] at h ⊢; simp [h]

@[simp] theorem EState.core_core (a : EState) : a.core.core = a.core := rfl
@[simp] theorem EState.core_setStatus (a : EState) (x : Str) : ({ a with status := x } : EState).core = a.core := rfl

theorem EState.core_isError {a b : EState} (h : a.core = b.core) : a.isError = b.isError := by rw [EState.core_eq_withStatus h]
theorem EState.core_volatile {a b : EState} (h : a.core = b.core) : a.volatile = b.volatile := by rw [EState.core_eq_withStatus h]
theorem EState.core_caching {a b : EState} (h : a.core = b.core) : a.caching = b.caching := by rw [EState.core_eq_withStatus h]
theorem EState.core_data {a b : EState} (h : a.core = b.core) : a.data = b.data := by rw [EState.core_eq_withStatus h]
theorem EState.core_query {a b : EState} (h : a.core = b.core) : a.query = b.query := by rw [EState.core_eq_withStatus h]
theorem EState.core_errPos {a b : EState} (h : a.core = b.core) : a.errPos = b.errPos := by rw [EState.core_eq_withStatus h]
theorem EState.core_errQuery {a b : EState} (h : a.core = b.core) : a.errQuery = b.errQuery := by rw [EState.core_eq_withStatus h]

@[simp] theorem Outcome.sim_st_st (a b : EState) : Outcome.sim (.st a) (.st b) ↔ a.core = b.core := Iff.rfl
@[simp] theorem Outcome.sim_raised (a b o) : Outcome.sim (.raised a b) o ↔ o = .raised a b := Iff.rfl
@[simp] theorem Outcome.sim_parseError (o) : Outcome.sim .parseError o ↔ o = .parseError := Iff.rfl
@[simp] theorem Outcome.sim_unmodelled (o) : Outcome.sim .unmodelled o ↔ o = .unmodelled := Iff.rfl

theorem Outcome.sim_refl (o : Outcome) : Outcome.sim o o := by cases o <;> simp

theorem Outcome.sim_of_eq {a b : Outcome} (h : a = b) : Outcome.sim a b := h ▸ Outcome.sim_refl a

theorem Outcome.sim_st_left {a : EState} {o : Outcome} (h : Outcome.sim (.st a) o) :
    ∃ b, o = .st b ∧ a.core = b.core := by
  cases o <;> simp [Outcome.sim] at h ⊢; exact h

theorem Outcome.sim_symm {a b : Outcome} (h : Outcome.sim a b) : Outcome.sim b a := by
  cases a with
  | st x => obtain ⟨y, rfl, hc⟩ := Outcome.sim_st_left h; exact hc.symm
  | _ => cases h; rfl

theorem Outcome.sim_trans {a b c : Outcome} (h1 : Outcome.sim a b) (h2 : Outcome.sim b c) : Outcome.sim a c := by
  cases a with
  | st x =>
    obtain ⟨y, rfl, hxy⟩ := Outcome.sim_st_left h1
    obtain ⟨z, rfl, hyz⟩ := Outcome.sim_st_left h2
    exact hxy.trans hyz
  | _ => cases h1; exact h2

theorem Outcome.sim_ne_unmodelled {a b : Outcome} (h : Outcome.sim a b) (ha : a ≠ .unmodelled) : b ≠ .unmodelled := by
  rintro rfl
  cases a with
  | unmodelled => exact ha rfl
  | _ => cases h

theorem Outcome.sim_obs {a b : Outcome} (h : Outcome.sim a b) : a.obs = b.obs := by
  cases a with
  | st x =>
    obtain ⟨y, rfl, hc⟩ := Outcome.sim_st_left h
    have := EState.core_eq_withStatus hc
    rw [this]; rfl
  | raised p q => simp at h; subst h; rfl
  | parseError => simp at h; subst h; rfl
  | unmodelled => simp at h; subst h; rfl

theorem strBne (a b : Str) : (a != b) = !(a == b) := rfl

theorem World.put_disabled {w : World} (h : w.enabled = false) (k : Str) (e : Entry) : w.put k e = w := by
  simp [World.put, h]

theorem World.entry_put (w : World) (h : w.enabled = true) (k k' : Str) (e : Entry) :
    (w.put k e).entry k' = if k' = k then some e else w.entry k' := by
  unfold World.put World.entry
  simp only [h, Bool.not_true, Bool.false_eq_true, if_false]
  by_cases h : k' = k
  · subst h; simp
  · have hk : (k == k') = false := by simpa using fun x : k = k' => h x.symm
    simp only [List.find?_cons, hk, h, if_false, List.find?_filter]
    congr 2
    funext a
    by_cases ha : a.1 = k' <;> simp [ha, h]

theorem World.entry_remove (w : World) (k k' : Str) :
    (w.remove k).entry k' = if k' = k then none else w.entry k' := by
  unfold World.remove World.entry
  simp only [List.find?_filter]
  by_cases h : k' = k
  · subst h
    simp only [if_true, Option.map_eq_none_iff, List.find?_eq_none]
    intro x _; by_cases hx : x.1 = k' <;> simp [hx]
  · simp only [h, if_false]
    congr 2
    funext a
    by_cases ha : a.1 = k' <;> simp [ha, h]

@[simp] theorem World.entry_log (w : World) (c k : Str) : (w.log c).entry k = w.entry k := rfl

theorem World.dataAt_put_enabled (w : World) (h : w.enabled = true) (k k' : Str) (e : Entry) :
    (w.put k e).dataAt k' = if k' = k then e.st else w.dataAt k' := by
  unfold World.dataAt; rw [World.entry_put w h]; split <;> rfl

theorem World.dataAt_put {w : World} {k k' : Str} {e : Entry} {s : EState}
    (h : (w.put k e).dataAt k' = some s) : (k' = k ∧ e.st = some s) ∨ w.dataAt k' = some s := by
  cases he : w.enabled with
  | false => rw [World.put_disabled he] at h; exact Or.inr h
  | true =>
    rw [World.dataAt_put_enabled w he] at h
    split at h
    next hk => exact Or.inl ⟨hk, h⟩
    next => exact Or.inr h

theorem World.dataAt_remove (w : World) (k k' : Str) :
    (w.remove k).dataAt k' = if k' = k then none else w.dataAt k' := by
  unfold World.dataAt; rw [World.entry_remove]; split <;> rfl

@[simp] theorem World.dataAt_log (w : World) (c k : Str) : (w.log c).dataAt k = w.dataAt k := rfl

/-- `store_metadata` never creates data: what an entry holds afterwards it held before -/
theorem World.dataAt_storeMeta {w : World} {k status k' : Str} {s : EState}
    (h : (w.storeMeta k status).dataAt k' = some s) : w.dataAt k' = some s := by
  unfold World.storeMeta at h
  split at h
  next e he =>
    rcases World.dataAt_put h with ⟨hk, h2⟩ | h2
    · subst hk
      simp only at h2
      split at h2
      · simp [World.dataAt, he]; exact h2
      · simp at h2
    · exact h2
  next he =>
    rcases World.dataAt_put h with ⟨_, h2⟩ | h2
    · simp at h2
    · exact h2

theorem World.dataAt_store {w : World} {st : EState} {k' : Str} {s : EState}
    (h : (w.store st).dataAt k' = some s) :
    (k' = st.query ∧ s = { st with status := statusReady }) ∨ w.dataAt k' = some s := by
  unfold World.store at h
  rcases World.dataAt_put h with ⟨hk, h2⟩ | h2
  · simp at h2; exact Or.inl ⟨hk, h2.symm⟩
  · exact Or.inr h2

theorem World.dataAt_of_get {w : World} {k : Str} {s : EState} (h : w.get k = some s) : w.dataAt k = some s := by
  unfold World.get at h
  unfold World.dataAt
  split at h
  next st s' he =>
    split at h
    · simp at h; subst h; simp [he]
    · simp at h
  next => simp at h

theorem World.get_none_of_dataAt {w : World} {k : Str} (h : w.dataAt k = none) : w.get k = none := by
  cases hg : w.get k with
  | none => rfl
  | some s => rw [World.dataAt_of_get hg] at h; simp at h

theorem World.get_of_NoData {w : World} (h : w.NoData) (k : Str) : w.get k = none :=
  World.get_none_of_dataAt (h k)

theorem World.get_store_self (w : World) (h : w.enabled = true) (st : EState) :
    (w.store st).get st.query = some { st with status := statusReady } := by
  unfold World.store World.get
  rw [World.entry_put w h]; simp

theorem World.get_remove_self (w : World) (k : Str) : (w.remove k).get k = none := by
  unfold World.get; rw [World.entry_remove]; simp

theorem World.get_storeMeta_self_of_ne (w : World) (hen : w.enabled = true) (k status : Str)
    (h : (status == statusReady) = false) :
    (w.storeMeta k status).get k = none := by
  have h' : ¬ status = statusReady := by simpa using h
  unfold World.storeMeta
  split <;> (unfold World.get; rw [World.entry_put w hen]; simp only [if_true]; try (split <;> simp_all))

theorem World.entry_storeMeta_other (w : World) {k k' : Str} (status : Str) (h : k' ≠ k) :
    (w.storeMeta k status).entry k' = w.entry k' := by
  cases hen : w.enabled with
  | false => unfold World.storeMeta; split <;> rw [World.put_disabled hen]
  | true => unfold World.storeMeta; split <;> (rw [World.entry_put w hen]; simp [h])

theorem World.get_storeMeta_other (w : World) {k k' : Str} (status : Str) (h : k' ≠ k) :
    (w.storeMeta k status).get k' = w.get k' := by
  unfold World.get; rw [World.entry_storeMeta_other w status h]

@[simp] theorem World.calls_put (w : World) (k : Str) (e : Entry) : (w.put k e).calls = w.calls := by
  unfold World.put; split <;> rfl
@[simp] theorem World.calls_storeMeta (w : World) (k st : Str) : (w.storeMeta k st).calls = w.calls := by
  unfold World.storeMeta; split <;> simp
@[simp] theorem World.calls_store (w : World) (st : EState) : (w.store st).calls = w.calls := by
  unfold World.store; simp
@[simp] theorem World.calls_remove (w : World) (k : Str) : (w.remove k).calls = w.calls := rfl
@[simp] theorem World.calls_log (w : World) (c : Str) : (w.log c).calls = w.calls ++ [c] := rfl

@[simp] theorem World.mkd_put (w : World) (k : Str) (e : Entry) : (w.put k e).metaKeepsData = w.metaKeepsData := by
  unfold World.put; split <;> rfl
@[simp] theorem World.mkd_storeMeta (w : World) (k st : Str) : (w.storeMeta k st).metaKeepsData = w.metaKeepsData := by
  unfold World.storeMeta; split <;> simp
@[simp] theorem World.mkd_store (w : World) (st : EState) : (w.store st).metaKeepsData = w.metaKeepsData := by
  unfold World.store; simp
@[simp] theorem World.mkd_remove (w : World) (k : Str) : (w.remove k).metaKeepsData = w.metaKeepsData := rfl
@[simp] theorem World.mkd_log (w : World) (c : Str) : (w.log c).metaKeepsData = w.metaKeepsData := rfl

@[simp] theorem World.enabled_put (w : World) (k : Str) (e : Entry) : (w.put k e).enabled = w.enabled := by
  unfold World.put; split <;> rfl
@[simp] theorem World.enabled_storeMeta (w : World) (k st : Str) : (w.storeMeta k st).enabled = w.enabled := by
  unfold World.storeMeta; split <;> simp
@[simp] theorem World.enabled_store (w : World) (st : EState) : (w.store st).enabled = w.enabled := by
  unfold World.store; simp
@[simp] theorem World.enabled_remove (w : World) (k : Str) : (w.remove k).enabled = w.enabled := rfl
@[simp] theorem World.enabled_log (w : World) (c : Str) : (w.log c).enabled = w.enabled := rfl

/-- `if useCache then cache.store_metadata(...)` -/
def World.metaIf (w : World) (uc : Bool) (k st : Str) : World := if uc then w.storeMeta k st else w

@[simp] theorem World.metaIf_true (w : World) (k st : Str) : w.metaIf true k st = w.storeMeta k st := rfl
@[simp] theorem World.metaIf_false (w : World) (k st : Str) : w.metaIf false k st = w := rfl
@[simp] theorem World.calls_metaIf (w : World) (uc : Bool) (k st : Str) : (w.metaIf uc k st).calls = w.calls := by
  cases uc <;> simp
@[simp] theorem World.enabled_metaIf (w : World) (uc : Bool) (k st : Str) : (w.metaIf uc k st).enabled = w.enabled := by
  cases uc <;> simp
@[simp] theorem World.mkd_metaIf (w : World) (uc : Bool) (k st : Str) :
    (w.metaIf uc k st).metaKeepsData = w.metaKeepsData := by
  cases uc <;> simp
theorem World.dataAt_metaIf {w : World} {uc : Bool} {k status k' : Str} {s : EState}
    (h : (w.metaIf uc k status).dataAt k' = some s) : w.dataAt k' = some s := by
  cases uc
  · exact h
  · exact World.dataAt_storeMeta h

/-- the global cache is `NoCache()`: disabled and without data -/
def World.NoCache (w : World) : Prop := w.enabled = false ∧ w.NoData

theorem World.NoCache.storeMeta {w : World} (h : w.NoCache) (k st : Str) : (w.storeMeta k st).NoCache := by
  unfold World.storeMeta; split <;> (rw [World.put_disabled h.1]; exact h)
theorem World.NoCache.metaIf {w : World} (h : w.NoCache) (uc : Bool) (k st : Str) : (w.metaIf uc k st).NoCache := by
  cases uc
  · exact h
  · exact h.storeMeta k st
theorem World.NoCache.store {w : World} (h : w.NoCache) (st : EState) : (w.store st).NoCache := by
  unfold World.store; rw [World.put_disabled h.1]; exact h
theorem World.NoCache.remove {w : World} (h : w.NoCache) (k : Str) : (w.remove k).NoCache := by
  refine ⟨h.1, fun k' => ?_⟩
  rw [World.dataAt_remove]; split
  · rfl
  · exact h.2 k'
theorem World.NoCache.log {w : World} (h : w.NoCache) (c : Str) : (w.log c).NoCache := h
theorem World.NoCache.get {w : World} (h : w.NoCache) (k : Str) : w.get k = none := World.get_of_NoData h.2 k

/-- `st` is, up to `status`, the fresh value of the key text `k`: the reference interpretation of `k` is successful,
non-volatile and has caching enabled (what `Sound` says of every data-bearing entry) -/
def FreshAt (env : Env) (k : Str) (st : EState) : Prop :=
  ∃ fuel st' c, refText env fuel k = (.st st', c) ∧ st'.isError = false ∧ st'.volatile = false ∧
    st'.caching = true ∧ st.core = st'.core

theorem Sound.get {env : Env} {w : World} (h : Sound env w) {k : Str} {st : EState} (hg : w.get k = some st) :
    FreshAt env k st :=
  h k st (World.dataAt_of_get hg)

theorem Sound.empty (env : Env) : Sound env {} := by
  intro k st h; simp [World.dataAt, World.entry] at h

theorem Sound.clean {env : Env} (w : World) : Sound env { w with cache := [] } := by
  intro k st h; simp [World.dataAt, World.entry] at h

theorem Sound.storeMeta {env : Env} {w : World} (h : Sound env w) (k status : Str) :
    Sound env (w.storeMeta k status) :=
  fun k' st hd => h k' st (World.dataAt_storeMeta hd)

theorem Sound.metaIf {env : Env} {w : World} (h : Sound env w) (uc : Bool) (k status : Str) :
    Sound env (w.metaIf uc k status) :=
  fun k' st hd => h k' st (World.dataAt_metaIf hd)

theorem Sound.remove {env : Env} {w : World} (h : Sound env w) (k : Str) : Sound env (w.remove k) := by
  intro k' st hd
  rw [World.dataAt_remove] at hd
  split at hd
  · simp at hd
  · exact h k' st hd

theorem Sound.log {env : Env} {w : World} (h : Sound env w) (c : Str) : Sound env (w.log c) :=
  fun k st hd => h k st hd

theorem Sound.store {env : Env} {w : World} (h : Sound env w) (st : EState)
    (href : FreshAt env st.query st) :
    Sound env (w.store st) := by
  intro k' s hd
  rcases World.dataAt_store hd with ⟨hk, hs⟩ | hd
  · subst hk; subst hs
    obtain ⟨fuel, st', c, h1, h2, h3, h4, h5⟩ := href
    exact ⟨fuel, st', c, h1, h2, h3, h4, by simpa using h5⟩
  · exact h k' s hd

theorem Sound.of_NoData {env : Env} {w : World} (h : w.NoData) : Sound env w := by
  intro k st hd; rw [h k] at hd; simp at hd

end Liquer
