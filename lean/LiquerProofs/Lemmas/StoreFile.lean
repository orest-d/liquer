/-
Helper lemmas about the path arithmetic of the `FileStore` model (`LiquerModel/StoreFile.lean`).
-/
import LiquerModel.StoreFile

namespace Liquer

theorem osResolve_plain (base : Path) (parts : List Str) (h : dotdot ∉ parts) :
    osResolve base parts = base ++ parts := by
  unfold osResolve
  induction parts generalizing base with
  | nil => simp
  | cons c parts ih =>
    have hc : (c == dotdot) = false := by
      rw [beq_eq_false_iff_ne]; intro e; exact h (e ▸ List.mem_cons_self)
    rw [List.foldl_cons]
    simp only [hc, Bool.false_eq_true, ↓reduceIte]
    rw [ih _ (fun hm => h (List.mem_cons_of_mem _ hm))]
    simp

theorem compsOK_iff (cs : List Str) :
    compsOK cs = true ↔ compsAbsolute cs = false ∧ dotdot ∉ compsParts cs := by
  unfold compsOK
  simp

theorem within_append (root : Path) (t : List Str) : within root (root ++ t) = true := by
  unfold within
  rw [List.isPrefixOf_iff_prefix]
  exact List.prefix_append _ _

/-- the two reserved names as lists of characters: unfolding `String.toList` is dear, so it is done here once -/
theorem metaDirName_eq : metaDirName = ['_', '_', 'm', 'e', 't', 'a', 'd', 'a', 't', 'a', '_', '_'] := by decide +kernel

theorem jsonExt_eq : jsonExt = ['.', 'j', 's', 'o', 'n'] := by decide +kernel

theorem metaDirName_ne_dotdot : metaDirName ≠ dotdot := by rw [metaDirName_eq]; decide

theorem jsonExt_ne_dotdot (nm : Str) : nm ++ jsonExt ≠ dotdot := by
  intro e
  have := congrArg List.length e
  simp [jsonExt_eq, dotdot] at this

theorem json_ne_meta (nm : Str) : nm ++ jsonExt ≠ metaDirName := by
  intro e
  have := congrArg List.getLast? e
  rw [jsonExt_eq, metaDirName_eq] at this
  simp at this

theorem keyOK_keyOfString (key : List Char) : compsOK (keyOfString key) = keyOK key := by
  unfold keyOfString keyOK
  cases key with
  | nil => decide
  | cons c cs => rfl

theorem metaKeyOK_keyOfString (key : List Char) : compsMetaOK (keyOfString key) = metaKeyOK key := by
  unfold keyOfString metaKeyOK
  cases key with
  | nil => decide
  | cons c cs => rfl

theorem compsOK_false_ne_nil {k : Key} (h : compsOK k = false) : k.isEmpty = false := by
  cases k with
  | nil => simp [compsOK, compsAbsolute, compsParts] at h
  | cons _ _ => rfl

/-- what `check_key` is for: an accepted key is resolved lexically, below the root -/
theorem pathOfC_ok (root : Path) {cs : List Str} (h : compsOK cs = true) : pathOfC root cs = root ++ compsParts cs := by
  obtain ⟨ha, hd⟩ := (compsOK_iff cs).mp h
  unfold pathOfC lexBase
  rw [ha, if_neg Bool.false_ne_true, osResolve_plain _ _ hd]

/-- the metadata file of the key `k`, relative to the root directory -/
def metaRel (k : Key) : List Str := k.dropLast ++ [metaDirName, keyName k ++ jsonExt]

theorem metaPathOfC_ok (root : Path) {cs : List Str} (h : compsMetaOK cs = true) :
    metaPathOfC root cs = root ++ metaRel (compsParts cs) := by
  unfold compsMetaOK at h
  rw [Bool.and_eq_true] at h
  obtain ⟨ha, hd⟩ := (compsOK_iff cs).mp h.1
  have hne : compsParts cs ≠ [] := by simpa using h.2
  unfold metaPathOfC lexBase metaRel keyName
  simp only [ha, Bool.false_eq_true, ↓reduceIte, List.getLast?_eq_some_getLast hne, Option.getD_some]
  refine osResolve_plain _ _ fun hm => ?_
  rcases List.mem_append.mp hm with h1 | h1
  · exact hd (List.dropLast_subset _ h1)
  · rw [List.mem_cons, List.mem_singleton] at h1
    rcases h1 with h1 | h1
    · exact metaDirName_ne_dotdot h1.symm
    · exact jsonExt_ne_dotdot _ h1.symm

end Liquer
