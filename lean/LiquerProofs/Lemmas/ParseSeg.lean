/-
Transform segments with a header, and `query_segment`.
-/
import LiquerProofs.Lemmas.ParsePath

namespace Liquer
open PS

variable {dec : List UInt8 → List Char}

theorem filename_head {f : Str} (hf : fullMatch Gen.filenameRe f = true) :
    ∃ c t, f = c :: t ∧ c ∉ Inst.delims := by
  obtain ⟨a, b, rfl, ha⟩ := filename_split hf
  cases h : a ++ '.' :: b with
  | nil => cases a <;> cases h
  | cons c t => exact ⟨c, t, rfl, fun hc => fnDot_head ha hc (by rw [h]; rfl)⟩

theorem bodyText_head {as : List Action} {f : Option Str} (hwfa : wfActions as = true)
    (hne : as ≠ [] ∨ f.isSome = true) (hwff : ∀ x, f = some x → fullMatch Gen.filenameRe x = true) :
    ∃ c t, bodyText T as f = c :: t ∧ c ∉ Inst.delims := by
  rw [bodyText_pieces hwfa]
  cases as with
  | nil =>
    cases f with
    | none => simp at hne
    | some fn => exact filename_head (hwff fn rfl)
  | cons a as' =>
    simp only [wfActions, Bool.and_eq_true] at hwfa
    obtain ⟨c, t, he, _, hc⟩ := action_enc_head hwfa.1
    exact ⟨c, _, by simp only [segPieces, encodeActions, List.cons_append, joinStr_cons, he]; rfl, hc⟩

/-- the part of a transform segment behind its header -/
def bodyTail (as : List Action) (f : Option Str) : Str :=
  if as.isEmpty && f.isNone then [] else '/' :: bodyText T as f

theorem bodyText_isEmpty {as : List Action} {f : Option Str} (hwfa : wfActions as = true)
    (hwff : ∀ x, f = some x → fullMatch Gen.filenameRe x = true) :
    (bodyText T as f).isEmpty = (as.isEmpty && f.isNone) := by
  by_cases hne : as ≠ [] ∨ f.isSome = true
  · obtain ⟨c, t, he, _⟩ := bodyText_head hwfa hne hwff
    rw [he]
    rcases hne with h | h
    · cases as with
      | nil => exact absurd rfl h
      | cons a as' => rfl
    · cases f with
      | none => cases h
      | some fn => simp
  · have h1 : as = [] := Decidable.byContradiction fun h => hne (Or.inl h)
    have h2 : f = none := by
      cases f with
      | none => rfl
      | some fn => exact absurd (Or.inr rfl) hne
    subst h1 h2
    rfl

theorem encode_headed_eq {name : Str} {lvl : Nat} {ps : List Param} {as : List Action} {f : Option Str}
    (hwf : wfSeg (.transform (some (.mk name lvl ps false)) as f) = true) :
    (Seg.transform (some (.mk name lvl ps false)) as f).encode T =
      List.replicate lvl '-' ++ (name ++ (encodeDashParams T ps ++ bodyTail as f)) := by
  obtain ⟨_, _, _, _, _, has, hwff⟩ := wfSeg_headed hwf
  rw [Seg.encode_headed, bodyText_isEmpty has hwff]
  simp only [Header.encode, bodyTail]
  split <;> simp

theorem dpStop_bodyTail (as : List Action) (f : Option Str) {rest : Str} (h : dpStop rest) :
    dpStop (bodyTail as f ++ rest) := by
  unfold bodyTail
  split
  · exact h
  · exact Or.inr ⟨_, rfl⟩

theorem kind_headed (name : Str) (lvl : Nat) (ps : List Param) (res : Bool) (as : List Action)
    (f : Option Str) :
    (Seg.transform (some (.mk name lvl ps res)) as f).kind =
      .tHeaded name.isEmpty (as.isEmpty && f.isNone) f.isSome := rfl

theorem adjacencyOK_tHeaded (b e x : Bool) : adjacencyOK [.tHeaded b e x] = !(b && e) := by
  cases b <;> cases e <;> rfl

/-- behind a bare header (no name) a `/` follows: the body, or the next segment, since a bare header
with an empty body cannot be the last segment -/
theorem bodyTail_slash {name : Str} {as : List Action} {f : Option Str} {mp : Bool} {rest : Str}
    (hf : Follow mp (!(name.isEmpty && (as.isEmpty && f.isNone))) rest) (hnm : name = []) :
    ∃ r, bodyTail as f ++ rest = '/' :: r := by
  unfold bodyTail
  split
  next hbe =>
    rcases hf with ⟨h1, _⟩ | ⟨r', rfl, _⟩
    · simp [hnm, hbe] at h1
    · exact ⟨r', rfl⟩
  · exact ⟨_, rfl⟩

theorem segIdent_spec {name : Str} {lvl : Nat} (ps : List Param) (hl : 1 ≤ lvl)
    (hname : transformHeaderNameOK name = true) (hbare : name = [] → ps = [])
    {X : Str} (hX : dpStop X) (hXb : name = [] → ∃ r, X = '/' :: r) (p : Nat)
    (hws : NoWs (List.replicate lvl '-' ++ (name ++ (encodeDashParams T ps ++ X)))) :
    parseSegIdent ⟨List.replicate lvl '-' ++ (name ++ (encodeDashParams T ps ++ X)), p⟩ =
      some ((lvl, name), ⟨encodeDashParams T ps ++ X, p + (List.replicate lvl '-' ++ name).length⟩) := by
  by_cases hnm : name = []
  · obtain ⟨r, rfl⟩ := hXb hnm
    cases hbare hnm
    subst hnm
    simp only [encodeDashParams, List.nil_append, List.append_nil] at hws ⊢
    exact parseSegIdent_bare hl hws
  · exact parseSegIdent_named hl (segIdTail_of_nameOK hname hnm) (pieceStop_dashParams ps hX) hws

theorem segWithHeader_spec (hd : DecOK dec) {N : Nat} (ih : LinkIH dec N) (name : Str) (lvl : Nat)
    (ps : List Param) (res : Bool) (as : List Action) (f : Option Str)
    (hwf : wfSeg (.transform (some (.mk name lvl ps res)) as f) = true) (rest : Str)
    (hf : Follow (plainMayFollow (Seg.transform (some (.mk name lvl ps res)) as f).kind)
      (adjacencyOK [(Seg.transform (some (.mk name lvl ps res)) as f).kind]) rest)
    (p n : Nat)
    (hws : NoWs ((Seg.transform (some (.mk name lvl ps res)) as f).encode T ++ rest))
    (hn : Fuel 6 ((Seg.transform (some (.mk name lvl ps res)) as f).encode T).length n N) :
    ∃ s' p', parseSegWithHeader dec n
        ⟨(Seg.transform (some (.mk name lvl ps res)) as f).encode T ++ rest, p⟩ = some (s', ⟨rest, p'⟩) ∧
      s'.erase = (Seg.transform (some (.mk name lvl ps res)) as f).erase := by
  obtain ⟨rfl, hl, hname, hbare, hps, has, hwff⟩ := wfSeg_headed hwf
  rw [kind_headed, adjacencyOK_tHeaded] at hf
  simp only [plainMayFollow] at hf
  rw [encode_headed_eq hwf] at hws hn ⊢
  simp only [List.append_assoc] at hws ⊢
  simp only [List.length_append] at hn
  obtain ⟨n, rfl⟩ := hn.pos
  have hX := dpStop_bodyTail as f hf.dpStop
  have hid := segIdent_spec ps hl hname hbare hX (bodyTail_slash hf) p hws
  have hw2 : NoWs (bodyTail as f ++ rest) := hws.right.right.right
  obtain ⟨ps', p2, hdp, hpe⟩ := dashParams_spec hd ih false ps hps (by simp) _ hX
    (p + (List.replicate lvl '-' ++ name).length) n hws.right.right
    (hn.sub (by omega) (by decide))
  by_cases hbe : (as.isEmpty && f.isNone) = true
  · -- empty body
    simp only [Bool.and_eq_true, List.isEmpty_iff, Option.isNone_iff_eq_none] at hbe
    obtain ⟨rfl, rfl⟩ := hbe
    simp only [bodyTail, List.isEmpty_nil, Option.isNone_none, Bool.and_self, ↓reduceIte,
      List.nil_append] at hdp hw2 hid ⊢
    refine ⟨.transform (some (.mk name lvl ps' false)) [] none, p2, ?_,
      by simp [Seg.erase, Header.erase, hpe, eraseActions]⟩
    rcases hf with ⟨_, hq⟩ | ⟨r', rfl, hr⟩
    · simp only [parseSegWithHeader, hid, hdp, lit_ne_head hw2 hq.noSlash]
    · rcases hr with hr | hr
      · simp at hr
      · obtain ⟨⟨t, rfl⟩, _⟩ := hr
        simp only [parseSegWithHeader, hid, hdp, lit_cons hw2,
          actionPath_fail hw2.tail (HeadIn.cons (by simp [Inst.delims]))]
  · -- a body follows
    have hbe' : (as.isEmpty && f.isNone) = false := Bool.eq_false_iff.mpr hbe
    have hne : as ≠ [] ∨ f.isSome = true := by
      cases as with
      | nil =>
        cases f with
        | none => simp at hbe'
        | some x => exact Or.inr rfl
      | cons a as' => exact Or.inl (by simp)
    simp only [bodyTail, hbe', Bool.false_eq_true, ↓reduceIte, List.cons_append] at hdp hw2 hid hn ⊢
    simp only [hbe', Bool.not_false, Bool.true_and] at hf
    simp only [List.length_cons] at hn
    obtain ⟨as', p3, hap, hae⟩ := actionPath_spec hd ih as f has hne hwff rest _ hf (p2 + 1) n
      hw2.tail (hn.sub (by omega) (by decide))
    refine ⟨.transform (some (.mk name lvl ps' false)) as' f, p3, ?_,
      by simp [Seg.erase, Header.erase, hpe, hae]⟩
    simp only [parseSegWithHeader, hid, hdp, lit_cons hw2, hap]

theorem seg_head (s : Seg) (hwf : wfSeg s = true) (hk : s.kind ≠ .rPlain) :
    ∃ c t, s.encode T = c :: t ∧ c ≠ '/' ∧ (s.header.isSome = true → c = '-') ∧
      (s.header.isSome = false → c ≠ '-') := by
  have hdash : ∀ (lvl : Nat) (x : Str), 1 ≤ lvl → ∃ t, List.replicate lvl '-' ++ x = '-' :: t
    | lvl + 1, x, _ => ⟨_, rfl⟩
  rcases seg_cases s with ⟨as, f, rfl⟩ | ⟨⟨name, lvl, ps, res⟩, as, f, rfl⟩ |
    ⟨⟨name, lvl, ps, res⟩, ns, rfl⟩ | ⟨ns, rfl⟩
  · obtain ⟨has, hne, hwff⟩ := wfSeg_plain hwf
    obtain ⟨c, t, he, hc⟩ := bodyText_head has hne hwff
    rw [Seg.encode_plain]
    exact ⟨c, t, he, fun e => hc (by simp [e, Inst.delims]), by simp [Seg.header],
      fun _ e => hc (by simp [e, Inst.delims])⟩
  · obtain ⟨rfl, hl, _⟩ := wfSeg_headed hwf
    obtain ⟨t, ht⟩ := hdash lvl _ hl
    exact ⟨'-', t, by rw [encode_headed_eq hwf, ht], by decide, fun _ => rfl, by simp [Seg.header]⟩
  · obtain ⟨rfl, hl, _⟩ := wfSeg_resHeaded hwf
    obtain ⟨t, ht⟩ := hdash lvl _ hl
    exact ⟨'-', t, by rw [encode_resHeaded_eq hwf, ht], by decide, fun _ => rfl, by simp [Seg.header]⟩
  · exact absurd rfl hk

theorem segWithHeader_none {s : PS} (h : parseSegIdent s = none) (n : Nat) :
    parseSegWithHeader dec n s = none := by
  cases n with
  | zero => rfl
  | succ n => simp only [parseSegWithHeader, h]

theorem seg_spec (hd : DecOK dec) {N : Nat} (ih : LinkIH dec N) (s : Seg)
    (hwf : wfSeg s = true) (hk : s.kind ≠ .rPlain) (rest : Str)
    (hf : Follow (plainMayFollow s.kind) (adjacencyOK [s.kind]) rest) (p n : Nat)
    (hws : NoWs (s.encode T ++ rest)) (hn : Fuel 7 (s.encode T).length n N) :
    ∃ s' p', parseSegment dec n ⟨s.encode T ++ rest, p⟩ = some (s', ⟨rest, p'⟩) ∧ s'.erase = s.erase := by
  obtain ⟨n, rfl⟩ := hn.pos
  have hn' : Fuel 6 (s.encode T).length n N := hn.sub (Nat.le_refl _) (by decide)
  rcases seg_cases s with ⟨as, f, rfl⟩ | ⟨⟨name, lvl, ps, res⟩, as, f, rfl⟩ |
    ⟨⟨name, lvl, ps, res⟩, ns, rfl⟩ | ⟨ns, rfl⟩
  case inr.inl =>
    obtain ⟨s', p', h1, h2⟩ := segWithHeader_spec hd ih name lvl ps res as f hwf rest hf p n hws hn'
    exact ⟨s', p', by simp only [parseSegment, h1], h2⟩
  case inl =>
    obtain ⟨has, hne, hwff⟩ := wfSeg_plain hwf
    rw [Seg.encode_plain] at hws hn' ⊢
    obtain ⟨c, t, he, hc⟩ := bodyText_head has hne hwff
    have hnd : (bodyText T as f ++ rest).head? ≠ some '-' := by
      rw [he]; exact fun e => hc (by rw [Option.some.inj e]; simp [Inst.delims])
    obtain ⟨as', p', h1, h2⟩ := actionPath_spec hd ih as f has hne hwff rest _ hf p n hws
      ⟨Nat.le_of_succ_le hn'.1, hn'.2⟩
    refine ⟨.transform none as' f, p', ?_, by simp [Seg.erase, h2]⟩
    simp only [parseSegment, segWithHeader_none (notSegStart_of_noDash hws hnd).1, h1]
  case inr.inr.inl =>
    obtain ⟨rfl, hl, _⟩ := wfSeg_resHeaded hwf
    obtain ⟨s', p', h1, h2⟩ := resSeg_spec hd ih name lvl ps true ns hwf rest _ hf p n hws hn'
    refine ⟨s', p', ?_, h2⟩
    rw [encode_resHeaded_eq hwf] at hws h1 ⊢
    simp only [List.append_assoc, List.cons_append] at hws h1 ⊢
    -- the first two alternatives of `query_segment` fail on `-…R…`
    have h3 := segWithHeader_none (dec := dec) (parseSegIdent_resource (p := p) hl hws) n
    have h4 : parseActionPath dec n ⟨List.replicate lvl '-' ++
        'R' :: (name ++ (encodeDashParams T ps ++ (resTail ns ++ rest))), p⟩ = none := by
      cases lvl with
      | zero => cases hl
      | succ k => exact actionPath_fail hws (HeadIn.cons (by simp [Inst.delims])) n p
    simp only [parseSegment, h3, h4, h1]
  case inr.inr.inr => exact absurd rfl hk

theorem headerStart_seg (s : Seg) (hwf : wfSeg s = true) (hh : s.header.isSome = true) (rest : Str)
    (hf : Follow (plainMayFollow s.kind) (adjacencyOK [s.kind]) rest)
    (hws : NoWs (s.encode T ++ rest)) : HeaderStart (s.encode T ++ rest) := by
  have hk : s.kind ≠ .rPlain := by
    intro e
    cases s with
    | transform h _ _ => cases h <;> cases e
    | resource h _ => cases h with
      | none => cases hh
      | some _ => cases e
  refine ⟨?_, fun p => ?_⟩
  · obtain ⟨c, t, he, _, hc, _⟩ := seg_head s hwf hk
    exact ⟨t ++ rest, by rw [he, hc hh]; rfl⟩
  · rcases seg_cases s with ⟨as, f, rfl⟩ | ⟨⟨name, lvl, ps, res⟩, as, f, rfl⟩ |
      ⟨⟨name, lvl, ps, res⟩, ns, rfl⟩ | ⟨ns, rfl⟩
    · cases hh
    · obtain ⟨rfl, hl, hname, hbare, _⟩ := wfSeg_headed hwf
      rw [kind_headed, adjacencyOK_tHeaded] at hf
      rw [encode_headed_eq hwf] at hws ⊢
      simp only [List.append_assoc] at hws ⊢
      simp [notSegStart, segIdent_spec ps hl hname hbare (dpStop_bodyTail as f hf.dpStop)
        (bodyTail_slash hf) p hws]
    · obtain ⟨rfl, hl, hname, _⟩ := wfSeg_resHeaded hwf
      rw [encode_resHeaded_eq hwf] at hws ⊢
      simp only [List.append_assoc, List.cons_append] at hws ⊢
      have hid := parseResIdent_ok (p := p) hl (resIdTail_of_nameOK hname)
        (pieceStop_dashParams ps (dpStop_resTail ns hf.dpStop)) (by simpa using hws)
      simp only [List.cons_append] at hid
      simp [notSegStart, hid]
    · cases hh

end Liquer
