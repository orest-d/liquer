/-
C10: the heap of LiquerModel/Iso.lean — `read`/`write`/`alloc`, extension by allocation (`HExt`), the cells an object owns and
what it means (which depends only on those cells) — and the copying functions: every copy is `Fresh` in the cells of its
result and preserves the meaning; `State.clone()` and `State()` are both instances of `freshState`.
-/
import LiquerModel.Iso

namespace Liquer.Iso

/-- addresses at or above the allocation pointer are unused -/
def Heap.WF (h : Heap) : Prop := ∀ a, h.next ≤ a → h.cells a = none

def Disj (l₁ l₂ : List Addr) : Prop := ∀ a, a ∈ l₁ → a ∈ l₂ → False

theorem Disj.symm {l₁ l₂ : List Addr} (h : Disj l₁ l₂) : Disj l₂ l₁ := fun a h2 h1 => h a h1 h2

theorem Disj.nil_left (l : List Addr) : Disj [] l := fun _ h _ => by cases h
theorem Disj.nil_right (l : List Addr) : Disj l [] := fun _ _ h => by cases h

theorem Disj.of_lt_le {l₁ l₂ : List Addr} {n : Nat} (h₁ : ∀ a ∈ l₁, a < n) (h₂ : ∀ a ∈ l₂, n ≤ a) : Disj l₁ l₂ :=
  fun a m₁ m₂ => Nat.lt_irrefl a (Nat.lt_of_lt_of_le (h₁ a m₁) (h₂ a m₂))

@[simp] theorem Heap.write_cells (h : Heap) (a : Addr) (c : Cell) (x : Addr) :
    (h.write a c).cells x = if x = a then some c else h.cells x := rfl
@[simp] theorem Heap.write_next (h : Heap) (a : Addr) (c : Cell) : (h.write a c).next = h.next := rfl
@[simp] theorem Heap.alloc_cells (h : Heap) (c : Cell) (x : Addr) :
    (h.alloc c).1.cells x = if x = h.next then some c else h.cells x := rfl
@[simp] theorem Heap.alloc_next (h : Heap) (c : Cell) : (h.alloc c).1.next = h.next + 1 := rfl
@[simp] theorem Heap.alloc_addr (h : Heap) (c : Cell) : (h.alloc c).2 = h.next := rfl

theorem Heap.write_cells_ne (h : Heap) {a x : Addr} (c : Cell) (n : x ≠ a) : (h.write a c).cells x = h.cells x :=
  if_neg n

theorem Heap.valAt_eq (h : Heap) (a : Addr) :
    h.valAt a = match h.cells a with | some (.val v) => v | _ => .none := rfl
theorem Heap.metaAt_eq (h : Heap) (a : Addr) :
    h.metaAt a = match h.cells a with | some (.md m) => m | _ => {} := rfl

theorem Heap.valAt_congr {h h' : Heap} {a : Addr} (e : h'.cells a = h.cells a) : h'.valAt a = h.valAt a := by
  rw [Heap.valAt_eq, Heap.valAt_eq, e]
theorem Heap.metaAt_congr {h h' : Heap} {a : Addr} (e : h'.cells a = h.cells a) : h'.metaAt a = h.metaAt a := by
  rw [Heap.metaAt_eq, Heap.metaAt_eq, e]

@[simp] theorem Heap.valAt_write_same (h : Heap) (a : Addr) (v : Val) : (h.write a (.val v)).valAt a = v := by
  simp [Heap.valAt_eq]
@[simp] theorem Heap.metaAt_write_same (h : Heap) (a : Addr) (m : MetaRec) : (h.write a (.md m)).metaAt a = m := by
  simp [Heap.metaAt_eq]
theorem Heap.valAt_write_ne (h : Heap) {a b : Addr} (c : Cell) (n : b ≠ a) : (h.write a c).valAt b = h.valAt b :=
  Heap.valAt_congr (h.write_cells_ne c n)
theorem Heap.metaAt_write_ne (h : Heap) {a b : Addr} (c : Cell) (n : b ≠ a) : (h.write a c).metaAt b = h.metaAt b :=
  Heap.metaAt_congr (h.write_cells_ne c n)
@[simp] theorem Heap.valAt_write_md (h : Heap) (a : Addr) (m : MetaRec) : (h.write a (.md m)).valAt a = .none := by
  simp [Heap.valAt_eq]
@[simp] theorem Heap.metaAt_write_val (h : Heap) (a : Addr) (v : Val) : (h.write a (.val v)).metaAt a = {} := by
  simp [Heap.metaAt_eq]

@[simp] theorem Heap.valAt_alloc_same (h : Heap) (v : Val) : (h.alloc (.val v)).1.valAt h.next = v := by
  simp [Heap.valAt_eq]
@[simp] theorem Heap.metaAt_alloc_same (h : Heap) (m : MetaRec) : (h.alloc (.md m)).1.metaAt h.next = m := by
  simp [Heap.metaAt_eq]

theorem Heap.WF.write {h : Heap} (w : h.WF) {a : Addr} (lt : a < h.next) (c : Cell) : (h.write a c).WF :=
  fun x hx => (h.write_cells_ne c (Nat.ne_of_gt (Nat.lt_of_lt_of_le lt hx))).trans (w x hx)

theorem Heap.WF.alloc {h : Heap} (w : h.WF) (c : Cell) : (h.alloc c).1.WF :=
  fun x hx => (if_neg (Nat.ne_of_gt hx)).trans (w x (Nat.le_of_succ_le hx))

/-- `h'` is `h` plus allocations: no cell that existed in `h` changed -/
structure HExt (h h' : Heap) : Prop where
  frame : ∀ a, a < h.next → h'.cells a = h.cells a
  mono : h.next ≤ h'.next
  wf : h.WF → h'.WF

theorem HExt.refl (h : Heap) : HExt h h := ⟨fun _ _ => rfl, Nat.le_refl _, id⟩

theorem HExt.trans {h₁ h₂ h₃ : Heap} (a : HExt h₁ h₂) (b : HExt h₂ h₃) : HExt h₁ h₃ :=
  ⟨fun x hx => by rw [b.frame x (Nat.lt_of_lt_of_le hx a.mono), a.frame x hx], Nat.le_trans a.mono b.mono,
   fun w => b.wf (a.wf w)⟩

theorem HExt.alloc (h : Heap) (c : Cell) : HExt h (h.alloc c).1 :=
  ⟨fun _ ha => if_neg (Nat.ne_of_lt ha), Nat.le_succ _, fun w => w.alloc c⟩

theorem HExt.valAt {h h' : Heap} (e : HExt h h') {a : Addr} (lt : a < h.next) : h'.valAt a = h.valAt a :=
  Heap.valAt_congr (e.frame a lt)
theorem HExt.metaAt {h h' : Heap} (e : HExt h h') {a : Addr} (lt : a < h.next) : h'.metaAt a = h.metaAt a :=
  Heap.metaAt_congr (e.frame a lt)

@[simp] theorem mem_cellsHV {v : HV} {a : Addr} : a ∈ cellsHV v ↔ v = .ref a := by
  cases v <;> simp [cellsHV, eq_comm]

theorem nodup_cellsHV (v : HV) : (cellsHV v).Nodup := by cases v <;> simp [cellsHV]

@[simp] theorem cellsVars_nil : cellsVars [] = [] := rfl
@[simp] theorem cellsVars_cons (k : Str) (v : HV) (vs : List (Str × HV)) :
    cellsVars ((k, v) :: vs) = cellsHV v ++ cellsVars vs := rfl
theorem cellsVars_append (a b : List (Str × HV)) : cellsVars (a ++ b) = cellsVars a ++ cellsVars b :=
  List.flatMap_append

theorem mem_cellsVars {vs : List (Str × HV)} {a : Addr} : a ∈ cellsVars vs ↔ ∃ k, (k, HV.ref a) ∈ vs := by
  simp only [cellsVars, List.mem_flatMap, mem_cellsHV]
  exact ⟨fun ⟨⟨k, _⟩, h, e⟩ => ⟨k, e ▸ h⟩, fun ⟨k, h⟩ => ⟨(k, .ref a), h, rfl⟩⟩

theorem mem_cellsState {h : Heap} {st : HState} {a : Addr} :
    a ∈ cellsState h st ↔ a ∈ cellsHV st.data ∨ a = st.md ∨ a ∈ cellsVars (h.metaAt st.md).vars := by
  simp only [cellsState, cellsMeta, List.mem_append, List.mem_cons]

theorem md_mem_cellsState (h : Heap) (st : HState) : st.md ∈ cellsState h st := mem_cellsState.2 (Or.inr (Or.inl rfl))

theorem data_mem_cellsState {h : Heap} {st : HState} {a : Addr} (m : a ∈ cellsHV st.data) : a ∈ cellsState h st :=
  mem_cellsState.2 (Or.inl m)

theorem vars_mem_cellsState {h : Heap} {st : HState} {a : Addr} (m : a ∈ cellsVars (h.metaAt st.md).vars) :
    a ∈ cellsState h st := mem_cellsState.2 (Or.inr (Or.inr m))

theorem cellsState_congr {h h' : Heap} {st : HState} (e : h'.cells st.md = h.cells st.md) :
    cellsState h' st = cellsState h st := by
  simp only [cellsState, cellsMeta, Heap.metaAt_congr e]

@[simp] theorem absVars_nil (h : Heap) : absVars h [] = [] := rfl
@[simp] theorem absVars_cons (h : Heap) (k : Str) (v : HV) (vs : List (Str × HV)) :
    absVars h ((k, v) :: vs) = (k, absHV h v) :: absVars h vs := rfl
theorem absVars_append (h : Heap) (a b : List (Str × HV)) : absVars h (a ++ b) = absVars h a ++ absVars h b :=
  List.map_append

theorem absHV_congr {h h' : Heap} {v : HV} (e : ∀ a ∈ cellsHV v, h'.cells a = h.cells a) : absHV h' v = absHV h v := by
  cases v with
  | imm v => rfl
  | ref a => exact Heap.valAt_congr (e a (mem_cellsHV.2 rfl))

theorem absVars_congr {h h' : Heap} {vs : List (Str × HV)} (e : ∀ a ∈ cellsVars vs, h'.cells a = h.cells a) :
    absVars h' vs = absVars h vs := by
  induction vs with
  | nil => rfl
  | cons kv vs ih =>
    obtain ⟨k, v⟩ := kv
    rw [absVars_cons, absVars_cons, absHV_congr (fun a ha => e a (List.mem_append_left _ ha)),
      ih (fun a ha => e a (List.mem_append_right _ ha))]

theorem absState_congr {h h' : Heap} {st : HState} (e : ∀ a ∈ cellsState h st, h'.cells a = h.cells a) :
    absState h' st = absState h st := by
  simp only [absState, Heap.metaAt_congr (e _ (md_mem_cellsState h st)),
    absHV_congr (fun a ha => e a (data_mem_cellsState ha)), absVars_congr (fun a ha => e a (vars_mem_cellsState ha))]

theorem absHV_write_notin {h : Heap} {a : Addr} {v : HV} (n : a ∉ cellsHV v) (c : Cell) :
    absHV (h.write a c) v = absHV h v :=
  absHV_congr (fun _ hx => h.write_cells_ne c (fun e => n (e ▸ hx)))

theorem absVars_write_notin {h : Heap} {a : Addr} {vs : List (Str × HV)} (n : a ∉ cellsVars vs) (c : Cell) :
    absVars (h.write a c) vs = absVars h vs :=
  absVars_congr (fun _ hx => h.write_cells_ne c (fun e => n (e ▸ hx)))

theorem absState_write_notin {h : Heap} {a : Addr} {st : HState} (n : a ∉ cellsState h st) (c : Cell) :
    absState (h.write a c) st = absState h st :=
  absState_congr (fun _ hx => h.write_cells_ne c (fun e => n (e ▸ hx)))

theorem cellsState_write_notin {h : Heap} {a : Addr} {c : Cell} {st : HState} (n : a ∉ cellsState h st) :
    cellsState (h.write a c) st = cellsState h st :=
  cellsState_congr (h.write_cells_ne c (fun e => n (e ▸ md_mem_cellsState h st)))

/-- `h'` is `h` plus allocations; `L` lists distinct cells allocated on the way -/
structure Fresh (h h' : Heap) (L : List Addr) : Prop where
  ext : HExt h h'
  rng : ∀ a ∈ L, h.next ≤ a ∧ a < h'.next
  nodup : L.Nodup

theorem Fresh.nil (h : Heap) : Fresh h h [] := ⟨HExt.refl h, fun _ m => (nomatch m), List.nodup_nil⟩

theorem Fresh.alloc (h : Heap) (c : Cell) : Fresh h (h.alloc c).1 [h.next] :=
  ⟨HExt.alloc h c, fun a m => by rw [List.mem_singleton.1 m]; exact ⟨Nat.le_refl _, Nat.lt_succ_self _⟩,
   List.pairwise_singleton _ _⟩

/-- allocations one after the other: the later cells lie above the earlier ones -/
theorem Fresh.append {h₁ h₂ h₃ : Heap} {L L' : List Addr} (f : Fresh h₁ h₂ L) (g : Fresh h₂ h₃ L') :
    Fresh h₁ h₃ (L ++ L') :=
  ⟨f.ext.trans g.ext,
   fun a m => (List.mem_append.1 m).elim
     (fun m => ⟨(f.rng a m).1, Nat.lt_of_lt_of_le (f.rng a m).2 g.ext.mono⟩)
     (fun m => ⟨Nat.le_trans f.ext.mono (g.rng a m).1, (g.rng a m).2⟩),
   List.nodup_append.2 ⟨f.nodup, g.nodup, fun a m b m' e =>
     Nat.lt_irrefl a (Nat.lt_of_lt_of_le (f.rng a m).2 (e ▸ (g.rng b m').1))⟩⟩

theorem Fresh.perm {h h' : Heap} {L L' : List Addr} (f : Fresh h h' L) (p : L.Perm L') : Fresh h h' L' :=
  ⟨f.ext, fun a m => f.rng a (p.mem_iff.2 m), p.nodup_iff.1 f.nodup⟩

theorem copyHV_fresh (h : Heap) (v : HV) : Fresh h (copyHV h v).1 (cellsHV (copyHV h v).2) := by
  cases v with
  | imm v => exact Fresh.nil h
  | ref a => exact Fresh.alloc h _

theorem copyHV_abs (h : Heap) (v : HV) : absHV (copyHV h v).1 (copyHV h v).2 = absHV h v := by
  cases v with
  | imm v => rfl
  | ref a => exact Heap.valAt_alloc_same h _

theorem copyVars_cons (h : Heap) (k : Str) (v : HV) (rest : List (Str × HV)) :
    copyVars h ((k, v) :: rest) =
      ((copyVars (copyHV h v).1 rest).1, (k, (copyHV h v).2) :: (copyVars (copyHV h v).1 rest).2) := rfl

theorem copyVars_fresh (vs : List (Str × HV)) : ∀ h, Fresh h (copyVars h vs).1 (cellsVars (copyVars h vs).2) := by
  induction vs with
  | nil => exact Fresh.nil
  | cons kv vs ih => exact fun h => (copyHV_fresh h kv.2).append (ih _)

theorem copyVars_keys (vs : List (Str × HV)) : ∀ h, (copyVars h vs).2.map Prod.fst = vs.map Prod.fst := by
  induction vs with
  | nil => exact fun _ => rfl
  | cons kv vs ih => exact fun h => congrArg (kv.1 :: ·) (ih _)

theorem copyVars_abs (vs : List (Str × HV)) :
    ∀ h, (∀ a ∈ cellsVars vs, a < h.next) → absVars (copyVars h vs).1 (copyVars h vs).2 = absVars h vs := by
  induction vs with
  | nil => exact fun _ _ => rfl
  | cons kv vs ih =>
    obtain ⟨k, v⟩ := kv
    intro h lt
    have f := copyHV_fresh h v
    have g := copyVars_fresh vs (copyHV h v).1
    rw [copyVars_cons, absVars_cons, absVars_cons, ih _ (fun a m => Nat.lt_of_lt_of_le (lt a (List.mem_append_right _ m)) f.ext.mono),
      absVars_congr (fun a m => f.ext.frame a (lt a (List.mem_append_right _ m))),
      absHV_congr (fun a m => g.ext.frame a (f.rng a m).2), copyHV_abs]

/-- a new dictionary cell with the record `m` over copies of the variables `vs`, then a copy of the data `d` -/
def freshState (h : Heap) (m : MetaRec) (vs : List (Str × HV)) (d : HV) : Heap × HState :=
  let hv := copyVars h vs
  let hm := hv.1.alloc (.md { m with vars := hv.2 })
  let hd := copyHV hm.1 d
  (hd.1, { data := hd.2, md := hm.2 })

theorem copyMeta_eq (h : Heap) (a : Addr) :
    copyMeta h a = ((copyVars h (h.metaAt a).vars).1.alloc (.md { h.metaAt a with vars := (copyVars h (h.metaAt a).vars).2 })) :=
  rfl

theorem cloneState_eq (h : Heap) (st : HState) :
    cloneState h st = freshState h (h.metaAt st.md) (h.metaAt st.md).vars st.data := rfl

theorem initialState_eq (w : World) :
    initialState w = ({ w with heap := (freshState w.heap {} w.defaults (.imm .none)).1 },
      (freshState w.heap {} w.defaults (.imm .none)).2) := rfl

section
variable (h : Heap) (m : MetaRec) (vs : List (Str × HV)) (d : HV)

theorem freshState_metaAt :
    (freshState h m vs d).1.metaAt (freshState h m vs d).2.md = { m with vars := (copyVars h vs).2 } :=
  ((copyHV_fresh _ d).ext.metaAt (Nat.lt_succ_self _)).trans (Heap.metaAt_alloc_same _ _)

theorem freshState_fresh : Fresh h (freshState h m vs d).1 (cellsState (freshState h m vs d).1 (freshState h m vs d).2) := by
  have f := ((copyVars_fresh vs h).append (Fresh.alloc _ (.md { m with vars := (copyVars h vs).2 }))).append
    (copyHV_fresh _ d)
  refine f.perm ?_
  rw [cellsState, cellsMeta, freshState_metaAt]
  exact (List.perm_append_comm.append_right _).trans List.perm_append_comm

theorem freshState_abs (lv : ∀ a ∈ cellsVars vs, a < h.next) (ld : ∀ a ∈ cellsHV d, a < h.next) :
    absHV (freshState h m vs d).1 (freshState h m vs d).2.data = absHV h d ∧
      absVars (freshState h m vs d).1 (copyVars h vs).2 = absVars h vs := by
  have f := copyVars_fresh vs h
  have g := HExt.alloc (copyVars h vs).1 (.md { m with vars := (copyVars h vs).2 })
  constructor
  · exact (copyHV_abs _ d).trans (absHV_congr (fun a ma => (f.ext.trans g).frame a (ld a ma)))
  · rw [← copyVars_abs vs h lv]
    exact absVars_congr (fun a ma => (g.trans (copyHV_fresh _ d).ext).frame a (f.rng a ma).2)

end

theorem cloneState_fresh (h : Heap) (st : HState) :
    Fresh h (cloneState h st).1 (cellsState (cloneState h st).1 (cloneState h st).2) :=
  cloneState_eq h st ▸ freshState_fresh h _ _ _

theorem initialState_fresh (w : World) :
    Fresh w.heap (initialState w).1.heap (cellsState (initialState w).1.heap (initialState w).2) :=
  freshState_fresh w.heap {} w.defaults (.imm .none)

end Liquer.Iso
