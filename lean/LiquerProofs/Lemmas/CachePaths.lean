/-
The paths of `StoreCache.to_path`.  The store sees `key.split("/")`, which determines the string (`intercalate_splitSlash`), so
facts on paths are facts on the strings `pathStr`.  For a cache path that does not start with `/` the string is
`<path>/<entry>` (just `<entry>` for the empty path, `pathStr_of_noslash`); hence both schemes are injective on *all* key
strings, every entry lies below `<path>/` (what `keys()` and `clean()` test) and is none of the directories the
constructor makes; the flat scheme is also prefix-free.
-/
import LiquerModel.CacheStoreBacked
import LiquerProofs.Lemmas.StoreAL

namespace Liquer
namespace StoreC

theorem splitSlash_ne_nil (s : Str) : splitSlash s ≠ [] := by
  cases s with
  | nil => exact List.cons_ne_nil _ _
  | cons c cs =>
    rw [splitSlash]
    split
    · exact List.cons_ne_nil _ _
    · split <;> exact List.cons_ne_nil _ _

theorem splitSlash_isEmpty (s : Str) : (splitSlash s).isEmpty = false := by
  cases h : splitSlash s with
  | nil => exact absurd h (splitSlash_ne_nil s)
  | cons a b => rfl

theorem toPath_isEmpty (c : StoreCCfg) (k : Str) : (toPath c k).isEmpty = false := splitSlash_isEmpty _

theorem intercalate_splitSlash (s : Str) : List.intercalate ['/'] (splitSlash s) = s := by
  induction s with
  | nil => rfl
  | cons c cs ih =>
    rw [splitSlash]
    cases h : splitSlash cs with
    | nil => exact absurd h (splitSlash_ne_nil cs)
    | cons w ws =>
      rw [h] at ih
      dsimp only
      split
      · next hc => subst hc; rw [← ih]; cases ws <;> rfl
      · rw [← ih]; cases ws <;> rfl

theorem splitSlash_injective (a b : Str) (h : splitSlash a = splitSlash b) : a = b := by
  rw [← intercalate_splitSlash a, ← intercalate_splitSlash b, h]

theorem strStartsWith_splitSlash (s pre : Str) : strStartsWith (splitSlash s) pre = pre.isPrefixOf s := by
  rw [strStartsWith, intercalate_splitSlash]

theorem splitSlash_length (s : Str) : (splitSlash s).length = s.count '/' + 1 := by
  induction s with
  | nil => rfl
  | cons c cs ih =>
    rw [splitSlash]
    cases h : splitSlash cs with
    | nil => exact absurd h (splitSlash_ne_nil cs)
    | cons w ws =>
      rw [h] at ih
      dsimp only
      split
      · next hc => subst hc; rw [List.count_cons_self, ← ih]; rfl
      · next hc => rw [List.count_cons_of_ne hc, ← ih]; rfl

theorem not_mem_ancestors_of_length (p q : Key) (h : q.length ≤ p.length) : p ∉ ancestors q :=
  fun hm => ancestors_ne_self hm ((ancestors_prefix hm).eq_of_length_le h)

/-- what `to_path` puts below the cache path -/
def entry (c : StoreCCfg) (k : Str) : Str :=
  if c.flat then "0state_".toList ++ c.h k ++ ".data".toList else k ++ "/0state_.data".toList

theorem pathStr_eq (c : StoreCCfg) (k : Str) : pathStr c k = stripSlash (c.path ++ '/' :: entry c k) := by
  have h : "/0state_".toList = '/' :: "0state_".toList := by decide +kernel
  unfold pathStr entry
  cases c.flat
  · simp only [Bool.false_eq_true, if_false, List.append_assoc, List.cons_append, List.nil_append]
  · simp only [if_true, h, List.append_assoc, List.cons_append]

theorem entry_ne_nil (c : StoreCCfg) (k : Str) : entry c k ≠ [] := by
  unfold entry
  split
  · exact List.append_ne_nil_of_left_ne_nil (List.append_ne_nil_of_left_ne_nil (by decide +kernel) _) _
  · exact List.append_ne_nil_of_right_ne_nil _ (by decide +kernel)

theorem entry_injective (c : StoreCCfg) (hinj : c.flat = true → ∀ a b, c.h a = c.h b → a = b) (a b : Str)
    (h : entry c a = entry c b) : a = b := by
  unfold entry at h
  split at h
  · next hf => exact hinj hf _ _ (List.append_cancel_left (List.append_cancel_right h))
  · exact List.append_cancel_right h

section noslash
variable (c : StoreCCfg) (hpath : ∀ r, c.path ≠ '/' :: r)
include hpath

/-- `to_path` strips nothing from a cache path that does not start with `/` (of the empty path only the separator) -/
theorem pathStr_of_noslash (k : Str) : pathStr c k = if c.path.isEmpty then entry c k else c.path ++ '/' :: entry c k := by
  rw [pathStr_eq]
  cases hp : c.path with
  | nil => rfl
  | cons c0 r =>
    have hc : c0 ≠ '/' := fun e => hpath r (by rw [hp, e])
    unfold stripSlash
    split
    · next heq => exact absurd (List.cons.inj heq).1 hc
    · rfl

theorem toPath_injective (hinj : c.flat = true → ∀ a b, c.h a = c.h b → a = b) (a b : Str) (h : toPath c a = toPath c b) : a = b := by
  have h' := splitSlash_injective _ _ h
  rw [pathStr_of_noslash c hpath, pathStr_of_noslash c hpath] at h'
  split at h'
  · exact entry_injective c hinj a b h'
  · exact entry_injective c hinj a b (List.cons.inj (List.append_cancel_left h')).2

/-- every entry lies below `<path>/`: the test of `keys()` … -/
theorem pref_keys (k : Str) : (c.path.isEmpty || strStartsWith (toPath c k) (c.path ++ ['/'])) = true := by
  rw [toPath, strStartsWith_splitSlash, pathStr_of_noslash c hpath]
  cases c.path.isEmpty with
  | true => rfl
  | false => exact List.isPrefixOf_iff_prefix.2 ⟨entry c k, by simp⟩

/-- … and the test of `clean()` -/
theorem pref_clean (k : Str) : strStartsWith (toPath c k) (if c.path.isEmpty then [] else c.path ++ ['/']) = true := by
  have := pref_keys c hpath k
  cases he : c.path.isEmpty with
  | true => rfl
  | false => rwa [he] at this

/-- no entry path is the cache directory or one of the directories above it -/
theorem toPath_not_init (k : Str) : toPath c k ∉ ancestors (splitSlash c.path) ++ [splitSlash c.path] := by
  have hs := pathStr_of_noslash c hpath k
  cases he : c.path.isEmpty with
  | true =>
    rw [he, if_pos rfl] at hs
    rw [List.isEmpty_iff.1 he, toPath, hs]
    exact fun h => entry_ne_nil c k (splitSlash_injective _ [] (List.mem_singleton.1 h))
  | false =>
    rw [he, if_neg Bool.false_ne_true] at hs
    have hlen : (splitSlash c.path).length < (toPath c k).length := by
      rw [toPath, hs, splitSlash_length, splitSlash_length, List.count_append, List.count_cons_self]
      omega
    intro hm
    rcases List.mem_append.1 hm with h | h
    · exact not_mem_ancestors_of_length _ _ (Nat.le_of_lt hlen) h
    · exact Nat.lt_irrefl _ (List.mem_singleton.1 h ▸ hlen)

/-- the flat scheme is prefix-free when the digest contains no `/`: all paths have the same length -/
theorem toPath_flat_prefixFree (hf : c.flat = true) (hslash : ∀ k, '/' ∉ c.h k) (a b : Str) :
    toPath c a ∉ ancestors (toPath c b) := by
  apply not_mem_ancestors_of_length
  have hlen : ∀ k, (toPath c k).length = (if c.path.isEmpty then [] else c.path ++ ['/']).count '/' + 1 := fun k => by
    have he : (entry c k).count '/' = 0 := by
      rw [entry, if_pos hf, List.count_append, List.count_append, List.count_eq_zero.2 (hslash k)]
      decide +kernel
    rw [toPath, splitSlash_length, pathStr_of_noslash c hpath]
    split
    · rw [he]; rfl
    · rw [List.count_append, List.count_append, List.count_cons_self, he]; rfl
  rw [hlen a, hlen b]
  exact Nat.le_refl _

end noslash

theorem noslash_of_head {p : Str} {c0 : Char} {r : Str} (hp : p = c0 :: r) (hc : c0 ≠ '/') (r' : Str) : p ≠ '/' :: r' :=
  fun e => hc (List.cons.inj (hp.symm.trans e)).1

end StoreC
end Liquer
