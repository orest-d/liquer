/-
The simulation between the `FileStore` model and the reference store: `SimF` is preserved by the
building blocks of the writes (directories on the way, the `__metadata__` folder, a change of one key, removal of
the folder) and by `store`, `store_metadata`, `remove`, `makedir` and the last phase of `removedir`.
-/
import LiquerProofs.Lemmas.StoreFileRef

namespace Liquer

attribute [local irreducible] metaDirName jsonExt

variable {root : Path} {s : PFS} {fs : FS}

theorem Just.mono {fs fs' : FS} {t : List Str} {x : PNode} (h : Just fs t x)
    (hm : ∀ q n, fs.get q = some n → fs'.get q = some n) : Just fs' t x := by
  cases h with
  | dir h' hx => exact .dir (hm _ _ h') hx
  | file d m h' hx => exact .file d m (hm _ _ h') hx
  | mdir k ht hx hk => exact .mdir k ht hx (hk.imp id (hm _ _))
  | mfile k d m ht hx hk => exact .mfile k d m ht hx (hm _ _ hk)

/-- a justification does not depend on the binding of `k`, unless it is that of `k`, of its metadata file or of
its `__metadata__` folder -/
theorem Just.of_agree {fs fs' : FS} {k : Key} {t : List Str} {x : PNode} (h : Just fs t x)
    (hag : ∀ q, q ≠ k → fs'.get q = fs.get q) (h1 : t ≠ k) (h2 : t ≠ metaRel k) (h3 : t ≠ k ++ [metaDirName]) :
    Just fs' t x := by
  cases h with
  | dir h' hx => exact .dir (by rw [hag _ h1]; exact h') hx
  | file d m h' hx => exact .file d m (by rw [hag _ h1]; exact h') hx
  | mdir k' ht hx hk =>
    have : k' ≠ k := fun e => h3 (e ▸ ht)
    exact .mdir k' ht hx (hk.imp id (fun e => by rw [hag _ this]; exact e))
  | mfile k' d m ht hx hk =>
    have : k' ≠ k := fun e => h2 (e ▸ ht)
    exact .mfile k' d m ht hx (by rw [hag _ this]; exact hk)

theorem root_append_ne (root : Path) {a b : List Str} (h : a ≠ b) : root ++ a ≠ root ++ b :=
  fun e => h ((root_append_inj root).mp e)

theorem plain_ne_metaRel {k' : Key} (hm : metaDirName ∉ k') (k : Key) : k' ≠ metaRel k :=
  fun e => hm (e ▸ meta_mem_metaRel k)

theorem plain_ne_mdir {k' : Key} (hm : metaDirName ∉ k') (k : Key) : k' ≠ k ++ [metaDirName] :=
  fun e => hm (e ▸ List.mem_append_right _ List.mem_cons_self)

theorem dropLast_ne_self {k : Key} (hk : k ≠ []) : k.dropLast ≠ k := by
  intro e
  have := congrArg List.length e
  rw [List.length_dropLast] at this
  have : 0 < k.length := List.length_pos_iff.mpr hk
  omega

theorem plainFS_mkdirs (hp : PlainFS fs) (ks : List Key) (hks : ∀ a ∈ ks, PlainKey a) : PlainFS (fs.mkdirs ks) := by
  intro q hq
  rw [FS.get_mkdirs] at hq
  by_cases c : q ∈ ks ∧ fs.get q = none
  · exact hks q c.1
  · rw [if_neg c] at hq; exact hp q hq

theorem mkdirs_mono (fs : FS) (ks : List Key) (q : Key) (n : Node) (h : fs.get q = some n) : (fs.mkdirs ks).get q = some n := by
  rw [FS.get_mkdirs, if_neg (by rw [h]; simp), h]

theorem simF_mkdirP_data (h : SimF root s fs) {k : Key} (hk : PlainKey k) (ks : List Key)
    (hks : ∀ a, a ∈ ks ↔ a ≠ [] ∧ a <+: k) (hnf : ∀ a ∈ ks, fs.get a = none ∨ fs.get a = some .dir) :
    ∃ s', s.mkdirP (root ++ k) = .ok s' ∧ SimF root s' (fs.mkdirs ks) := by
  -- below the root the walk meets paths without `__metadata__` component: they are as the bindings say
  have hdata : ∀ t, t ≠ [] → t <+: k → s.get (root ++ t) = dnode (fs.get t) := fun t ht0 htk =>
    h.get_data ht0 fun hm => hk.no_meta (htk.subset hm)
  have hpre : ∀ a, a ≠ [] → a <+: root ++ k → s.get a = none ∨ s.get a = some .dir := by
    intro a _ ha
    rcases prefix_root_cases ha with h1 | ⟨t, ht0, rfl, htk⟩
    · exact Or.inr (h.ready a h1)
    · rw [hdata t ht0 htk]
      rcases hnf t ((hks t).mpr ⟨ht0, htk⟩) with e | e <;> rw [e] <;> simp [dnode]
  obtain ⟨s', h1, hget, h3⟩ := PFS.mkdirP_spec s (root ++ k) hpre
  have hmono : ∀ q x, s.get q = some x → s'.get q = some x := fun q x hq => by
    rw [hget, if_neg (by rw [hq]; simp), hq]
  -- a new node is a directory at a new binding
  have hnew : ∀ t, t ≠ [] → root ++ t <+: root ++ k → s.get (root ++ t) = none → t ∈ ks ∧ fs.get t = none := by
    intro t ht0 hpt hsn
    have htk : t <+: k := (List.prefix_append_right_inj root).mp hpt
    refine ⟨(hks t).mpr ⟨ht0, htk⟩, ?_⟩
    rw [hdata t ht0 htk] at hsn
    cases hg : fs.get t with
    | none => rfl
    | some n => rw [hg] at hsn; cases n <;> cases hsn
  refine ⟨s', h1, h3 h.nd, fun a ha => hmono _ _ (h.ready a ha), ?_, ?_, ?_⟩
  · intro k' hk'
    rw [FS.get_mkdirs] at hk'
    by_cases c : k' ∈ ks ∧ fs.get k' = none
    · obtain ⟨hk0, hkp⟩ := (hks k').mp c.1
      rw [hget, if_pos ⟨(List.prefix_append_right_inj root).mpr hkp, by rw [hdata k' hk0 hkp, c.2]; rfl⟩]
    · rw [if_neg c] at hk'
      exact hmono _ _ (h.cdir k' hk')
  · intro k' d m hk'
    rw [FS.get_mkdirs] at hk'
    by_cases c : k' ∈ ks ∧ fs.get k' = none
    · rw [if_pos c] at hk'; cases hk'
    · rw [if_neg c] at hk'
      exact (h.cfile k' d m hk').imp (hmono _ _) (hmono _ _)
  · intro t x ht0 hs
    rw [hget] at hs
    by_cases c : root ++ t <+: root ++ k ∧ s.get (root ++ t) = none
    · rw [if_pos c] at hs
      refine .dir ?_ (Option.some.inj hs).symm
      rw [FS.get_mkdirs, if_pos (hnew t ht0 c.1 c.2)]
    · rw [if_neg c] at hs
      exact (h.sound t x ht0 hs).mono (mkdirs_mono fs ks)

theorem mdir_path (root : Path) (k : Key) : root ++ (k ++ [metaDirName]) = (root ++ k) ++ [metaDirName] :=
  (List.append_assoc _ _ _).symm

theorem SimF.mdir_prefix (h : SimF root s fs) (hp : PlainFS fs) (ht : FS.Tree fs) {k : Key} (hd : k = [] ∨ fs.get k = some .dir)
    {a : Path} (ha : a <+: root ++ (k ++ [metaDirName])) :
    s.get a = some .dir ∨ (a = root ++ (k ++ [metaDirName]) ∧ s.get a = none) := by
  rw [mdir_path] at ha ⊢
  rcases List.prefix_concat_iff.mp ha with e | e
  · rw [e, ← mdir_path]
    exact (h.mdir_absent_or_dir hp k).symm.imp_right fun c => ⟨rfl, c⟩
  · exact Or.inl (h.chain ht hd a e)

theorem SimF.noFile_mdir (h : SimF root s fs) (hp : PlainFS fs) (ht : FS.Tree fs) {k : Key} (hd : k = [] ∨ fs.get k = some .dir) :
    s.NoFile (root ++ (k ++ [metaDirName])) :=
  fun _ _ ha => (h.mdir_prefix hp ht hd ha).symm.imp And.right id

theorem simF_mkdirP_mdir (h : SimF root s fs) (hp : PlainFS fs) (ht : FS.Tree fs) {k : Key} (hd : k = [] ∨ fs.get k = some .dir) :
    ∃ s', s.mkdirP (root ++ (k ++ [metaDirName])) = .ok s' ∧ SimF root s' fs := by
  obtain ⟨s', h1, hget, h3⟩ := PFS.mkdirP_spec s _ (h.noFile_mdir hp ht hd)
  have hmono : ∀ q x, s.get q = some x → s'.get q = some x := fun q x hq => by
    rw [hget, if_neg (by rw [hq]; simp), hq]
  refine ⟨s', h1, h3 h.nd, fun a ha => hmono _ _ (h.ready a ha), fun k' hk' => hmono _ _ (h.cdir k' hk'),
    fun k' d m hk' => (h.cfile k' d m hk').imp (hmono _ _) (hmono _ _), fun t x ht0 hs => ?_⟩
  rw [hget] at hs
  split at hs
  · next c =>
    rcases h.mdir_prefix hp ht hd c.1 with e | e
    · rw [e] at c; cases c.2
    · exact .mdir k ((root_append_inj root).mp e.1) (Option.some.inj hs).symm hd
  · exact h.sound t x ht0 hs

/-- `SimF` after a change of the binding of one plain key `k` that is or becomes a file or nothing (`hnomd`: `k` holds no
`__metadata__` folder), given the new nodes at `k` (`hdata`), at its metadata file (`hmeta`) and at its parent's
`__metadata__` folder (`hmdir`); every other node is as before (`hs`) and keeps its justification -/
theorem SimF.update_key (h : SimF root s fs) (hp : PlainFS fs) (ht : FS.Tree fs) {k : Key} (hk0 : k ≠ []) (hk : PlainKey k)
    {fs' : FS} (hfs : ∀ q, q ≠ k → fs'.get q = fs.get q) {s' : PFS} (hnd : s'.ND)
    (hs : ∀ q, q ≠ root ++ k → q ≠ root ++ metaRel k → q ≠ root ++ (k.dropLast ++ [metaDirName]) → s'.get q = s.get q)
    (hdata : s'.get (root ++ k) = dnode (fs'.get k)) (hmeta : s'.get (root ++ metaRel k) = mnode (fs'.get k))
    (hmdir : s'.get (root ++ (k.dropLast ++ [metaDirName])) = s.get (root ++ (k.dropLast ++ [metaDirName])) ∨
      (s'.get (root ++ (k.dropLast ++ [metaDirName])) = some .dir ∧ (k.dropLast = [] ∨ fs'.get k.dropLast = some .dir)))
    (hnomd : s.get (root ++ (k ++ [metaDirName])) = none) : SimF root s' fs' := by
  -- the nodes of another bound key are none of the three
  have hother : ∀ {k' : Key} {n : Node}, k' ≠ k → fs.get k' = some n → s'.get (root ++ k') = s.get (root ++ k') :=
    fun hkk hg => hs _ (root_append_ne root hkk) (root_append_ne root (plain_ne_metaRel (hp.no_meta hg) k)) (root_append_ne root (plain_ne_mdir (hp.no_meta hg) _))
  refine ⟨hnd, ?_, ?_, ?_, ?_⟩
  · intro a ha
    rw [hs a (prefix_root_ne ha hk0) (prefix_root_ne ha (metaRel_ne_nil k)) (prefix_root_ne ha (List.concat_ne_nil _ _))]
    exact h.ready a ha
  · intro k' hk'
    by_cases e : k' = k
    · rw [e, hdata, ← e, hk']; rfl
    · rw [hfs _ e] at hk'
      rw [hother e hk']; exact h.cdir k' hk'
  · intro k' d m hk'
    by_cases e : k' = k
    · subst e; rw [hdata, hmeta, hk']; exact ⟨rfl, rfl⟩
    · rw [hfs _ e] at hk'
      have hk0' : k' ≠ [] := ht.nonroot k' (by rw [hk']; rfl)
      rw [hother e hk', hs _ (root_append_ne root (fun e' => plain_ne_metaRel hk.no_meta k' e'.symm))
        (root_append_ne root fun e' => e (metaRel_inj hk0' hk0 e')) (root_append_ne root (metaRel_ne_mdir k' _))]
      exact h.cfile k' d m hk'
  · intro t x ht0 hx
    by_cases e1 : t = k
    · subst e1
      rw [hdata] at hx
      cases hg : fs'.get t with
      | none => rw [hg] at hx; cases hx
      | some n =>
        rw [hg] at hx
        cases n with
        | dir => exact .dir hg (Option.some.inj hx).symm
        | file d m => exact .file d m hg (Option.some.inj hx).symm
    · by_cases e2 : t = metaRel k
      · subst e2
        rw [hmeta] at hx
        cases hg : fs'.get k with
        | none => rw [hg] at hx; cases hx
        | some n =>
          rw [hg] at hx
          cases n with
          | dir => cases hx
          | file d m => exact .mfile k d m rfl (Option.some.inj hx).symm hg
      · have hagree : ∀ {y}, s.get (root ++ t) = some y → Just fs' t y := fun hy =>
          (h.sound t _ ht0 hy).of_agree hfs e1 e2 fun e3 => by rw [e3, hnomd] at hy; cases hy
        by_cases e3 : t = k.dropLast ++ [metaDirName]
        · subst e3
          rcases hmdir with hm | ⟨hm, hpar⟩
          · exact hagree (hm ▸ hx)
          · rw [hm] at hx
            exact .mdir k.dropLast rfl (Option.some.inj hx).symm hpar
        · exact hagree (hs _ (root_append_ne root e1) (root_append_ne root e2) (root_append_ne root e3) ▸ hx)

/-- `SimF` after `k` became the file `d`, `m`; `hget`: the POSIX tree `s'` that `write` of the data file followed by
`store_metadata` leaves (metadata file, the `__metadata__` folder on the way where it was missing, data file) -/
theorem simF_setFile (h : SimF root s fs) (hp : PlainFS fs) (ht : FS.Tree fs) {k : Key} (hk0 : k ≠ []) (hk : PlainKey k)
    (d : Data) (m : UMeta) (hndir : fs.get k ≠ some .dir) (hpar : k.dropLast = [] ∨ fs.get k.dropLast = some .dir)
    {s' : PFS} (hnd : s'.ND)
    (hget : ∀ q, s'.get q =
      if q = root ++ metaRel k then some (.mfile m)
      else if q <+: root ++ (k.dropLast ++ [metaDirName]) ∧ s.get q = none then some .dir
      else if q = root ++ k then some (.dfile d) else s.get q) :
    SimF root s' (fs.set k (.file d m)) := by
  -- on the way to the folder only the folder itself can be missing
  have hcond : ∀ {q}, q <+: root ++ (k.dropLast ++ [metaDirName]) ∧ s.get q = none → q = root ++ (k.dropLast ++ [metaDirName]) :=
    fun c => (h.mdir_prefix hp ht hpar c.1).elim (fun e => by rw [e] at c; cases c.2) And.left
  have e1 : root ++ k ≠ root ++ metaRel k := root_append_ne root (plain_ne_metaRel hk.no_meta k)
  have e2 : root ++ k ≠ root ++ (k.dropLast ++ [metaDirName]) := root_append_ne root (plain_ne_mdir hk.no_meta _)
  have e3 : root ++ (k.dropLast ++ [metaDirName]) ≠ root ++ metaRel k := root_append_ne root fun e => metaRel_ne_mdir k _ e.symm
  have hgk : (fs.set k (.file d m)).get k = some (.file d m) := by rw [FS.get_set, if_pos rfl]
  refine h.update_key hp ht hk0 hk (fun q hq => by rw [FS.get_set, if_neg fun e => hq e.symm]) hnd ?_ ?_ ?_ ?_ ?_
  · intro q h1 h2 h3
    rw [hget, if_neg h2, if_neg fun c => h3 (hcond c), if_neg h1]
  · rw [hget, if_neg e1, if_neg fun c => e2 (hcond c), if_pos rfl, hgk]; rfl
  · rw [hget, if_pos rfl, hgk]; rfl
  · rw [hget, if_neg e3]
    by_cases c : s.get (root ++ (k.dropLast ++ [metaDirName])) = none
    · rw [if_pos ⟨List.prefix_refl _, c⟩]
      refine Or.inr ⟨rfl, hpar.imp_right fun e => ?_⟩
      rw [FS.get_set, if_neg (dropLast_ne_self hk0).symm, e]
    · rw [if_neg fun c' => c c'.2, if_neg fun e => e2 e.symm]
      exact Or.inl rfl
  · rcases h.get_mdir hp (k := k) with e | ⟨_, e | e⟩
    · exact e
    · exact absurd e hk0
    · exact absurd e hndir

theorem simF_eraseKey (h : SimF root s fs) (hp : PlainFS fs) (ht : FS.Tree fs) {k : Key} (hk0 : k ≠ []) (hk : PlainKey k)
    {s' : PFS} (hnd : s'.ND)
    (hget : ∀ q, s'.get q = if q = root ++ k ∨ q = root ++ metaRel k then none else s.get q)
    (hmd : s.get (root ++ (k ++ [metaDirName])) = none) :
    SimF root s' (fs.erase k) := by
  have hgk : (fs.erase k).get k = none := by rw [FS.get_erase, if_pos rfl]
  refine h.update_key hp ht hk0 hk (fun q hq => by rw [FS.get_erase, if_neg hq]) hnd ?_ ?_ ?_ (Or.inl ?_) hmd
  · intro q h1 h2 _
    rw [hget, if_neg fun c => c.elim h1 h2]
  · rw [hget, if_pos (Or.inl rfl), hgk]; rfl
  · rw [hget, if_pos (Or.inr rfl), hgk]; rfl
  · rw [hget, if_neg]
    rintro (e | e)
    · exact plain_ne_mdir hk.no_meta _ ((root_append_inj root).mp e).symm
    · exact metaRel_ne_mdir k _ ((root_append_inj root).mp e).symm

theorem simF_eraseMdir (h : SimF root s fs) (hp : PlainFS fs) (k : Key) :
    SimF root (s.erase (root ++ (k ++ [metaDirName]))) fs := by
  have hne : root ++ (k ++ [metaDirName]) ≠ [] := by simp
  have hkeep : ∀ q x, s.get q = some x → q ≠ root ++ (k ++ [metaDirName]) →
      (s.erase (root ++ (k ++ [metaDirName]))).get q = some x := fun q x hq h1 => by
    rw [PFS.get_erase _ hne, if_neg h1, hq]
  have hkey : ∀ {k' n}, fs.get k' = some n → root ++ k' ≠ root ++ (k ++ [metaDirName]) := fun hg e =>
    plain_ne_mdir (hp.no_meta hg) k ((root_append_inj root).mp e)
  refine ⟨PFS.nd_erase h.nd _, ?_, ?_, ?_, ?_⟩
  · exact fun a ha => hkeep a _ (h.ready a ha) (prefix_root_ne ha (List.concat_ne_nil _ _))
  · exact fun k' hk' => hkeep _ _ (h.cdir k' hk') (hkey hk')
  · exact fun k' d m hk' => ⟨hkeep _ _ (h.cfile k' d m hk').1 (hkey hk'),
      hkeep _ _ (h.cfile k' d m hk').2 fun e => metaRel_ne_mdir k' k ((root_append_inj root).mp e)⟩
  · intro t x ht0 hs
    rw [PFS.get_erase _ hne] at hs
    split at hs
    · cases hs
    · exact h.sound t x ht0 hs

theorem metaRel_path (root : Path) (k : Key) :
    root ++ metaRel k = ((root ++ k.dropLast) ++ [metaDirName]) ++ [keyName k ++ jsonExt] := by
  simp [metaRel]

theorem File.storeMeta_run (s : PFS) {k : Key} (hk : PlainKey k) (hk0 : k ≠ []) (m : UMeta)
    (hnf : s.NoFile (root ++ (k.dropLast ++ [metaDirName]))) (hmp : s.get (root ++ metaRel k) ≠ some .dir) :
    ∃ s', File.storeMeta root s k m = .ok s' ∧ (s.ND → s'.ND) ∧
      ∀ q, s'.get q = if q = root ++ metaRel k then some (.mfile m)
        else if q <+: root ++ (k.dropLast ++ [metaDirName]) ∧ s.get q = none then some .dir else s.get q := by
  have hdl : (root ++ metaRel k).dropLast = root ++ (k.dropLast ++ [metaDirName]) := by
    rw [metaRel_path, List.dropLast_concat, List.append_assoc]
  obtain ⟨s1, h1, h2, hget⟩ := PFS.mkdirP_write s (.mfile m) (p := root ++ metaRel k)
    (List.append_ne_nil_of_right_ne_nil _ (metaRel_ne_nil k)) (hdl ▸ hnf) hmp
  rw [hdl] at h1 hget
  refine ⟨_, ?_, fun h => PFS.nd_set (PFS.mkdirP_nd h1 h) _ _, hget⟩
  simp only [File.storeMeta, File.metaPath_plain root hk hk0, bind, Except.bind, hdl, h1, h2]

theorem simF_storeMeta (h : SimF root s fs) (hp : PlainFS fs) (ht : FS.Tree fs) {k : Key} (m : UMeta) {d0 : Data} {m0 : UMeta}
    (hg : fs.get k = some (.file d0 m0)) :
    ∃ s', File.storeMeta root s k m = .ok s' ∧ SimF root s' (fs.set k (.file d0 m)) := by
  have hk : PlainKey k := hp.of_get hg
  have hs : (fs.get k).isSome = true := by rw [hg]; rfl
  have hk0 : k ≠ [] := ht.nonroot k hs
  obtain ⟨c1, c2⟩ := h.cfile k d0 m0 hg
  obtain ⟨s', hs', hnd', hget'⟩ := File.storeMeta_run (root := root) s hk hk0 m
    (h.noFile_mdir hp ht (ht.parent hs)) (by rw [c2]; simp)
  refine ⟨s', hs', simF_setFile h hp ht hk0 hk d0 m (by rw [hg]; simp) (ht.parent hs) (hnd' h.nd) fun q => ?_⟩
  rw [hget']
  by_cases e : q = root ++ k
  · rw [if_pos e, e, c1]
  · rw [if_neg e]

theorem simF_store (h : SimF root s fs) (hp : PlainFS fs) (ht : FS.Tree fs) {k : Key} (hk : PlainKey k) (d : Data) (m : UMeta)
    (hk0 : k ≠ []) (hkd : fs.get k ≠ some .dir) (hnf : ∀ a ∈ ancestors k, fs.get a = none ∨ fs.get a = some .dir) :
    ∃ s', File.store root s k d m = .ok s' ∧
      SimF root s' ((fs.mkdirs (ancestors k)).set k (.file d { m with size := some d.length, md5 := some d })) := by
  obtain ⟨s1, hs1, hsim1⟩ := simF_mkdirP_data h hk.dropLast (ancestors k) (fun a => mem_ancestors_iff_dropLast a k) hnf
  have ht1 : FS.Tree (fs.mkdirs (ancestors k)) :=
    ht.mkdirs (fun a ha => ancestors_ne_nil ha) (fun a ha b hb => ancestors_trans hb ha) hnf
  have hp1 : PlainFS (fs.mkdirs (ancestors k)) :=
    plainFS_mkdirs hp _ (fun a ha => hk.sub (fun c hc => (ancestors_prefix ha).subset hc))
  have hg1k : (fs.mkdirs (ancestors k)).get k = fs.get k := by
    rw [FS.get_mkdirs, if_neg fun c => ancestors_ne_self c.1 rfl]
  have hpar1 : k.dropLast = [] ∨ (fs.mkdirs (ancestors k)).get k.dropLast = some .dir := by
    by_cases e : k.dropLast = []
    · exact Or.inl e
    · have hm : k.dropLast ∈ ancestors k := (mem_ancestors_iff_dropLast _ k).mpr ⟨e, List.prefix_refl _⟩
      right
      rw [FS.get_mkdirs]
      rcases hnf _ hm with e | e <;> simp [hm, e]
  have hpk : root ++ k ≠ [] := List.append_ne_nil_of_right_ne_nil _ hk0
  have hdl : (root ++ k).dropLast = root ++ k.dropLast := List.dropLast_append_of_ne_nil hk0
  have hw : s1.write (root ++ k) (.dfile d) = .ok (s1.set (root ++ k) (.dfile d)) := by
    apply PFS.write_ok
    · rw [hsim1.get_data hk0 hk.no_meta, hg1k]
      exact fun c => hkd (dnode_eq_dir.mp c)
    · rw [hdl]; exact hsim1.chain ht1 hpar1 _ (List.prefix_refl _)
  have hget2 : ∀ q, (s1.set (root ++ k) (.dfile d)).get q = if q = root ++ k then some (.dfile d) else s1.get q := by
    intro q
    rw [PFS.get_set _ hpk]
    exact ite_iff_congr ⟨Eq.symm, Eq.symm⟩ _ _
  have hmd_ne : root ++ (k.dropLast ++ [metaDirName]) ≠ root ++ k := by
    rw [Ne, root_append_inj]; exact fun e => plain_ne_mdir hk.no_meta _ e.symm
  have hmp_ne : root ++ metaRel k ≠ root ++ k := by
    rw [Ne, root_append_inj]; exact fun e => plain_ne_metaRel hk.no_meta _ e.symm
  -- the data file is not on the way to the metadata file
  have hnp : ∀ a, a <+: root ++ (k.dropLast ++ [metaDirName]) → a ≠ root ++ k := by
    intro a ha e
    rcases hsim1.mdir_prefix hp1 ht1 hpar1 ha with c | c
    · rw [e, hsim1.get_data hk0 hk.no_meta, hg1k] at c
      exact hkd (dnode_eq_dir.mp c)
    · exact hmd_ne (c.1.symm.trans e)
  obtain ⟨s4, hs4, hnd4, hget4⟩ := File.storeMeta_run (root := root) (s1.set (root ++ k) (.dfile d)) hk hk0
    { m with size := some d.length, md5 := some d }
    (fun a ha0 ha => by rw [hget2, if_neg (hnp a ha)]; exact hsim1.noFile_mdir hp1 ht1 hpar1 a ha0 ha)
    (by rw [hget2, if_neg hmp_ne, hsim1.get_meta hp1 ht1 hk0]; exact mnode_ne_dir _)
  refine ⟨s4, ?_, ?_⟩
  · unfold File.store
    simp only [File.path_plain root hk, File.metaPath_plain root hk hk0, compsParts_plain hk, bind, Except.bind]
    rw [hdl, hs1]
    simp only []
    rw [hw]
    exact hs4
  · refine simF_setFile hsim1 hp1 ht1 hk0 hk d _ (hg1k ▸ hkd) hpar1 (hnd4 (PFS.nd_set hsim1.nd _ _)) fun q => ?_
    rw [hget4, hget2]
    refine ite_congr rfl (fun _ => rfl) fun _ => ?_
    by_cases e2 : q <+: root ++ (k.dropLast ++ [metaDirName])
    · rw [if_neg (hnp q e2)]
    · simp only [e2, false_and, ↓reduceIte]

theorem simF_remove (h : SimF root s fs) (hp : PlainFS fs) (ht : FS.Tree fs) {k : Key} {d0 : Data} {m0 : UMeta}
    (hg : fs.get k = some (.file d0 m0)) :
    ∃ s', File.remove root s k = .ok s' ∧ SimF root s' (fs.erase k) := by
  have hk : PlainKey k := hp.of_get hg
  have hk0 : k ≠ [] := ht.nonroot k (by rw [hg]; rfl)
  obtain ⟨c1, c2⟩ := h.cfile k d0 m0 hg
  have hpk : root ++ k ≠ [] := List.append_ne_nil_of_right_ne_nil _ hk0
  have hmk : root ++ metaRel k ≠ [] := List.append_ne_nil_of_right_ne_nil _ (metaRel_ne_nil k)
  have hne : root ++ metaRel k ≠ root ++ k := by
    rw [Ne, root_append_inj]; exact fun e => plain_ne_metaRel hk.no_meta _ e.symm
  have hu1 : s.unlinkMissingOk (root ++ k) = .ok (s.erase (root ++ k)) := PFS.unlink_file s _ c1 (by simp)
  have hu2 : (s.erase (root ++ k)).unlinkMissingOk (root ++ metaRel k) = .ok ((s.erase (root ++ k)).erase (root ++ metaRel k)) := by
    apply PFS.unlink_file _ _ (x := .mfile m0) _ (by simp)
    rw [PFS.get_erase _ hpk, if_neg hne]
    exact c2
  refine ⟨(s.erase (root ++ k)).erase (root ++ metaRel k), ?_, ?_⟩
  · unfold File.remove
    simp only [File.path_plain root hk, File.metaPath_plain root hk hk0, bind, Except.bind, hu1]
    exact hu2
  · refine simF_eraseKey h hp ht hk0 hk (PFS.nd_erase (PFS.nd_erase h.nd _) _) (fun q => ?_) ?_
    · rw [PFS.get_erase _ hmk, PFS.get_erase _ hpk]
      by_cases e1 : q = root ++ metaRel k
      · rw [if_pos e1, if_pos (Or.inr e1)]
      · rw [if_neg e1]
        exact ite_iff_congr ⟨Or.inl, fun c => c.resolve_right e1⟩ _ _
    · rcases h.get_mdir hp (k := k) with e | ⟨_, e | e⟩
      · exact e
      · exact absurd e hk0
      · rw [hg] at e; cases e

theorem simF_makedir (h : SimF root s fs) (hp : PlainFS fs) (ht : FS.Tree fs) {k : Key} (hk : PlainKey k) (hk0 : k ≠ [])
    (hall : ∀ a ∈ ancestors k ++ [k], fs.get a = none ∨ fs.get a = some .dir) :
    ∃ s', File.makedir root s k = .ok s' ∧ SimF root s' (fs.mkdirs (ancestors k ++ [k])) := by
  have hmem : ∀ a, a ∈ ancestors k ++ [k] ↔ a ≠ [] ∧ a <+: k := fun a => dirList_eq hk0 ▸ mem_mkdirP_list k a
  obtain ⟨s1, hs1, hsim1⟩ := simF_mkdirP_data h hk _ hmem hall
  have ht1 : FS.Tree (fs.mkdirs (ancestors k ++ [k])) := (WfStep.makedir hk0 hall).tree ht
  have hp1 : PlainFS (fs.mkdirs (ancestors k ++ [k])) :=
    plainFS_mkdirs hp _ (fun a ha => hk.sub (fun c hc => ((hmem a).mp ha).2.subset hc))
  have hkd : (fs.mkdirs (ancestors k ++ [k])).get k = some .dir := by
    have hm : k ∈ ancestors k ++ [k] := (hmem k).mpr ⟨hk0, List.prefix_refl _⟩
    rw [FS.get_mkdirs]
    rcases hall k hm with e | e
    · rw [if_pos ⟨hm, e⟩]
    · rw [if_neg (by rw [e]; simp), e]
  obtain ⟨s2, hs2, hsim2⟩ := simF_mkdirP_mdir hsim1 hp1 ht1 (Or.inr hkd)
  refine ⟨s2, ?_, hsim2⟩
  unfold File.makedir
  simp only [File.path_plain root hk, bind, Except.bind, hs1]
  exact mdir_path root k ▸ hs2

/-- what `removedir` does after the walk: the key's own metadata file, the `__metadata__` folder, the directory -/
def File.removedirTail (root : Path) (s : PFS) (k : Key) : Except StoreErr PFS := do
  let mp ← File.metaPath root k
  let fs2 ← s.unlinkMissingOk mp
  let p ← File.path root k
  let fs3 ← (if fs2.existsB (p ++ [metaDirName]) then fs2.rmdir (p ++ [metaDirName]) else pure fs2)
  fs3.rmdir p

theorem simF_removedirTail (h : SimF root s fs) (hp : PlainFS fs) (ht : FS.Tree fs) {k : Key} (hk0 : k ≠ [])
    (hd : fs.get k = some .dir) (hc : (fs.children k).isEmpty = true) :
    ∃ s', File.removedirTail root s k = .ok s' ∧ SimF root s' (fs.erase k) := by
  have hk : PlainKey k := hp.of_get hd
  have hs : (fs.get k).isSome = true := by rw [hd]; rfl
  have hchild : ∀ nm, fs.get (k ++ [nm]) = none := (FS.children_isEmpty fs k).mp hc
  -- no metadata file for a directory
  have hmp : s.get (root ++ metaRel k) = none := by rw [h.get_meta hp ht hk0, hd]; rfl
  have hu : s.unlinkMissingOk (root ++ metaRel k) = .ok s := by
    apply PFS.unlink_missing _ _ hmp
    intro a ha
    obtain ⟨_, hap, hne⟩ := (mem_ancestors _ _).mp ha
    rw [metaRel_path] at hap hne
    rcases List.prefix_concat_iff.mp hap with e | e
    · exact absurd e hne
    · rcases List.prefix_concat_iff.mp e with e' | e'
      · rw [e', ← mdir_path]; exact h.mdir_absent_or_dir hp _
      · exact Or.inr (h.chain ht (ht.parent hs) a e')
  -- the `__metadata__` folder holds metadata files of children only: it is empty
  have hmdEmpty : (s.iterdir ((root ++ k) ++ [metaDirName])).isEmpty = true := by
    rw [PFS.iterdir_isEmpty]
    intro nm
    cases hg : s.get (root ++ k ++ [metaDirName] ++ [nm]) with
    | none => rfl
    | some x =>
      have : root ++ k ++ [metaDirName] ++ [nm] = root ++ (k ++ [metaDirName, nm]) := by simp
      rw [this] at hg
      obtain ⟨k', d, m, h1, _, h3, _⟩ := h.get_mfile hp ht hg
      rw [h1, hchild] at h3
      cases h3
  obtain ⟨s3, hs3, hsim3, hmd3⟩ : ∃ s3, (if s.existsB ((root ++ k) ++ [metaDirName]) then s.rmdir ((root ++ k) ++ [metaDirName]) else pure s) = .ok s3 ∧
      SimF root s3 fs ∧ s3.get (root ++ (k ++ [metaDirName])) = none := by
    rcases h.mdir_absent_or_dir hp k with e | e
    · refine ⟨s, ?_, h, e⟩
      rw [mdir_path] at e
      simp only [PFS.existsB, e, Option.isSome_none, Bool.false_eq_true, ↓reduceIte, pure, Except.pure]
    · refine ⟨s.erase (root ++ (k ++ [metaDirName])), ?_, simF_eraseMdir h hp k, ?_⟩
      · rw [mdir_path] at e ⊢
        simp only [PFS.existsB, e, Option.isSome_some, ↓reduceIte]
        exact PFS.rmdir_ok _ _ (List.concat_ne_nil _ _) e hmdEmpty
      · rw [PFS.get_erase _ (by simp), if_pos rfl]
  have hr : s3.rmdir (root ++ k) = .ok (s3.erase (root ++ k)) := by
    apply PFS.rmdir_ok _ _ (List.append_ne_nil_of_right_ne_nil _ hk0) (hsim3.cdir k hd)
    rw [PFS.iterdir_isEmpty]
    intro nm
    by_cases e : nm = metaDirName
    · subst e; rw [← mdir_path]; exact hmd3
    · have hm : metaDirName ∉ k ++ [nm] := fun hx =>
        (List.mem_append.mp hx).elim hk.no_meta fun e' => e (List.mem_singleton.mp e').symm
      rw [List.append_assoc, hsim3.get_data (List.concat_ne_nil _ _) hm, hchild]
      rfl
  refine ⟨s3.erase (root ++ k), ?_, ?_⟩
  · unfold File.removedirTail
    simp only [File.metaPath_plain root hk hk0, File.path_plain root hk, bind, Except.bind, hu, hs3]
    exact hr
  · refine simF_eraseKey hsim3 hp ht hk0 hk (PFS.nd_erase hsim3.nd _) (fun q => ?_) hmd3
    rw [PFS.get_erase _ (List.append_ne_nil_of_right_ne_nil _ hk0)]
    by_cases e1 : q = root ++ k
    · rw [if_pos e1, if_pos (Or.inl e1)]
    · rw [if_neg e1]
      by_cases e2 : q = root ++ metaRel k
      · rw [if_pos (Or.inr e2), e2, hsim3.get_meta hp ht hk0, hd]; rfl
      · rw [if_neg fun c => c.elim e1 e2]

end Liquer
