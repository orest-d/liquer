/-
Simple structural facts about the printers: encoding ignores positions, canonical text contains no
white space, and the text of a segment written as header followed by body.
-/
import LiquerProofs.Lemmas.ParseTerm
namespace Liquer

/-- the escape table of the repository, for which the round trip is proved -/
abbrev T : EscTable := Gen.escapeTable

variable (tbl : EscTable)

def isSingleRes : List Seg → Bool
  | [.resource _ _] => true
  | _ => false

theorem Query.encode_eq (segs : List Seg) (a : Bool) :
    (Query.mk segs a).encode tbl =
      (if a then ['/'] else []) ++
        (if isSingleRes segs && (joinStr ['/'] (encodeSegs tbl segs)).head? != some '-' then ['-', 'R', '/'] else []) ++
          joinStr ['/'] (encodeSegs tbl segs) := by
  match segs with
  | [] => cases a <;> rfl
  | [.resource h ns] =>
    simp only [Query.encode, isSingleRes, Bool.true_and, bne]
    cases (joinStr ['/'] (encodeSegs tbl [.resource h ns])).head? == some '-' <;> cases a <;> rfl
  | [.transform _ _ _] => cases a <;> rfl
  | s :: _ :: _ => cases s <;> cases a <;> rfl

theorem isSingleRes_erase (segs : List Seg) : isSingleRes (eraseSegs segs) = isSingleRes segs := by
  match segs with
  | [] => rfl
  | [.resource _ _] => rfl
  | [.transform _ _ _] => rfl
  | _ :: _ :: _ => simp [eraseSegs, isSingleRes]

mutual
  theorem Param.encode_erase : (p : Param) → p.erase.encode tbl = p.encode tbl
    | .str s _ => rfl
    | .link q _ => by simp only [Param.erase, Param.encode, Query.encode_erase q]
  theorem encodeDashParams_erase : (ps : List Param) → encodeDashParams tbl (eraseParams ps) = encodeDashParams tbl ps
    | [] => rfl
    | p :: ps => by simp only [eraseParams, encodeDashParams, Param.encode_erase p, encodeDashParams_erase ps]
  theorem Action.encode_erase : (a : Action) → a.erase.encode tbl = a.encode tbl
    | .mk n ps _ => by simp only [Action.erase, Action.encode, encodeDashParams_erase ps]
  theorem encodeActions_erase : (as : List Action) → encodeActions tbl (eraseActions as) = encodeActions tbl as
    | [] => rfl
    | a :: as => by simp only [eraseActions, encodeActions, Action.encode_erase a, encodeActions_erase as]
  theorem Header.encode_erase : (h : Header) → h.erase.encode tbl = h.encode tbl
    | .mk n l ps r => by simp only [Header.erase, Header.encode, encodeDashParams_erase ps]
  theorem Seg.encode_erase : (s : Seg) → s.erase.encode tbl = s.encode tbl
    | .transform none as f => by simp only [Seg.erase, Seg.encode, encodeActions_erase as]
    | .transform (some h) as f => by simp only [Seg.erase, Seg.encode, encodeActions_erase as, Header.encode_erase h]
    | .resource none ns => rfl
    | .resource (some h) ns => by simp only [Seg.erase, Seg.encode, Header.encode_erase h]
  theorem encodeSegs_erase : (ss : List Seg) → encodeSegs tbl (eraseSegs ss) = encodeSegs tbl ss
    | [] => rfl
    | s :: ss => by simp only [eraseSegs, encodeSegs, Seg.encode_erase s, encodeSegs_erase ss]
  theorem Query.encode_erase : (q : Query) → q.erase.encode tbl = q.encode tbl
    | .mk segs a => by
      rw [Query.erase, Query.encode_eq, Query.encode_eq, encodeSegs_erase segs, isSingleRes_erase]
end

/-- the four shapes of a segment. Use it with `rcases … rfl`: a `match s, h₁, … with` abstracts `s` in every
hypothesis that mentions its text, and unfolds the parser applied to that text while doing so -/
theorem seg_cases (s : Seg) :
    (∃ as f, s = .transform none as f) ∨ (∃ h as f, s = .transform (some h) as f) ∨
      (∃ h ns, s = .resource (some h) ns) ∨ ∃ ns, s = .resource none ns := by
  match s with
  | .transform none as f => exact Or.inl ⟨as, f, rfl⟩
  | .transform (some h) as f => exact Or.inr (Or.inl ⟨h, as, f, rfl⟩)
  | .resource (some h) ns => exact Or.inr (Or.inr (Or.inl ⟨h, ns, rfl⟩))
  | .resource none ns => exact Or.inr (Or.inr (Or.inr ⟨ns, rfl⟩))

theorem wfSeg_plain {as : List Action} {f : Option Str} (h : wfSeg (.transform none as f) = true) :
    wfActions as = true ∧ (as ≠ [] ∨ f.isSome = true) ∧
      ∀ x, f = some x → fullMatch Gen.filenameRe x = true := by
  simp only [wfSeg, Bool.and_eq_true, Bool.or_eq_true, Bool.not_eq_true'] at h
  obtain ⟨⟨has, hne⟩, hfn⟩ := h
  refine ⟨has, hne.imp (fun h e => by simp [e] at h) id, ?_⟩
  rintro x rfl; exact hfn

theorem wfSeg_headed {name : Str} {lvl : Nat} {ps : List Param} {res : Bool} {as : List Action}
    {f : Option Str} (h : wfSeg (.transform (some (.mk name lvl ps res)) as f) = true) :
    res = false ∧ 1 ≤ lvl ∧ transformHeaderNameOK name = true ∧ (name = [] → ps = []) ∧
      wfParams ps = true ∧ wfActions as = true ∧ ∀ x, f = some x → fullMatch Gen.filenameRe x = true := by
  simp only [wfSeg, Bool.and_eq_true, Bool.not_eq_true', decide_eq_true_eq, Bool.or_eq_true] at h
  obtain ⟨⟨⟨⟨⟨⟨hres, hl⟩, hname⟩, hbare⟩, hps⟩, has⟩, hfn⟩ := h
  refine ⟨hres, hl, hname, ?_, hps, has, ?_⟩
  · rintro rfl
    simpa using hbare
  · rintro x rfl; exact hfn

theorem wfSeg_resHeaded {name : Str} {lvl : Nat} {ps : List Param} {res : Bool} {ns : List Str}
    (h : wfSeg (.resource (some (.mk name lvl ps res)) ns) = true) :
    res = true ∧ 1 ≤ lvl ∧ resourceHeaderNameOK name = true ∧ wfParams ps = true ∧
      resParamsOK ps = true ∧ ns.all (fullMatch Gen.resourceNameRe) = true := by
  simp only [wfSeg, Bool.and_eq_true, decide_eq_true_eq] at h
  obtain ⟨⟨⟨⟨⟨hres, hl⟩, hname⟩, hps⟩, hrp⟩, hns⟩ := h
  exact ⟨hres, hl, hname, hps, hrp, hns⟩

theorem noWs_joinStr : ∀ (l : List Str), (∀ x ∈ l, NoWs x) → NoWs (joinStr ['/'] l)
  | [], _ => NoWs.nil
  | [w], h => by simpa [joinStr] using h w (by simp)
  | w :: w' :: ws, h => by
    simp only [joinStr]
    exact ((h w (by simp)).append (NoWs.cons Inst.slash_noWhite NoWs.nil)).append
      (noWs_joinStr (w' :: ws) (fun x hx => h x (List.mem_cons_of_mem _ hx)))

theorem noWs_linkOpen : NoWs ['~', 'X', '~'] := noWs_of_tokSafe (by decide)
theorem noWs_linkClose : NoWs ['~', 'E'] := noWs_of_tokSafe (by decide)
theorem noWs_R : NoWs ['R'] := noWs_of_tokSafe (by decide)

theorem noWs_headerName {n : Str} (h : transformHeaderNameOK n = true) : NoWs n := by
  simp only [transformHeaderNameOK, Bool.or_eq_true, Bool.and_eq_true] at h
  rcases h with h | ⟨_, h⟩
  · have : n = [] := by simpa using h
    subst this; exact NoWs.nil
  · exact (fullMatch_noWs (by simp) h).tail

theorem noWs_resHeaderName {n : Str} (h : resourceHeaderNameOK n = true) : NoWs n :=
  (fullMatch_noWs (by simp) h).tail.tail

theorem noWs_names {names : List Str} (h : names.all (fullMatch Gen.resourceNameRe) = true) :
    ∀ x ∈ names, NoWs x :=
  fun x hx => fullMatch_noWs (by simp) (List.all_eq_true.mp h x hx)

/-- the text of the action path of a transform segment -/
def bodyText (tbl : EscTable) (as : List Action) (f : Option Str) : Str :=
  match f with
  | none => joinStr ['/'] (encodeActions tbl as)
  | some f => if (joinStr ['/'] (encodeActions tbl as)).isEmpty then f
      else joinStr ['/'] (encodeActions tbl as) ++ '/' :: f

theorem Seg.encode_plain (tbl : EscTable) (as : List Action) (f : Option Str) :
    (Seg.transform none as f).encode tbl = bodyText tbl as f := by
  cases f <;> simp [Seg.encode, bodyText]

theorem Seg.encode_headed (tbl : EscTable) (h : Header) (as : List Action) (f : Option Str) :
    (Seg.transform (some h) as f).encode tbl =
      if (bodyText tbl as f).isEmpty then h.encode tbl else h.encode tbl ++ '/' :: bodyText tbl as f := by
  cases f <;> simp [Seg.encode, bodyText]

theorem Seg.encode_resPlain (tbl : EscTable) (ns : List Str) :
    (Seg.resource none ns).encode tbl = joinStr ['/'] ns := by
  simp only [Seg.encode]
  split
  next h => simp at h; simp [h]
  · simp

theorem Seg.encode_resHeaded (tbl : EscTable) (h : Header) (ns : List Str) :
    (Seg.resource (some h) ns).encode tbl =
      if (joinStr ['/'] ns).isEmpty then h.encode tbl
      else (if (h.encode tbl).isEmpty then [] else h.encode tbl ++ ['/']) ++ joinStr ['/'] ns := by
  simp only [Seg.encode]
  split
  · rfl
  · split
    next h1 => simp at h1; simp [h1]
    next h1 => simp at h1; simp

theorem noWs_bodyText {as : List Action} {f : Option Str} (has : ∀ x ∈ encodeActions T as, NoWs x)
    (hf : ∀ x, f = some x → NoWs x) : NoWs (bodyText T as f) := by
  have h1 := noWs_joinStr _ has
  cases f with
  | none => exact h1
  | some f =>
    simp only [bodyText]
    split
    · exact hf f rfl
    · exact h1.append (NoWs.cons Inst.slash_noWhite (hf f rfl))

theorem noWs_header {n : Str} {lvl : Nat} {ps : List Param} {res : Bool} (hn : NoWs n)
    (hps : NoWs (encodeDashParams T ps)) : NoWs ((Header.mk n lvl ps res).encode T) := by
  simp only [Header.encode]
  refine (((noWs_replicate_dash lvl).append ?_).append hn).append hps
  split
  · exact noWs_R
  · exact NoWs.nil

theorem noWs_query (segs : List Seg) (a : Bool) (h : ∀ x ∈ encodeSegs T segs, NoWs x) :
    NoWs ((Query.mk segs a).encode T) := by
  rw [Query.encode_eq]
  refine (NoWs.append ?_ ?_).append (noWs_joinStr _ h)
  · split
    · exact NoWs.cons Inst.slash_noWhite NoWs.nil
    · exact NoWs.nil
  · split
    · exact NoWs.cons Inst.dash_noWhite (NoWs.cons (noWs_R.head) (NoWs.cons Inst.slash_noWhite NoWs.nil))
    · exact NoWs.nil

mutual
  theorem Param.noWs : (p : Param) → wfParam p = true → NoWs (p.encode T)
    | .str s _, _ => by simpa [Param.encode] using encodeToken_noWs s
    | .link q _, h => by
      simp only [wfParam] at h
      simp only [Param.encode]
      exact (noWs_linkOpen.append (Query.noWs q h)).append noWs_linkClose
  theorem dashParams_noWs : (ps : List Param) → wfParams ps = true → NoWs (encodeDashParams T ps)
    | [], _ => NoWs.nil
    | p :: ps, h => by
      simp only [wfParams, Bool.and_eq_true] at h
      simp only [encodeDashParams]
      exact NoWs.cons Inst.dash_noWhite ((Param.noWs p h.1).append (dashParams_noWs ps h.2))
  theorem Action.noWs : (a : Action) → wfAction a = true → NoWs (a.encode T)
    | .mk n ps _, h => by
      simp only [wfAction, Bool.and_eq_true] at h
      simp only [Action.encode]
      exact (fullMatch_noWs (by simp) h.1).append (dashParams_noWs ps h.2)
  theorem actions_noWs : (as : List Action) → wfActions as = true → ∀ x ∈ encodeActions T as, NoWs x
    | [], _ => by simp [encodeActions]
    | a :: as, h => by
      simp only [wfActions, Bool.and_eq_true] at h
      simp only [encodeActions, List.mem_cons]
      rintro x (rfl | hx)
      · exact Action.noWs a h.1
      · exact actions_noWs as h.2 x hx
  theorem Seg.noWs : (s : Seg) → wfSeg s = true → NoWs (s.encode T)
    | .transform none as f, h => by
      obtain ⟨has, _, hwff⟩ := wfSeg_plain h
      rw [Seg.encode_plain]
      exact noWs_bodyText (actions_noWs as has) fun x hx => fullMatch_noWs (by simp) (hwff x hx)
    | .transform (some (.mk n lvl ps res)) as f, h => by
      obtain ⟨_, _, hn, _, hps, has, hwff⟩ := wfSeg_headed h
      have hh := noWs_header (lvl := lvl) (res := res) (noWs_headerName hn) (dashParams_noWs ps hps)
      have hb := noWs_bodyText (actions_noWs as has) fun x hx => fullMatch_noWs (by simp) (hwff x hx)
      rw [Seg.encode_headed]
      split
      · exact hh
      · exact hh.append (NoWs.cons Inst.slash_noWhite hb)
    | .resource none ns, h => by
      simp only [wfSeg, Bool.and_eq_true] at h
      rw [Seg.encode_resPlain]
      exact noWs_joinStr _ (noWs_names h.2)
    | .resource (some (.mk n lvl ps res)) ns, h => by
      obtain ⟨_, _, hn, hps, _, hns⟩ := wfSeg_resHeaded h
      have hh := noWs_header (lvl := lvl) (res := res) (noWs_resHeaderName hn) (dashParams_noWs ps hps)
      rw [Seg.encode_resHeaded]
      split
      · exact hh
      · refine NoWs.append ?_ (noWs_joinStr _ (noWs_names hns))
        split
        · exact NoWs.nil
        · exact hh.append (NoWs.cons Inst.slash_noWhite NoWs.nil)
  theorem segs_noWs : (ss : List Seg) → wfSegs ss = true → ∀ x ∈ encodeSegs T ss, NoWs x
    | [], _ => by simp [encodeSegs]
    | s :: ss, h => by
      simp only [wfSegs, Bool.and_eq_true] at h
      simp only [encodeSegs, List.mem_cons]
      rintro x (rfl | hx)
      · exact Seg.noWs s h.1
      · exact segs_noWs ss h.2 x hx
  theorem Query.noWs : (q : Query) → wfInner q = true → NoWs (q.encode T)
    | .mk segs a, h => by
      simp only [wfInner, Bool.and_eq_true] at h
      exact noWs_query segs a (segs_noWs segs h.1.2)
end

end Liquer
