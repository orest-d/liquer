/-
Lemmas about `overlayOps` (C15): no operation writes the fall-back component, for arbitrary part models; with
specification parts, every read and every well-formed write is the specification's on `view`.
-/
import LiquerModel.StoreOverlay
import LiquerProofs.Lemmas.StoreView

namespace Liquer.OvL
open Liquer Liquer.SV

/-! every branch of every mutator returns the state it was given or `(_, s.2.1, _)` -/

section frame
variable {σu σl : Type} (U : StoreOps σu) (L : StoreOps σl)

theorem foldlM_inv {α β : Type} (P : β → Prop) (f : β → α → Except StoreErr β)
    (hf : ∀ b a b', P b → f b a = .ok b' → P b') :
    ∀ (l : List α) (b b' : β), P b → l.foldlM f b = .ok b' → P b' := by
  intro l
  induction l with
  | nil => intro b b' hb h; cases h; exact hb
  | cons a l ih =>
    intro b b' hb h
    rw [List.foldlM_cons] at h
    cases hfa : f b a with
    | error e => rw [hfa] at h; cases h
    | ok b1 => rw [hfa] at h; exact ih b1 b' (hf b a b1 hb hfa) h

theorem store_lower (s s' : OvState σu σl) (k : Key) (d : Data) (m : UMeta) :
    Ov.store U L s k d m = .ok s' → s'.2.1 = s.2.1 := by
  fun_cases Ov.store U L s k d m <;> intro h <;> cases h <;> rfl

theorem storeMeta_lower (s s' : OvState σu σl) (k : Key) (m : UMeta) :
    Ov.storeMeta U L s k m = .ok s' → s'.2.1 = s.2.1 := by
  fun_cases Ov.storeMeta U L s k m <;> intro h <;> cases h <;> rfl

theorem remove_lower (s s' : OvState σu σl) (k : Key) : Ov.remove U L s k = .ok s' → s'.2.1 = s.2.1 := by
  fun_cases Ov.remove U L s k <;> intro h <;> cases h <;> rfl

theorem makedir_lower (s s' : OvState σu σl) (k : Key) : Ov.makedir U L s k = .ok s' → s'.2.1 = s.2.1 := by
  fun_cases Ov.makedir U L s k <;> intro h <;> cases h <;> rfl

theorem dropEmptyDir_lower (s s' : OvState σu σl) (k : Key) :
    Ov.dropEmptyDir U L s k = .ok s' → s'.2.1 = s.2.1 := by
  fun_cases Ov.dropEmptyDir U L s k <;> intro h <;> cases h <;> rfl

theorem rmChild_lower (recur : OvState σu σl → Key → Except StoreErr (OvState σu σl))
    (hr : ∀ st c st', recur st c = .ok st' → st'.2.1 = st.2.1) (k : Key) (s s' : OvState σu σl) (nm : Str) :
    Ov.rmChild U L recur k s nm = .ok s' → s'.2.1 = s.2.1 := by
  fun_cases Ov.rmChild U L recur k s nm <;> intro h
  · cases h
  · exact hr _ _ _ h
  · exact remove_lower U L _ _ _ h

theorem removedirFuel_lower (n : Nat) (s s' : OvState σu σl) (k : Key) (r : Bool) :
    Ov.removedirFuel U L n s k r = .ok s' → s'.2.1 = s.2.1 := by
  fun_induction Ov.removedirFuel U L n s k r generalizing s'
  case case1 => intro h; cases h
  case case2 => intro h; cases h
  case case3 n s k r walked s1 hw ih =>
    -- the loop keeps the fall-back, then `dropEmptyDir` does
    intro h
    refine (dropEmptyDir_lower U L _ _ _ h).trans ?_
    cases r with
    | false => exact congrArg (·.2.1) (Except.ok.inj hw).symm
    | true =>
      simp only [walked, ↓reduceIte] at hw
      cases hl : Ov.listdirL U L s k with
      | error e => rw [hl] at hw; cases hw
      | ok names =>
        rw [hl] at hw
        exact foldlM_inv (fun st : OvState σu σl => st.2.1 = s.2.1) _
          (fun b a b' hb hf => (rmChild_lower U L _ ih k b b' a hf).trans hb) names s s1 rfl hw

theorem apply_lower (s s' : OvState σu σl) (op : StoreOp) (h : (overlayOps U L).apply s op = .ok s') :
    s'.2.1 = s.2.1 := by
  cases op with
  | store k d m => exact store_lower U L s s' k d m h
  | storeMeta k m => exact storeMeta_lower U L s s' k m h
  | remove k => exact remove_lower U L s s' k h
  | removedir k r => exact removedirFuel_lower U L _ s s' k r h
  | makedir k => exact makedir_lower U L s s' k h

theorem step_lower (s : OvState σu σl) (op : StoreOp) : ((overlayOps U L).step s op).2.1 = s.2.1 := by
  unfold StoreOps.step
  cases h : (overlayOps U L).apply s op with
  | error e => rfl
  | ok s' => exact apply_lower U L s s' op h

end frame

abbrev S := OvState FS FS

/-- the overlay's content: masked by the tomb-stones, the upper part shadows the lower part -/
def view (s : S) : Look := fun k =>
  if s.2.2.contains k then none else
  match s.1.get k with
  | some n => some n
  | none => s.2.1.get k

/-- invariant of every state reachable by a well-formed history from `(∅, tree, ∅)` -/
structure Inv (s : S) : Prop where
  up : TreeP s.1
  low : TreeP s.2.1
  rem : ∀ k, k ∈ s.2.2 → s.1.get k = none
  noroot : [] ∉ s.2.2
  tree : TreeF (view s)

theorem view_of_mem {s : S} {k : Key} (h : k ∈ s.2.2) : view s k = none :=
  if_pos (List.contains_iff_mem.mpr h)

theorem view_of_not_mem {s : S} {k : Key} (h : k ∉ s.2.2) :
    view s k = match s.1.get k with | some n => some n | none => s.2.1.get k :=
  if_neg (fun c => h (List.contains_iff_mem.mp c))

theorem view_root {s : S} (hi : Inv s) : view s [] = none := hi.tree.root_none

theorem view_of_upper {s : S} (hi : Inv s) {k : Key} {n : Node} (h : s.1.get k = some n) : view s k = some n := by
  have hk : k ∉ s.2.2 := fun hm => by rw [hi.rem k hm] at h; cases h
  rw [view_of_not_mem hk, h]

theorem view_of_upper_none {s : S} {k : Key} (hm : k ∉ s.2.2) (h : s.1.get k = none) : view s k = s.2.1.get k := by
  rw [view_of_not_mem hm, h]

theorem not_mem_of_view {s : S} {k : Key} {n : Node} (h : view s k = some n) : k ∉ s.2.2 :=
  fun hm => by rw [view_of_mem hm] at h; cases h

theorem upper_none_of_view {s : S} (hi : Inv s) {k : Key} (h : view s k = none) : s.1.get k = none := by
  cases hu : s.1.get k with
  | none => rfl
  | some n => rw [view_of_upper hi hu] at h; cases h

theorem upper_not_file {s : S} (hi : Inv s) {a : Key} (h : ∀ d m, view s a ≠ some (.file d m)) :
    ∀ d m, s.1.get a ≠ some (.file d m) :=
  fun d m e => h d m (view_of_upper hi e)

/-- how a key is read: it is masked; or the upper part answers, with what the view shows; or the upper part does not
have it and the lower part answers, with what the view shows -/
theorem read_cases {s : S} (hi : Inv s) (k : Key) :
    (s.2.2.contains k = true ∧ k.isEmpty = false ∧ view s k = none) ∨
    (s.2.2.contains k = false ∧ rdContains s.1.get k = true ∧ view s k = s.1.get k) ∨
    (s.2.2.contains k = false ∧ rdContains s.1.get k = false ∧ k.isEmpty = false ∧ view s k = s.2.1.get k) := by
  by_cases hm : k ∈ s.2.2
  · have hk : k ≠ [] := fun e => hi.noroot (e ▸ hm)
    exact Or.inl ⟨List.contains_iff_mem.mpr hm, by simpa using hk, view_of_mem hm⟩
  · have hc : s.2.2.contains k = false := Bool.eq_false_iff.mpr fun c => hm (List.contains_iff_mem.mp c)
    by_cases hk : k = []
    · subst hk
      exact Or.inr (Or.inl ⟨hc, rfl, (view_root hi).trans hi.up.root_none.symm⟩)
    · have hke : k.isEmpty = false := by simpa using hk
      cases hu : s.1.get k with
      | some n => exact Or.inr (Or.inl ⟨hc, by simp [rdContains, hu], view_of_upper hi hu⟩)
      | none => exact Or.inr (Or.inr ⟨hc, by simp [rdContains, hu, hke], hke, view_of_upper_none hm hu⟩)

theorem ov_contains {s : S} (hi : Inv s) (k : Key) :
    Ov.contains specOps specOps s k = .ok (rdContains (view s) k) := by
  unfold Ov.contains
  rcases read_cases hi k with ⟨hc, hk, hv⟩ | ⟨hc, hu, hv⟩ | ⟨hc, hu, hk, hv⟩
  · simp only [hc, ↓reduceIte, rdContains, hv, hk]; rfl
  · simp only [hc, spec_contains, hu, Bool.false_eq_true, ↓reduceIte]
    rw [rdContains_congr hv, hu]
  · simp only [hc, spec_contains, hu, Bool.false_eq_true, ↓reduceIte]
    rw [rdContains_congr hv]

theorem ov_isDir {s : S} (hi : Inv s) (k : Key) :
    Ov.isDir specOps specOps s k = .ok (rdIsDir (view s) k) := by
  unfold Ov.isDir
  rcases read_cases hi k with ⟨hc, hk, hv⟩ | ⟨hc, hu, hv⟩ | ⟨hc, hu, hk, hv⟩
  · simp only [hc, ↓reduceIte, rdIsDir, hv, hk]; rfl
  · simp only [hc, spec_contains, spec_isDir, hu, Bool.false_eq_true, ↓reduceIte]
    rw [rdIsDir_congr hv]
  · simp only [hc, spec_contains, spec_isDir, hu, Bool.false_eq_true, ↓reduceIte]
    rw [rdIsDir_congr hv]

theorem ov_getBytes {s : S} (hi : Inv s) (k : Key) :
    Ov.getBytes specOps specOps s k = rdBytes (view s) k := by
  unfold Ov.getBytes
  rcases read_cases hi k with ⟨hc, hk, hv⟩ | ⟨hc, hu, hv⟩ | ⟨hc, hu, hk, hv⟩
  · simp only [hc, ↓reduceIte, rdBytes, hv]
  · simp only [hc, spec_contains, spec_getBytes, hu, Bool.false_eq_true, ↓reduceIte]
    rw [rdBytes_congr hv]
  · simp only [hc, spec_contains, spec_getBytes, hu, Bool.false_eq_true, ↓reduceIte]
    rw [rdBytes_congr hv]

theorem ov_getMeta {s : S} (hi : Inv s) (k : Key) :
    Ov.getMeta specOps specOps s k = rdMeta (view s) k := by
  unfold Ov.getMeta
  rcases read_cases hi k with ⟨hc, hk, hv⟩ | ⟨hc, hu, hv⟩ | ⟨hc, hu, hk, hv⟩
  · simp only [hc, ↓reduceIte, rdMeta, hv, hk, Bool.false_eq_true]
  · simp only [hc, spec_contains, spec_getMeta, hu, Bool.false_eq_true, ↓reduceIte]
    rw [rdMeta_congr hv]
  · simp only [hc, spec_contains, spec_getMeta, hu, Bool.false_eq_true, ↓reduceIte]
    rw [rdMeta_congr hv]

theorem nodup_union_filter {α : Type} [BEq α] [LawfulBEq α] (a b : List α) (ha : a.Nodup) (hb : b.Nodup) :
    (a ++ b.filter (fun x => !a.contains x)).Nodup := by
  refine List.nodup_append.mpr ⟨ha, List.Pairwise.filter _ hb, ?_⟩
  intro x hx y hy e
  subst e
  simp at hy
  exact hy.2 hx

theorem mem_listing (fs : FS) (ht : TreeP fs) (k : Key) (nm : Str) :
    nm ∈ ((if rdIsDir fs.get k then some (fs.children k) else none).getD []).eraseDups ↔
      (fs.get (k ++ [nm])).isSome = true := by
  rw [List.mem_eraseDups]
  by_cases hd : rdIsDir fs.get k = true
  · simp only [hd, ↓reduceIte, Option.getD_some]
    exact mem_children_iff fs k nm
  · simp only [hd, Bool.false_eq_true, ↓reduceIte, Option.getD_none, List.not_mem_nil, false_iff]
    -- a key below a non-directory is absent
    intro h
    obtain ⟨n, hg⟩ := Option.isSome_iff_exists.mp h
    apply hd
    unfold rdIsDir
    by_cases hk : k = []
    · simp [hk]
    · simp [TreeF.parent_dir ht hk hg]

theorem view_isSome_iff (s : S) (x : Key) :
    (view s x).isSome = true ↔ ((s.1.get x).isSome = true ∨ (s.2.1.get x).isSome = true) ∧ x ∉ s.2.2 := by
  by_cases hm : x ∈ s.2.2
  · simp [view_of_mem hm, hm]
  · rw [view_of_not_mem hm]
    cases s.1.get x <;> simp [hm]

theorem ov_listdir {s : S} (hi : Inv s) (k : Key) :
    ∃ l, Ov.listdirL specOps specOps s k = .ok l ∧ l.Nodup ∧ ∀ nm, nm ∈ l ↔ (view s (k ++ [nm])).isSome = true := by
  unfold Ov.listdirL
  simp only [spec_listdir]
  refine ⟨_, rfl, ?_, fun nm => ?_⟩
  · exact List.Pairwise.filter _ (nodup_union_filter _ _ (nodup_eraseDups' _) (nodup_eraseDups' _))
  · simp only [List.mem_filter, List.mem_append, Bool.not_eq_true', List.contains_eq_mem, decide_eq_false_iff_not,
      mem_listing _ hi.up, mem_listing _ hi.low, view_isSome_iff]
    -- "in the upper listing, or in the lower one and not in the upper one" is "in one of them"
    by_cases hu : (s.1.get (k ++ [nm])).isSome = true <;> simp [hu]

theorem ov_keys (s : S) :
    ∃ l, Ov.keys specOps specOps s = .ok l ∧ l.Nodup ∧ ∀ k, k ∈ l ↔ (view s k).isSome = true := by
  unfold Ov.keys
  simp only [spec_keys]
  refine ⟨_, rfl, List.Pairwise.filter _ (nodup_eraseDups' _), fun k => ?_⟩
  simp only [List.mem_filter, List.mem_eraseDups, List.mem_append, FS.mem_keys_iff, Bool.not_eq_true',
    List.contains_eq_mem, decide_eq_false_iff_not, view_isSome_iff]

theorem mem_restore {r : List Key} {k x : Key} : x ∈ Ov.restore r k ↔ x ∈ r ∧ ¬ (x ≠ [] ∧ x <+: k) := by
  unfold Ov.restore
  simp only [List.mem_filter, Bool.or_eq_true, List.isEmpty_iff, Bool.not_eq_true', ← Bool.not_eq_true,
    List.isPrefixOf_iff_prefix, not_and, ne_eq]
  exact and_congr_right fun _ => ⟨fun h hx => h.resolve_left hx, fun h => (Decidable.em (x = [])).imp_right h⟩

theorem view_write {s : S} (hi : Inv s) {k : Key} (hk : k ≠ []) {n : Node}
    (hf : ∀ a, Anc a k → ∀ d m, view s a ≠ some (.file d m)) {u' : FS} (htu : TreeP u')
    (hu : u'.get = storeF s.1.get k n) (htv : TreeF (storeF (view s) k n)) :
    view (u', s.2.1, Ov.restore s.2.2 k) = storeF (view s) k n ∧ Inv (u', s.2.1, Ov.restore s.2.2 k) := by
  have hv : view (u', s.2.1, Ov.restore s.2.2 k) = storeF (view s) k n := by
    funext x
    by_cases hp : x ≠ [] ∧ x <+: k
    · -- on the path: no tomb-stone is left, the upper part answers
      rw [view_of_not_mem fun h => (mem_restore.mp h).2 hp]
      show (match u'.get x with | some n => some n | none => s.2.1.get x) = _
      rw [hu]
      by_cases hxk : x = k
      · subst hxk; rw [storeF_self, storeF_self]
      · have hxa : x ∈ ancestors k := (anc_iff x k).mp ⟨hp.1, hp.2, hxk⟩
        rw [storeF_ne hxk, storeF_ne hxk]
        -- a directory on both sides, unless the upper part has `x` already
        cases hux : s.1.get x with
        | some m => rw [mkdirsF_some hux, mkdirsF_some (view_of_upper hi hux)]
        | none => rw [mkdirsF_new hxa hux, mkdirsF_dir hxa (hf x ((anc_iff x k).mpr hxa))]
    · -- off the path nothing changes
      have hmem : x ∈ Ov.restore s.2.2 k ↔ x ∈ s.2.2 := mem_restore.trans (and_iff_left hp)
      rw [storeF_off hk hp]
      by_cases hr : x ∈ s.2.2
      · rw [view_of_mem (hmem.mpr hr), view_of_mem hr]
      · rw [view_of_not_mem (fun h => hr (hmem.mp h)), view_of_not_mem hr]
        show (match u'.get x with | some n => some n | none => s.2.1.get x) = _
        rw [hu, storeF_off hk hp]
  refine ⟨hv, htu, hi.low, fun x hx => ?_, fun h => hi.noroot (mem_restore.mp h).1, hv ▸ htv⟩
  obtain ⟨h1, hp⟩ := mem_restore.mp hx
  show u'.get x = none
  rw [hu, storeF_off hk hp]
  exact hi.rem x h1

theorem ov_store {s : S} (hi : Inv s) (k : Key) (d : Data) (m : UMeta) (hw : WfF (view s) (.store k d m)) :
    ∃ s', Ov.store specOps specOps s k d m = .ok s' ∧ view s' = stepF (view s) (.store k d m) ∧ Inv s' := by
  have hwu : WfF s.1.get (.store k d m) :=
    ⟨hw.1, fun e => hw.2.1 (view_of_upper hi e), fun a ha => upper_not_file hi (hw.2.2 a ha)⟩
  obtain ⟨u', h1, h2, h3⟩ := spec_apply_get s.1 _ hi.up hwu
  refine ⟨(u', s.2.1, Ov.restore s.2.2 k), ?_, view_write hi hw.1 hw.2.2 h3 h2 (treeF_step hi.tree _ hw)⟩
  unfold Ov.store
  rw [show specOps.store s.1 k d m = .ok u' from h1]

theorem ov_makedir {s : S} (hi : Inv s) (k : Key) (hw : WfF (view s) (.makedir k)) :
    ∃ s', Ov.makedir specOps specOps s k = .ok s' ∧ view s' = stepF (view s) (.makedir k) ∧ Inv s' := by
  obtain ⟨hk, hkf, hf⟩ := hw
  have hwu : WfF s.1.get (.makedir k) := ⟨hk, upper_not_file hi hkf, fun a ha => upper_not_file hi (hf a ha)⟩
  obtain ⟨u', h1, h2, h3⟩ := spec_apply_get s.1 _ hi.up hwu
  have htv : TreeF (stepF (view s) (.makedir k)) := treeF_step hi.tree _ ⟨hk, hkf, hf⟩
  have h2' : u'.get = storeF s.1.get k .dir := h2.trans (makedirF_eq_storeF hwu.2.1)
  have hs : stepF (view s) (.makedir k) = storeF (view s) k .dir := makedirF_eq_storeF hkf
  refine ⟨(u', s.2.1, Ov.restore s.2.2 k), ?_, hs ▸ view_write hi hk hf h3 h2' (hs ▸ htv)⟩
  unfold Ov.makedir
  rw [show specOps.makedir s.1 k = .ok u' from h1]

/-- what the copy-up of `store_metadata` (fix D5c) establishes, whether or not the upper part had the key -/
theorem copyUp_spec {s : S} (hi : Inv s) {k : Key} {d : Data} {m0 : UMeta} (hvk : view s k = some (.file d m0)) :
    ∃ u1 m1, Ov.copyUp specOps specOps s k = .ok u1 ∧ TreeP u1 ∧ u1.get k = some (.file d m1) ∧
      ∀ n, setF u1.get k n = storeF s.1.get k n := by
  have hk : k ≠ [] := (hi.tree k _ hvk).1
  have hke : k.isEmpty = false := List.isEmpty_eq_false_iff.mpr hk
  unfold Ov.copyUp
  cases huk : s.1.get k with
  | some n =>
    have hn := view_of_upper hi huk
    rw [hvk] at hn
    cases hn
    refine ⟨s.1, m0, ?_, hi.up, huk, fun n => (storeF_of_present hi.up huk n).symm⟩
    simp only [spec_contains, rdContains, hke, huk, Option.isSome_some, Bool.or_true]
  | none =>
    have hlk : s.2.1.get k = some (.file d m0) := (view_of_upper_none (not_mem_of_view hvk) huk).symm.trans hvk
    have hwu : WfF s.1.get (.store k d { user := m0.user, size := m0.size, md5 := m0.md5 }) :=
      ⟨hk, (by rw [huk]; exact fun e => nomatch e), fun a ha => upper_not_file hi fun d' m' e => by
        have := (hi.tree k _ hvk).2 a ha
        rw [e] at this; cases this⟩
    obtain ⟨u1, h1, h2, ht1⟩ := spec_apply_get s.1 _ hi.up hwu
    refine ⟨u1, _, ?_, ht1, by rw [h2]; exact storeF_self, fun n => by rw [h2]; exact setF_storeF _ k _ n⟩
    simp only [spec_contains, rdContains, hke, huk, hlk, Option.isSome_none, Option.isSome_some, Bool.or_false,
      Bool.or_true, spec_getBytes, rdBytes, spec_getMeta, rdMeta]
    exact h1

theorem ov_storeMeta {s : S} (hi : Inv s) (k : Key) (m : UMeta) (hw : WfF (view s) (.storeMeta k m)) :
    ∃ s', Ov.storeMeta specOps specOps s k m = .ok s' ∧ view s' = stepF (view s) (.storeMeta k m) ∧ Inv s' := by
  obtain ⟨d, m0, hvk⟩ := hw
  have hk : k ≠ [] := (hi.tree k _ hvk).1
  have hf : ∀ a, Anc a k → ∀ d m, view s a ≠ some (.file d m) := by
    intro a ha d' m' e
    have := (hi.tree k _ hvk).2 a ha
    rw [e] at this; cases this
  obtain ⟨u1, m1, hc, ht1, hu1k, hset⟩ := copyUp_spec hi hvk
  obtain ⟨u', h3, h4, h5⟩ := spec_apply_get u1 (.storeMeta k m) ht1 ⟨d, m1, hu1k⟩
  have h2 : u'.get = storeF s.1.get k (.file d m) := by
    rw [h4, ← hset]
    simp only [stepF, hu1k]
  have hstep : stepF (view s) (.storeMeta k m) = storeF (view s) k (.file d m) := by
    simp only [stepF, hvk]
    rw [storeF_of_present hi.tree hvk]
  have htv := treeF_step hi.tree (.storeMeta k m) ⟨d, m0, hvk⟩
  refine ⟨(u', s.2.1, Ov.restore s.2.2 k), ?_, hstep ▸ view_write hi hk hf h5 h2 (hstep ▸ htv)⟩
  unfold Ov.storeMeta
  simp only [hc, show specOps.storeMeta u1 k m = .ok u' from h3]

theorem mem_addKey {r : List Key} {k x : Key} : x ∈ Ov.addKey r k ↔ x = k ∨ x ∈ r := by
  unfold Ov.addKey
  split
  · rename_i h
    exact ⟨Or.inr, fun e => e.elim (fun e => e ▸ List.contains_iff_mem.mp h) id⟩
  · exact List.mem_cons

/-- the state `remove` and `dropEmptyDir` leave: `k` is dropped from the upper part and tomb-stoned if the lower part has it -/
def erased (s : S) (k : Key) : S :=
  (if (s.1.get k).isSome then s.1.erase k else s.1, s.2.1, if (s.2.1.get k).isSome then Ov.addKey s.2.2 k else s.2.2)

theorem erased_upper (s : S) (k : Key) : (erased s k).1.get = eraseF s.1.get k := by
  show (if (s.1.get k).isSome then s.1.erase k else s.1).get = _
  split
  · exact get_erase_eq s.1 k
  · rename_i h
    funext x
    by_cases hxk : x = k
    · subst hxk; rw [eraseF_self]; simpa using h
    · rw [eraseF_ne hxk]

theorem mem_erased (s : S) (k x : Key) :
    x ∈ (erased s k).2.2 ↔ (x = k ∧ (s.2.1.get k).isSome = true) ∨ x ∈ s.2.2 := by
  show x ∈ (if (s.2.1.get k).isSome then Ov.addKey s.2.2 k else s.2.2) ↔ _
  split
  · rename_i h; rw [mem_addKey, and_iff_left h]
  · rename_i h; rw [or_iff_right fun c => h c.2]

theorem remove_eq {s : S} {k : Key} (hk : k ≠ []) (hm : k ∉ s.2.2) :
    Ov.remove specOps specOps s k = .ok (erased s k) := by
  have hc : s.2.2.contains k = false := Bool.eq_false_iff.mpr fun c => hm (List.contains_iff_mem.mp c)
  have hke : k.isEmpty = false := by simpa using hk
  unfold Ov.remove erased
  simp only [hc, Bool.false_eq_true, ↓reduceIte, spec_contains, rdContains, hke, Bool.false_or]
  cases (s.1.get k).isSome <;> rfl

theorem view_erased {s : S} (hi : Inv s) (k : Key) (hk : k ≠ []) (hm : k ∉ s.2.2)
    (ht : TreeF (eraseF s.1.get k)) (hvt : TreeF (eraseF (view s) k)) :
    view (erased s k) = eraseF (view s) k ∧ Inv (erased s k) := by
  have hu := erased_upper s k
  have hv : view (erased s k) = eraseF (view s) k := by
    funext x
    by_cases hxk : x = k
    · -- `k` is masked if the lower part has it, and gone from the upper part
      subst hxk
      rw [eraseF_self]
      by_cases hl : (s.2.1.get x).isSome = true
      · exact view_of_mem ((mem_erased s x x).mpr (Or.inl ⟨rfl, hl⟩))
      · rw [view_of_not_mem fun h => ((mem_erased s x x).mp h).elim (fun h => hl h.2) hm, hu, eraseF_self]
        exact Option.not_isSome_iff_eq_none.mp hl
    · have hmem : x ∈ (erased s k).2.2 ↔ x ∈ s.2.2 := (mem_erased s k x).trans (or_iff_right fun h => hxk h.1)
      rw [eraseF_ne hxk]
      by_cases hr : x ∈ s.2.2
      · rw [view_of_mem (hmem.mpr hr), view_of_mem hr]
      · rw [view_of_not_mem (fun h => hr (hmem.mp h)), view_of_not_mem hr, hu, eraseF_ne hxk]
        rfl
  refine ⟨hv, ?_, hi.low, fun x hx => ?_, fun h => ?_, hv ▸ hvt⟩
  · show TreeF (erased s k).1.get
    rw [hu]; exact ht
  · rw [hu]
    by_cases hxk : x = k
    · subst hxk; exact eraseF_self
    · rw [eraseF_ne hxk]
      exact hi.rem x (((mem_erased s k x).mp hx).resolve_left fun h => hxk h.1)
  · exact ((mem_erased s k []).mp h).elim (fun e => hk e.1.symm) hi.noroot

theorem ov_remove {s : S} (hi : Inv s) (k : Key) (hw : WfF (view s) (.remove k)) :
    ∃ s', Ov.remove specOps specOps s k = .ok s' ∧ view s' = stepF (view s) (.remove k) ∧ Inv s' := by
  obtain ⟨d, m0, hvk⟩ := hw
  have hk : k ≠ [] := (hi.tree k _ hvk).1
  refine ⟨_, remove_eq hk (not_mem_of_view hvk), view_erased hi k hk (not_mem_of_view hvk) ?_
    (treeF_step hi.tree (.remove k) ⟨d, m0, hvk⟩)⟩
  -- the upper part stays a tree: it holds k as a file or not at all
  cases huk : s.1.get k with
  | none =>
    have : eraseF s.1.get k = s.1.get := by
      funext x
      by_cases e : x = k
      · subst e; rw [eraseF_self, huk]
      · exact eraseF_ne e
    rw [this]; exact hi.up
  | some n =>
    have := view_of_upper hi huk
    rw [hvk] at this
    cases this
    exact treeF_step hi.up (.remove k) ⟨d, m0, huk⟩

theorem dropEmptyDir_eq {s : S} (hi : Inv s) (k : Key) (hk : k ≠ []) (hd : view s k = some .dir)
    (hc : ∀ nm, view s (k ++ [nm]) = none) :
    Ov.dropEmptyDir specOps specOps s k = .ok (erased s k) := by
  have hke : k.isEmpty = false := by simpa using hk
  obtain ⟨l, hl, _, hmem⟩ := ov_listdir hi k
  have hl0 : l = [] := List.eq_nil_iff_forall_not_mem.mpr fun nm h => by
    have := (hmem nm).mp h
    rw [hc nm] at this; cases this
  subst hl0
  have huc : specOps.removedir s.1 k false = .ok (s.1.erase k) :=
    spec_removedir_empty hk ((FS.children_isEmpty s.1 k).mpr fun nm => upper_none_of_view hi (hc nm))
  unfold Ov.dropEmptyDir erased
  rw [ov_contains hi k, hl]
  simp only [rdContains, hke, hd, Option.isSome_some, Bool.false_or, List.isEmpty_nil, Bool.not_true,
    Bool.false_eq_true, ↓reduceIte, spec_contains, huc]
  cases (s.1.get k).isSome <;> rfl

theorem ov_dropEmptyDir {s : S} (hi : Inv s) (k : Key) (hk : k ≠ []) (hd : view s k = some .dir)
    (hc : ∀ nm, view s (k ++ [nm]) = none) :
    ∃ s', Ov.dropEmptyDir specOps specOps s k = .ok s' ∧ view s' = rmTreeF (view s) k ∧ Inv s' := by
  have hvb : ∀ x, k <+: x → x ≠ k → view s x = none := TreeF.no_children_below hi.tree hc
  have hub : ∀ x, k <+: x → x ≠ k → s.1.get x = none := fun x hp hne => upper_none_of_view hi (hvb x hp hne)
  have hvE := eraseF_eq_rmTreeF k hvb
  refine ⟨_, dropEmptyDir_eq hi k hk hd hc, hvE ▸ view_erased hi k hk (not_mem_of_view hd) ?_ ?_⟩
  · rw [eraseF_eq_rmTreeF k hub]; exact treeF_rmTree hi.up k
  · rw [hvE]; exact treeF_rmTree hi.tree k

/-- what the loop of a recursive `removedir` leaves: the sub-trees of the listed children are gone -/
def cutF (g : Look) (k : Key) (names : List Str) : Look :=
  fun x => if ∃ nm, nm ∈ names ∧ (k ++ [nm]) <+: x then none else g x

theorem cutF_hit {g : Look} {k x : Key} {names : List Str} {nm : Str} (h : nm ∈ names) (hp : (k ++ [nm]) <+: x) :
    cutF g k names x = none := if_pos ⟨nm, h, hp⟩

theorem cutF_miss {g : Look} {k x : Key} {names : List Str} (h : ∀ nm, nm ∈ names → ¬ (k ++ [nm]) <+: x) :
    cutF g k names x = g x := if_neg fun ⟨nm, h1, h2⟩ => h nm h1 h2

theorem cutF_nil (g : Look) (k : Key) : cutF g k [] = g :=
  funext fun _ => cutF_miss fun _ h => nomatch h

theorem cutF_cons (g : Look) (k : Key) (nm : Str) (rest : List Str) :
    cutF (rmTreeF g (k ++ [nm])) k rest = cutF g k (nm :: rest) := by
  funext x
  by_cases hx : ∃ nm', nm' ∈ rest ∧ (k ++ [nm']) <+: x
  · obtain ⟨a, ha, hp⟩ := hx
    rw [cutF_hit ha hp, cutF_hit (List.mem_cons_of_mem _ ha) hp]
  · rw [cutF_miss fun a ha hp => hx ⟨a, ha, hp⟩]
    by_cases hp : (k ++ [nm]) <+: x
    · rw [rmTreeF_below hp, cutF_hit List.mem_cons_self hp]
    · rw [rmTreeF_off hp, cutF_miss]
      intro a ha hpa
      rcases List.mem_cons.mp ha with e | e
      · exact hp (e ▸ hpa)
      · exact hx ⟨a, e, hpa⟩

theorem cutF_off {g : Look} {k x : Key} {names : List Str} (h : ¬ k <+: x ∨ x = k) : cutF g k names x = g x := by
  refine cutF_miss fun nm _ hp => ?_
  rcases h with h | h
  · exact h ((List.prefix_append k [nm]).trans hp)
  · subst h
    have := hp.length_le
    simp only [List.length_append, List.length_cons, List.length_nil] at this
    omega

theorem child_prefix_iff (k : Key) (a b : Str) : (k ++ [a]) <+: (k ++ [b]) ↔ a = b := by
  constructor
  · intro h
    simpa using h.eq_of_length (by simp)
  · rintro rfl; exact List.prefix_refl _

/-- a recursive `removedir` with fuel `n` of a directory whose sub-tree is less than `n` deep removes the sub-tree -/
def RmSpec (n : Nat) : Prop :=
  ∀ (s : S) (k : Key), Inv s → k ≠ [] → view s k = some .dir →
    (∀ x, (view s x).isSome = true → k <+: x → x.length < k.length + n) →
    ∃ s', Ov.removedirFuel specOps specOps n s k true = .ok s' ∧ view s' = rmTreeF (view s) k ∧ Inv s'

theorem ov_rmChild {n : Nat} (ih : RmSpec n) (k : Key) {st : S} (hi : Inv st) {nm : Str}
    (hpres : (view st (k ++ [nm])).isSome = true)
    (hb : ∀ x, (view st x).isSome = true → k <+: x → x.length < k.length + (n + 1)) :
    ∃ st1, Ov.rmChild specOps specOps (fun st c => Ov.removedirFuel specOps specOps n st c true) k st nm = .ok st1 ∧
      view st1 = rmTreeF (view st) (k ++ [nm]) ∧ Inv st1 := by
  unfold Ov.rmChild
  rw [ov_isDir hi]
  have hce : (k ++ [nm]).isEmpty = false := by simp
  obtain ⟨node, hv⟩ := Option.isSome_iff_exists.mp hpres
  cases node with
  | dir =>
    simp only [rdIsDir, hce, hv, Bool.false_or, beq_self_eq_true]
    refine ih st (k ++ [nm]) hi (by simp) hv fun x hx hp => ?_
    have := hb x hx ((List.prefix_append k [nm]).trans hp)
    simp only [List.length_append, List.length_cons, List.length_nil]
    omega
  | file d m =>
    have hnd' : (some (Node.file d m) == some Node.dir) = false := rfl
    simp only [rdIsDir, hce, hv, Bool.false_or, hnd']
    obtain ⟨st1, h1, h2, h3⟩ := ov_remove hi (k ++ [nm]) ⟨d, m, hv⟩
    exact ⟨st1, h1, h2.trans (eraseF_eq_rmTreeF _ fun x hp hne => hi.tree.below_file hv hp hne), h3⟩

theorem rm_fold {n : Nat} (ih : RmSpec n) (k : Key) :
    ∀ (todo : List Str) (st : S), Inv st → todo.Nodup →
      (∀ nm, nm ∈ todo → (view st (k ++ [nm])).isSome = true) →
      (∀ x, (view st x).isSome = true → k <+: x → x.length < k.length + (n + 1)) →
      ∃ st', todo.foldlM (Ov.rmChild specOps specOps (fun st c => Ov.removedirFuel specOps specOps n st c true) k) st = .ok st' ∧
        view st' = cutF (view st) k todo ∧ Inv st' := by
  intro todo
  induction todo with
  | nil => intro st hi _ _ _; exact ⟨st, rfl, (cutF_nil _ k).symm, hi⟩
  | cons nm rest ihl =>
    intro st hi hnd hpres hb
    obtain ⟨st1, h1, h2, h3⟩ := ov_rmChild ih k hi (hpres nm List.mem_cons_self) hb
    obtain ⟨hnm, hnd2⟩ := List.nodup_cons.mp hnd
    -- the other children are still there, and the depth bound still holds
    have hA : ∀ nm', nm' ∈ rest → (view st1 (k ++ [nm'])).isSome = true := by
      intro nm' hnm'
      rw [h2, rmTreeF_off fun hp => hnm (((child_prefix_iff k nm nm').mp hp) ▸ hnm')]
      exact hpres nm' (List.mem_cons_of_mem _ hnm')
    have hB : ∀ x, (view st1 x).isSome = true → k <+: x → x.length < k.length + (n + 1) := by
      intro x hx hp
      refine hb x ?_ hp
      rw [h2] at hx
      by_cases hq : (k ++ [nm]) <+: x
      · rw [rmTreeF_below hq] at hx; cases hx
      · rwa [rmTreeF_off hq] at hx
    obtain ⟨st', h4, h5, h6⟩ := ihl st1 h3 hnd2 hA hB
    refine ⟨st', ?_, ?_, h6⟩
    · rw [List.foldlM_cons, h1]; exact h4
    · rw [h5, h2, cutF_cons]

theorem rm_rec (n : Nat) : RmSpec n := by
  induction n with
  | zero =>
    intro s k _ _ hd hb
    have := hb k (by rw [hd]; rfl) (List.prefix_refl _)
    omega
  | succ n ih =>
    intro s k hi hk hd hb
    obtain ⟨names, hl, hnd, hmem⟩ := ov_listdir hi k
    obtain ⟨s1, h1, h2, h3⟩ := rm_fold ih k names s hi hnd (fun nm h => (hmem nm).mp h) hb
    -- after the loop nothing is left below k: a key below k lies at or below a listed child
    have hcut : ∀ nm, view s1 (k ++ [nm]) = none := by
      intro nm
      rw [h2]
      cases hv : view s (k ++ [nm]) with
      | none => rw [cutF_miss fun a _ hp => by
          have := (child_prefix_iff k a nm).mp hp; subst this
          exact absurd ((hmem a).mp ‹_›) (by rw [hv]; exact fun e => nomatch e), hv]
      | some node => exact cutF_hit ((hmem nm).mpr (by rw [hv]; rfl)) (List.prefix_refl _)
    have hk1 : view s1 k = some .dir := by rw [h2, cutF_off (Or.inr rfl), hd]
    obtain ⟨s', h4, h5, h6⟩ := ov_dropEmptyDir h3 k hk hk1 hcut
    refine ⟨s', ?_, ?_, h6⟩
    · simp only [Ov.removedirFuel, ↓reduceIte, hl, h1]
      exact h4
    · rw [h5]
      funext x
      by_cases hp : k <+: x
      · rw [rmTreeF_below hp, rmTreeF_below hp]
      · rw [rmTreeF_off hp, rmTreeF_off hp, h2, cutF_off (Or.inl hp)]

theorem le_foldl_max (l : List Nat) (a : Nat) : a ≤ l.foldl max a ∧ ∀ x, x ∈ l → x ≤ l.foldl max a := by
  induction l generalizing a with
  | nil => simp
  | cons y l ih =>
    rw [List.foldl_cons]
    obtain ⟨h1, h2⟩ := ih (max a y)
    refine ⟨Nat.le_trans (Nat.le_max_left a y) h1, ?_⟩
    intro x hx
    rcases List.mem_cons.mp hx with e | e
    · subst e; exact Nat.le_trans (Nat.le_max_right a x) h1
    · exact h2 x e

theorem depth_bound {s : S} (x : Key) (hx : (view s x).isSome = true) :
    x.length ≤ Ov.depthBound specOps specOps s := by
  unfold Ov.depthBound
  simp only [spec_keys]
  refine (le_foldl_max _ 0).2 x.length (List.mem_map.mpr ⟨x, ?_, rfl⟩)
  rw [List.mem_append, FS.mem_keys_iff, FS.mem_keys_iff]
  exact ((view_isSome_iff s x).mp hx).1

theorem ov_removedir {s : S} (hi : Inv s) (k : Key) (r : Bool) (hw : WfF (view s) (.removedir k r)) :
    ∃ s', Ov.removedir specOps specOps s k r = .ok s' ∧ view s' = stepF (view s) (.removedir k r) ∧ Inv s' := by
  obtain ⟨hk, hd, hc⟩ := hw
  cases r with
  | true =>
    -- `depthBound + 2`: one level for `k` itself, one for the zero case of `RmSpec`
    refine rm_rec _ s k hi hk hd fun x hx _ => ?_
    have := depth_bound x hx
    omega
  | false =>
    obtain ⟨s', h1, h2, h3⟩ := ov_dropEmptyDir hi k hk hd (hc.resolve_left fun e => nomatch e)
    refine ⟨s', ?_, h2, h3⟩
    unfold Ov.removedir
    simp only [Ov.removedirFuel, Bool.false_eq_true, ↓reduceIte]
    exact h1

theorem ov_apply {s : S} (hi : Inv s) (op : StoreOp) (hw : WfF (view s) op) :
    ∃ s', (overlayOps specOps specOps).apply s op = .ok s' ∧ view s' = stepF (view s) op ∧ Inv s' := by
  cases op with
  | store k d m => exact ov_store hi k d m hw
  | storeMeta k m => exact ov_storeMeta hi k m hw
  | remove k => exact ov_remove hi k hw
  | removedir k r => exact ov_removedir hi k r hw
  | makedir k => exact ov_makedir hi k hw

end Liquer.OvL
