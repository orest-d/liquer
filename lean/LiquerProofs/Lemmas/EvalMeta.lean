/-
Lemmas for C18: `metaQ` level by level (equations, inversions), its outcome is `refQ`'s, and `metaQ_invariant`: what holds
initially and is kept by the four kinds of step holds of all `metaQ` returns — instantiated with `Describes`.
-/
import LiquerModel.EvalMeta
import LiquerProofs.Lemmas.EvalMetaRef

namespace Liquer

variable {env : Env} {n : Nat} {st e : EState} {m m' : MetaRec} {o : Outcome} {a : Action} {q : Query}
  {parent key raw : Str} {r : Option Seg} {extra : Extra} {input : Option Val}

theorem Query.isResource_eq (q : Query) : q.isResource = q.isRes := rfl

theorem metaQ_succ (env : Env) (n : Nat) (q : Query) (raw : Str) (extra : Extra) (input : Option Val) :
    metaQ env (n+1) q raw extra input =
      if q.isResource then (.unmodelled, {}) else
      match q.predecessor with
      | none => metaAfter env n (.st (initSt env input)) (initMeta input) [] none (q.encode Gen.escapeTable) raw extra
      | some (p, r) =>
        if p.segments.isEmpty then
          metaAfter env n (.st (initSt env input)) (initMeta input) [] r (q.encode Gen.escapeTable) raw extra
        else
          metaAfter env n (metaQ env n p (p.encode Gen.escapeTable) .none input).1
            (metaQ env n p (p.encode Gen.escapeTable) .none input).2 (p.encode Gen.escapeTable) r
            (q.encode Gen.escapeTable) raw extra := by
  rw [metaQ]
  rfl

theorem metaQ_succ_pred (env : Env) (n : Nat) {q p : Query} {r : Option Seg} (raw : Str) (extra : Extra) (input : Option Val)
    (hp : q.predecessor = some (p, r)) (hpe : p.segments.isEmpty = false) :
    metaQ env (n+1) q raw extra input =
      metaAfter env n (metaQ env n p (p.encode Gen.escapeTable) .none input).1
        (metaQ env n p (p.encode Gen.escapeTable) .none input).2 (p.encode Gen.escapeTable) r
        (q.encode Gen.escapeTable) raw extra := by
  rw [metaQ_succ, Query.isResource_eq, Query.predecessor_not_isRes hp, hp]
  dsimp only
  rw [hpe]
  rfl

theorem metaAction_fst (env : Env) (n : Nat) (st : EState) (m : MetaRec) (a : Action) (raw parent : Str) (extra : Extra) :
    (metaAction env n st m a raw parent extra).1 = (refAction env n st a raw parent extra).1 := by
  unfold metaAction
  cases (refAction env n st a raw parent extra).1 <;> rfl

theorem metaPost_fst (env : Env) (n : Nat) (st : EState) (m : MetaRec) (parent : Str) (r : Option Seg)
    (key raw : Str) (extra : Extra) :
    (metaPost env n st m parent r key raw extra).1 = (refPost env n st parent r key raw extra).1 := by
  rcases r with _ | (⟨h, _ | ⟨a, _ | _⟩, _ | f⟩ | _) <;> try rfl
  have ha := metaAction_fst env n st m a raw parent extra
  revert ha
  simp only [metaPost, refPost]
  rcases metaAction env n st m a raw parent extra with ⟨o, m2⟩
  generalize (refAction env n st a raw parent extra).1 = o2
  rintro rfl
  cases o <;> rfl

theorem metaAfter_fst (env : Env) (n : Nat) (o : Outcome) (m : MetaRec) (parent : Str) (r : Option Seg)
    (key raw : Str) (extra : Extra) :
    (metaAfter env n o m parent r key raw extra).1 = (refAfter env n o parent r key raw extra).1 := by
  unfold metaAfter refAfter
  cases o with
  | st st =>
    dsimp only
    split
    · rfl
    · exact metaPost_fst env n st m parent r key raw extra
  | _ => rfl

theorem metaQ_fst (env : Env) : ∀ (n : Nat) (q : Query) (raw : Str) (extra : Extra) (input : Option Val),
    (metaQ env n q raw extra input).1 = (refQ env n q raw extra input).1
  | 0, q, raw, extra, input => rfl
  | n + 1, q, raw, extra, input => by
    rw [metaQ_succ, refQ_succ, Query.isResource_eq]
    split
    · rfl
    rcases q.predecessor with _ | ⟨p, r⟩
    · exact metaAfter_fst ..
    dsimp only
    split
    · exact metaAfter_fst ..
    · rw [metaAfter_fst, metaQ_fst env n]

theorem metaOf_eq_some :
    metaOf env n q raw extra input = some m ↔ ∃ e, metaQ env n q raw extra input = (.st e, m) := by
  unfold metaOf
  rcases metaQ env n q raw extra input with ⟨o, m'⟩
  cases o <;> simp

theorem statuses_distinct : Gen.metaStatusReady ≠ Gen.metaStatusError := by decide

theorem actionInfo_unresolved (env : Env) (n : Nat) (st : EState) (a : Action) (raw parent : Str) (extra : Extra)
    {nss : List Str} (hns : namespacesOf st.vars = some nss) (hr : resolve env.reg nss a.name = none) :
    actionInfo env (n+1) st a raw parent extra = {} := by
  simp only [actionInfo, hns, hr]

theorem actionInfo_resolved (env : Env) (n : Nat) (st : EState) (a : Action) (raw parent : Str) (extra : Extra)
    {nss : List Str} {sig : CmdSig} (hns : namespacesOf st.vars = some nss) (hr : resolve env.reg nss a.name = some sig) :
    (actionInfo env (n+1) st a raw parent extra).sig = some sig ∧
      (actionInfo env (n+1) st a raw parent extra).argQ = linkQueries a.params := by
  simp only [actionInfo, hns, hr, and_self]

/-- attributes of the command the action resolved to (none: unknown command) -/
def cmdAttrsOf (info : ActionInfo) : List (Str × Str) := (info.sig.map (·.attrs)).getD []

/-- the states an action applied to `st` can return, `cattrs` being the attributes of the command it resolved to -/
inductive ActionSt (st : EState) (a : Action) (cattrs : List (Str × Str)) : EState → Prop
  | fail (vol pos q) : ActionSt st a cattrs (failSt st a (mergeAttrs st.attrs cattrs) vol pos q)
  | done (sig xv v vars c) : sig.attrs = cattrs → ActionSt st a cattrs (doneSt st a sig xv v vars c)

theorem refAction_st (h : (refAction env n st a raw parent extra).1 = .st e) :
    ActionSt st a (cmdAttrsOf (actionInfo env n st a raw parent extra)) e := by
  cases n with
  | zero => nomatch h
  | succ n =>
    obtain ⟨nss, hns, _, ⟨hr, rfl⟩ | ⟨sig, g, _, hr, _, hc⟩⟩ := refAction_inv h
    · rw [actionInfo_unresolved env n st a raw parent extra hns hr]
      exact .fail ..
    · rw [cmdAttrsOf, (actionInfo_resolved env n st a raw parent extra hns hr).1]
      rcases refCall_st hc with ⟨vol, pos, q, rfl⟩ | ⟨v, vars, c, rfl⟩
      · exact .fail ..
      · exact .done sig _ _ _ _ rfl

/-- the fields of the state an action returns: only this command is recorded, file name and extension are inherited,
capitalised attributes are kept and the command's own put on top; a failing step never yields a normal-looking value -/
theorem refAction_shape (h : (refAction env n st a raw parent extra).1 = .st e) :
    e.commands = [a.toList Gen.escapeTable] ∧ e.filename = st.filename ∧ e.extension = st.extension ∧
      e.attrs = mergeAttrs st.attrs (cmdAttrsOf (actionInfo env n st a raw parent extra)) ∧
      (st.isError = false → e.isError = true → e.data = .none) := by
  cases refAction_st h with
  | fail => exact ⟨rfl, rfl, rfl, rfl, fun _ _ => rfl⟩
  | done _ _ _ _ _ hs => exact ⟨rfl, rfl, rfl, hs ▸ rfl, fun hst he => nomatch hst.symm.trans he⟩

theorem metaPost_cases (he : metaPost env n st m parent r key raw extra = (.st e, m')) :
    (r = none ∧ e = { st with query := key } ∧ m' = { m with query := key }) ∨
    (∃ h f, r = some (.transform h [] (some f)) ∧
      e = { st with filename := some f, extension := some (extensionOf f), query := key } ∧ m' = m.withFilename key f) ∨
    (∃ h a e2, r = some (.transform h [a] none) ∧ (refAction env n st a raw parent extra).1 = .st e2 ∧
      e = { e2 with query := key } ∧
      m' = { actionMeta m a parent (actionInfo env n st a raw parent extra) e2 with query := key }) := by
  unfold metaPost at he
  split at he
  · cases he; exact .inl ⟨rfl, rfl, rfl⟩
  · cases he; exact .inr (.inl ⟨_, _, rfl, rfl, rfl⟩)
  · next h a =>
    split at he
    · next e2 m2 hm =>
      cases he
      unfold metaAction at hm
      split at hm
      · next hr => cases hm; exact .inr (.inr ⟨h, a, e2, rfl, hr, rfl, rfl⟩)
      · next hne => exact absurd (congrArg Prod.fst hm) (hne e2)
    · next hne => exact absurd he (hne _ _)
  · nomatch he

theorem metaAfter_cases (he : metaAfter env n o m parent r key raw extra = (.st e, m')) :
    ∃ st, o = .st st ∧
      ((st.isError = true ∧ e = { st with data := .none, query := key } ∧ m' = m.propagate key) ∨
       (st.isError = false ∧ metaPost env n st m parent r key raw extra = (.st e, m'))) := by
  unfold metaAfter at he
  split at he
  · nomatch he
  · nomatch he
  · nomatch he
  · next st =>
    refine ⟨st, rfl, ?_⟩
    split at he
    · next hse => cases he; exact .inl ⟨hse, rfl, rfl⟩
    · next hse => exact .inr ⟨Bool.eq_false_iff.mpr hse, he⟩

/-- one level: a successful result comes from a successful predecessor and its last step -/
theorem metaQ_step_ok (env : Env) (n : Nat) (p q : Query) (r : Option Seg) (raw : Str) (extra : Extra) (input : Option Val)
    (hp : q.predecessor = some (p, r)) (hpe : p.segments.isEmpty = false) (e : EState) (m : MetaRec)
    (h : metaQ env (n+1) q raw extra input = (.st e, m)) (he : e.isError = false) :
    ∃ e0 m0, metaQ env n p (p.encode Gen.escapeTable) .none input = (.st e0, m0) ∧ e0.isError = false ∧
      metaPost env n e0 m0 (p.encode Gen.escapeTable) r (q.encode Gen.escapeTable) raw extra = (.st e, m) := by
  rw [metaQ_succ_pred env n raw extra input hp hpe] at h
  obtain ⟨e0, h0, ⟨he0, rfl, _⟩ | ⟨he0, hpost⟩⟩ := metaAfter_cases h
  · cases he0.symm.trans he
  · exact ⟨e0, _, Prod.ext h0 rfl, he0, hpost⟩

/-- `parent` and `r` are left unspecified: enough for `metaQ_invariant` and `metaQ_query` -/
theorem metaQ_cases (h : metaQ env (n+1) q raw extra input = (.st e, m)) :
    ∃ o m0 parent r,
      (o = .st (initSt env input) ∧ m0 = initMeta input ∨ ∃ p, metaQ env n p (p.encode Gen.escapeTable) .none input = (o, m0)) ∧
      metaAfter env n o m0 parent r (q.encode Gen.escapeTable) raw extra = (.st e, m) := by
  rw [metaQ_succ] at h
  split at h
  · nomatch h
  split at h
  · exact ⟨_, _, _, _, .inl ⟨rfl, rfl⟩, h⟩
  split at h
  · exact ⟨_, _, _, _, .inl ⟨rfl, rfl⟩, h⟩
  · exact ⟨_, _, _, _, .inr ⟨_, rfl⟩, h⟩

theorem metaQ_invariant (env : Env) {P : EState → MetaRec → Prop}
    (init : ∀ input, P (initSt env input) (initMeta input))
    (requery : ∀ {st m} key, P st m → P { st with query := key } { m with query := key })
    (propagate : ∀ {st m} key, P st m → P { st with data := .none, query := key } (m.propagate key))
    (file : ∀ {st m} key f, P st m →
      P { st with filename := some f, extension := some (extensionOf f), query := key } (m.withFilename key f))
    (action : ∀ {n st m a raw parent extra e}, P st m → st.isError = false →
      (refAction env n st a raw parent extra).1 = .st e →
      P e (actionMeta m a parent (actionInfo env n st a raw parent extra) e)) :
    ∀ (n : Nat) (q : Query) (raw : Str) (extra : Extra) (input : Option Val) (e : EState) (m : MetaRec),
      metaQ env n q raw extra input = (.st e, m) → P e m
  | 0, _, _, _, _, _, _, h => nomatch h
  | n + 1, q, raw, extra, input, e, m, h => by
    obtain ⟨o, m0, parent, r, ho, h⟩ := metaQ_cases h
    obtain ⟨st, rfl, ⟨_, rfl, rfl⟩ | ⟨hst, hpost⟩⟩ := metaAfter_cases h
    all_goals
      have h0 : P st m0 := by
        rcases ho with ⟨ho, rfl⟩ | ⟨p, hp⟩
        · cases ho; exact init input
        · exact metaQ_invariant env init requery propagate file action n p _ .none input st m0 hp
    · exact propagate _ h0
    · rcases metaPost_cases hpost with ⟨_, rfl, rfl⟩ | ⟨_, f, _, rfl, rfl⟩ | ⟨_, a, e2, _, hr, rfl, rfl⟩
      · exact requery _ h0
      · exact file _ f h0
      · exact requery _ (action h0 hst hr)

/-- the metadata record describes the state.  `errNoData` (about `st` alone) and `status`, `noAction`, `fileMime`, `noFileMime`
(about `m` alone) are there for the induction: error propagation and `state.mimetype()` of an action need them -/
structure Describes (st : EState) (m : MetaRec) : Prop where
  isError : m.isError = st.isError
  query : m.query = st.query
  typeId : m.typeId = typeIdOf st.data
  dataKind : m.dataKind = dataKindOf st.data
  filename : m.filename = st.filename
  extension : m.extension = st.extension
  attrs : m.attrs = st.attrs
  lastCommand : m.lastCommand = st.commands.getLast?.getD []
  errNoData : st.isError = true → st.data = .none
  status : m.status = if m.lastName.isSome then some (if m.isError then Gen.metaStatusError else Gen.metaStatusReady) else none
  noAction : m.lastName = none → m.isError = false
  fileMime : ∀ f, m.filename = some f → m.extension = some (extensionOf f) ∧ m.mimetype = some (mimeOfExt (extensionOf f))
  noFileMime : m.filename = none →
    m.extension = none ∧ m.mimetype = (if m.lastName.isSome then some Gen.metaDefaultMimetype else none)

theorem Describes.status_of_action (h : Describes st m) (hl : m.lastName ≠ none) :
    m.status = some (if m.isError then Gen.metaStatusError else Gen.metaStatusReady) := by
  rw [h.status, if_pos (Option.isSome_iff_ne_none.mpr hl)]

/-- `state.mimetype()` of a described state: that of the file name, the default without one -/
theorem Describes.stateMimetype (h : Describes st m) :
    m.stateMimetype = match m.filename with
      | some f => mimeOfExt (extensionOf f)
      | none => Gen.metaDefaultMimetype := by
  unfold MetaRec.stateMimetype
  cases hf : m.filename with
  | some f => rw [(h.fileMime f hf).2]
  | none =>
    obtain ⟨he, hm⟩ := h.noFileMime hf
    rw [hm, he]
    cases m.lastName.isSome <;> rfl

/-- an error state carries no data, so propagating its record changes the query text only -/
theorem Describes.propagate_eq (h : Describes st m) (hse : st.isError = true) (key : Str) :
    m.propagate key = { m with query := key } := by
  have hdata := h.errNoData hse
  unfold MetaRec.propagate
  rw [← hdata, ← h.typeId, ← h.dataKind]

theorem describes_init (env : Env) (input : Option Val) : Describes (initSt env input) (initMeta input) := by
  constructor <;> simp [initSt, initMeta]

theorem describes_requery (key : Str) (h : Describes st m) :
    Describes { st with query := key } { m with query := key } :=
  { h with query := rfl }

theorem describes_propagate (key : Str) (h : Describes st m) :
    Describes { st with data := .none, query := key } (m.propagate key) :=
  { h with query := rfl, typeId := rfl, dataKind := rfl, errNoData := fun _ => rfl }

theorem describes_filename (key f : Str) (h : Describes st m) :
    Describes { st with filename := some f, extension := some (extensionOf f), query := key } (m.withFilename key f) :=
  { h with
    query := rfl, filename := rfl, extension := rfl
    fileMime := fun _ hf => by cases hf; exact ⟨rfl, rfl⟩
    noFileMime := nofun }

theorem describes_action (h : Describes st m) (hst : st.isError = false) (he : (refAction env n st a raw parent extra).1 = .st e) :
    Describes e (actionMeta m a parent (actionInfo env n st a raw parent extra) e) := by
  obtain ⟨hc, hf, hx, ha, hnd⟩ := refAction_shape he
  exact {
    isError := rfl, query := rfl, typeId := rfl, dataKind := rfl, status := rfl
    filename := h.filename.trans hf.symm
    extension := h.extension.trans hx.symm
    attrs := by rw [ha, ← h.attrs]; rfl
    lastCommand := by rw [hc]; rfl
    errNoData := hnd hst
    noAction := nofun
    fileMime := fun f (hf' : m.filename = some f) =>
      ⟨(h.fileMime f hf').1, congrArg some (by rw [h.stateMimetype, hf'])⟩
    noFileMime := fun (hf' : m.filename = none) =>
      ⟨(h.noFileMime hf').1, congrArg some (by rw [h.stateMimetype, hf'])⟩ }

theorem metaQ_describes (env : Env) : ∀ (n : Nat) (q : Query) (raw : Str) (extra : Extra) (input : Option Val) (e : EState)
    (m : MetaRec), metaQ env n q raw extra input = (.st e, m) → Describes e m :=
  metaQ_invariant env (describes_init env) describes_requery describes_propagate describes_filename describes_action

theorem metaQ_query (env : Env) (n : Nat) (q : Query) (raw : Str) (extra : Extra) (input : Option Val) (e : EState) (m : MetaRec)
    (h : metaQ env n q raw extra input = (.st e, m)) : m.query = q.encode Gen.escapeTable := by
  cases n with
  | zero => nomatch h
  | succ n =>
    obtain ⟨_, _, _, _, _, h⟩ := metaQ_cases h
    obtain ⟨st, _, ⟨_, _, rfl⟩ | ⟨_, hpost⟩⟩ := metaAfter_cases h
    · rfl
    · rcases metaPost_cases hpost with ⟨_, _, rfl⟩ | ⟨_, _, _, _, rfl⟩ | ⟨_, _, _, _, _, _, rfl⟩ <;> rfl

theorem metaOf_describes {env : Env} {n : Nat} {q : Query} {raw : Str} {extra : Extra} {input : Option Val} {m : MetaRec}
    (h : metaOf env n q raw extra input = some m) :
    ∃ e, (refQ env n q raw extra input).1 = .st e ∧ Describes e m ∧ m.query = q.encode Gen.escapeTable := by
  obtain ⟨e, he⟩ := metaOf_eq_some.mp h
  exact ⟨e, by rw [← metaQ_fst, he], metaQ_describes env n q raw extra input e m he,
    metaQ_query env n q raw extra input e m he⟩

end Liquer
