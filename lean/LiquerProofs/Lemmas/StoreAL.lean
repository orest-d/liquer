/-
Association lists keyed by `Key`: the specification file system `FS`, the dictionaries of `MemState` and the POSIX tree
`PFS` (away from its root) are read, written and listed by the same functions under different names; their algebra.
Also `ancestors` as proper non-root prefixes.
-/
import LiquerModel.StoreMem
import LiquerProofs.Lemmas.AssocList

namespace Liquer

variable {β : Type}

theorem ite_iff_congr {α : Sort _} {p q : Prop} [Decidable p] [Decidable q] (h : p ↔ q) (a b : α) :
    (if p then a else b) = if q then a else b := by
  by_cases hp : p
  · rw [if_pos hp, if_pos (h.mp hp)]
  · rw [if_neg hp, if_neg (fun hq => hp (h.mpr hq))]

theorem alGet_nil {β : Type} (k : Key) : alGet ([] : List (Key × β)) k = none := rfl

theorem alGet_cons (k' : Key) (v : β) (l : List (Key × β)) (k : Key) :
    alGet ((k', v) :: l) k = if k' = k then some v else alGet l k :=
  (AL.get_cons (k', v) l k).trans (ite_iff_congr beq_iff_eq _ _)

theorem alGet_filter (P : Key → Bool) (l : List (Key × β)) (k : Key) :
    alGet (l.filter (fun kv => P kv.1)) k = if P k then alGet l k else none :=
  AL.get_filter l P k

theorem alGet_erase (l : List (Key × β)) (k k' : Key) :
    alGet (alErase l k) k' = if k' = k then none else alGet l k' :=
  (AL.get_erase l k k').trans (ite_iff_congr beq_iff_eq _ _)

theorem alGet_set (l : List (Key × β)) (k : Key) (v : β) (k' : Key) :
    alGet (alSet l k v) k' = if k = k' then some v else alGet l k' :=
  (AL.get_set l k k' v).trans (ite_iff_congr (beq_iff_eq.trans eq_comm) _ _)

theorem al_mem_keys_iff (l : List (Key × β)) (k : Key) : k ∈ l.map (·.1) ↔ (alGet l k).isSome = true :=
  ⟨fun h => (AL.get_isSome_of_mem_keys h).elim fun _ hv => Option.isSome_iff_exists.mpr ⟨_, hv⟩,
   fun h => (Option.isSome_iff_exists.mp h).elim fun _ hv => AL.mem_keys_of_get hv⟩

theorem al_mem_of_get {l : List (Key × β)} {k : Key} {v : β} (h : alGet l k = some v) : (k, v) ∈ l := AL.mem_of_get h

theorem al_get_of_mem {β : Type} {l : List (Key × β)} (hn : (l.map (·.1)).Nodup) {k : Key} {v : β} (h : (k, v) ∈ l) :
    alGet l k = some v :=
  (AL.nd_iff_nodup.mpr hn).get_of_mem (k, v) h

theorem al_nodup_filter {l : List (Key × β)} (h : (l.map (·.1)).Nodup) (p : Key × β → Bool) :
    ((l.filter p).map (·.1)).Nodup :=
  AL.nd_iff_nodup.mp ((AL.nd_iff_nodup.mpr h).filter p)

theorem al_nodup_set {l : List (Key × β)} (h : (l.map (·.1)).Nodup) (k : Key) (v : β) :
    ((alSet l k v).map (·.1)).Nodup :=
  AL.nd_iff_nodup.mp ((AL.nd_iff_nodup.mpr h).set k v)

/-- the body of `FS.mkdirs`, and what `mkdir -p` does when no file is in the way -/
def alMkdirs (d : β) (l : List (Key × β)) (ks : List Key) : List (Key × β) :=
  ks.foldl (fun f a => if (alGet f a).isSome then f else alSet f a d) l

theorem alGet_mkdirs (d : β) (ks : List Key) (l : List (Key × β)) (k : Key) :
    alGet (alMkdirs d l ks) k = if k ∈ ks ∧ alGet l k = none then some d else alGet l k := by
  unfold alMkdirs
  induction ks generalizing l with
  | nil => simp
  | cons a ks ih =>
    rw [List.foldl_cons, ih]
    cases ha : alGet l a with
    | some n =>
      by_cases hk : k = a
      · subst hk; simp [ha]
      · simp [hk]
    | none =>
      simp only [Option.isSome_none, Bool.false_eq_true, ↓reduceIte]
      rw [alGet_set]
      by_cases hk : a = k
      · subst hk; simp [ha]
      · have hk' : ¬ k = a := fun e => hk e.symm
        simp [hk, hk']

theorem al_nodup_mkdirs (d : β) (ks : List Key) {l : List (Key × β)} (h : (l.map (·.1)).Nodup) :
    ((alMkdirs d l ks).map (·.1)).Nodup := by
  unfold alMkdirs
  induction ks generalizing l with
  | nil => exact h
  | cons a ks ih =>
    rw [List.foldl_cons]
    apply ih
    split
    · exact h
    · exact al_nodup_set h _ _

theorem key_eq_parent_name {k : Key} (h : k ≠ []) : k = parentKey k ++ [keyName k] := by
  unfold parentKey keyName
  rw [List.getLast?_eq_some_getLast h]
  exact (List.dropLast_concat_getLast h).symm

theorem dropLast_concat_keyName {q : Key} (h : q ≠ []) : q.dropLast ++ [keyName q] = q :=
  (key_eq_parent_name h).symm

theorem keyName_concat (k : Key) (c : Str) : keyName (k ++ [c]) = c := by simp [keyName]

/-- the body of `FS.children` and of `PFS.iterdir` -/
def alChildren (l : List (Key × β)) (k : Key) : List Str :=
  (l.filter (fun kv => !kv.1.isEmpty && kv.1.dropLast == k)).map (fun kv => keyName kv.1)

theorem al_mem_childBindings (l : List (Key × β)) (k : Key) (kv : Key × β) :
    kv ∈ l.filter (fun kv => !kv.1.isEmpty && kv.1.dropLast == k) ↔ kv ∈ l ∧ kv.1 = k ++ [keyName kv.1] := by
  rw [List.mem_filter, Bool.and_eq_true, Bool.not_eq_true', List.isEmpty_eq_false_iff, beq_iff_eq]
  refine and_congr_right fun _ => ⟨fun ⟨h1, h2⟩ => h2 ▸ (dropLast_concat_keyName h1).symm, fun e => ?_⟩
  rw [e]; simp

theorem mem_alChildren (l : List (Key × β)) (k : Key) (nm : Str) :
    nm ∈ alChildren l k ↔ (alGet l (k ++ [nm])).isSome = true := by
  unfold alChildren
  rw [List.mem_map]
  constructor
  · rintro ⟨⟨q, x⟩, hq, rfl⟩
    obtain ⟨hm, e⟩ := (al_mem_childBindings l k _).mp hq
    rw [← e, ← al_mem_keys_iff]
    exact List.mem_map.mpr ⟨_, hm, rfl⟩
  · intro h
    obtain ⟨x, hx⟩ := Option.isSome_iff_exists.mp h
    exact ⟨(k ++ [nm], x), (al_mem_childBindings l k _).mpr ⟨al_mem_of_get hx, by rw [keyName_concat]⟩, keyName_concat k nm⟩

theorem alChildren_nodup {l : List (Key × β)} (hn : (l.map (·.1)).Nodup) (k : Key) : (alChildren l k).Nodup := by
  unfold alChildren
  have h1 := al_nodup_filter hn (fun kv => !kv.1.isEmpty && kv.1.dropLast == k)
  unfold List.Nodup at h1 ⊢
  rw [List.pairwise_map] at h1 ⊢
  refine h1.imp_of_mem fun {a b} ha hb hab e => hab ?_
  rw [((al_mem_childBindings l k a).mp ha).2, ((al_mem_childBindings l k b).mp hb).2, e]

theorem alChildren_isEmpty (l : List (Key × β)) (k : Key) :
    (alChildren l k).isEmpty = true ↔ ∀ nm, alGet l (k ++ [nm]) = none := by
  rw [List.isEmpty_iff, List.eq_nil_iff_forall_not_mem]
  refine forall_congr' fun nm => ?_
  rw [mem_alChildren]
  cases alGet l (k ++ [nm]) <;> simp

theorem mem_ancestors (a k : Key) : a ∈ ancestors k ↔ a ≠ [] ∧ a <+: k ∧ a ≠ k := by
  unfold ancestors
  simp only [List.mem_filterMap, List.mem_range]
  constructor
  · rintro ⟨i, hi, h⟩
    have h0 : (i == 0) = false := by cases i <;> simp_all
    simp only [h0, Bool.false_eq_true, ↓reduceIte, Option.some.injEq] at h
    subst h
    have hl : (k.take i).length = i := by rw [List.length_take]; omega
    refine ⟨fun e => ?_, List.take_prefix _ _, fun e => ?_⟩
    · rw [e] at hl; simp at hl; simp [← hl] at h0
    · rw [e] at hl; omega
  · rintro ⟨hne, hp, hk⟩
    refine ⟨a.length, ?_, ?_⟩
    · exact Nat.lt_of_le_of_ne hp.length_le fun e => hk (hp.eq_of_length e)
    · have : a.length ≠ 0 := fun e => hne (List.eq_nil_of_length_eq_zero e)
      simp [this, (List.prefix_iff_eq_take.mp hp).symm]

theorem ancestors_ne_self {a k : Key} (h : a ∈ ancestors k) : a ≠ k := ((mem_ancestors a k).mp h).2.2
theorem ancestors_prefix {a k : Key} (h : a ∈ ancestors k) : a <+: k := ((mem_ancestors a k).mp h).2.1
theorem ancestors_ne_nil {a k : Key} (h : a ∈ ancestors k) : a ≠ [] := ((mem_ancestors a k).mp h).1

theorem prefix_dropLast_of_ne {k q : Key} (h : k <+: q) (hne : k ≠ q) : k <+: q.dropLast := by
  obtain ⟨t, rfl⟩ := h
  have ht : t ≠ [] := by intro e; subst e; simp at hne
  rw [List.dropLast_append_of_ne_nil ht]
  exact List.prefix_append _ _

theorem mem_ancestors_iff_dropLast (a k : Key) : a ∈ ancestors k ↔ a ≠ [] ∧ a <+: k.dropLast := by
  rw [mem_ancestors]
  refine and_congr_right fun h1 => ⟨fun ⟨h2, h3⟩ => prefix_dropLast_of_ne h2 h3, fun h2 => ?_⟩
  refine ⟨h2.trans (List.dropLast_prefix k), fun e => ?_⟩
  have := h2.length_le
  rw [e, List.length_dropLast] at this
  have : 0 < k.length := List.length_pos_iff.mpr (e ▸ h1)
  omega

theorem mem_mkdirP_list (p q : Key) :
    q ∈ ancestors p ++ (if p.isEmpty then [] else [p]) ↔ q ≠ [] ∧ q <+: p := by
  rw [List.mem_append, mem_ancestors]
  by_cases e : q = p
  · subst e
    by_cases h : q = [] <;> simp [h]
  · simp [e]

theorem ancestors_trans {a b k : Key} (h1 : a ∈ ancestors b) (h2 : b ∈ ancestors k) : a ∈ ancestors k := by
  rw [mem_ancestors_iff_dropLast] at *
  exact ⟨h1.1, h1.2.trans ((List.dropLast_prefix b).trans h2.2)⟩

end Liquer
