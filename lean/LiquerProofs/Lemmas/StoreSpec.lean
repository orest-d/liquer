/-
The specification file system `FS` of `LiquerModel/StoreCore.lean`: the `StoreAL` lemmas under their `FS` names, the tree invariant
as a proposition (`FS.Tree`), the well-formed steps with their preconditions spelt out (`WfStep`), what any step can
do to the bindings (`Edit`, from which the frame follows), and induction over histories.
-/
import LiquerProofs.Lemmas.StoreAL

namespace Liquer

theorem FS.get_nil (k : Key) : FS.get [] k = none := rfl

theorem FS.get_cons (k' : Key) (n : Node) (fs : FS) (k : Key) :
    FS.get ((k', n) :: fs) k = if k' = k then some n else FS.get fs k :=
  alGet_cons k' n fs k

theorem FS.get_filter_key (P : Key → Bool) (fs : FS) (k : Key) :
    FS.get (fs.filter (fun kv => P kv.1)) k = if P k then FS.get fs k else none :=
  alGet_filter P fs k

theorem FS.get_erase (fs : FS) (k k' : Key) :
    (fs.erase k).get k' = if k' = k then none else fs.get k' :=
  alGet_erase fs k k'

theorem FS.get_set (fs : FS) (k : Key) (n : Node) (k' : Key) :
    (fs.set k n).get k' = if k = k' then some n else fs.get k' :=
  alGet_set fs k n k'

theorem FS.mem_keys_iff (fs : FS) (k : Key) : k ∈ fs.map (·.1) ↔ (fs.get k).isSome = true :=
  al_mem_keys_iff fs k

theorem FS.mem_of_get {fs : FS} {k : Key} {n : Node} (h : fs.get k = some n) : (k, n) ∈ fs := al_mem_of_get h

theorem FS.get_of_mem {fs : FS} (hn : (fs.map (·.1)).Nodup) {k : Key} {n : Node} (h : (k, n) ∈ fs) :
    fs.get k = some n :=
  al_get_of_mem hn h

theorem FS.get_mkdirs (ks : List Key) (fs : FS) (k : Key) :
    (fs.mkdirs ks).get k = if k ∈ ks ∧ fs.get k = none then some .dir else fs.get k :=
  alGet_mkdirs Node.dir ks fs k

theorem FS.nodup_mkdirs {fs : FS} (ks : List Key) (h : (fs.map (·.1)).Nodup) : ((fs.mkdirs ks).map (·.1)).Nodup :=
  al_nodup_mkdirs Node.dir ks h

/-- the state without the subtree at `k` (what a recursive `removedir k` leaves) -/
def FS.prune (fs : FS) (k : Key) : FS := fs.filter (fun kv => !(k.isPrefixOf kv.1))

theorem FS.get_prune (fs : FS) (k q : Key) : (fs.prune k).get q = if k <+: q then none else fs.get q := by
  unfold FS.prune
  rw [FS.get_filter_key (fun q => !(k.isPrefixOf q))]
  simp only [Bool.not_eq_true', ← Bool.not_eq_true, List.isPrefixOf_iff_prefix, ite_not]

theorem FS.children_eq (fs : FS) (k : Key) :
    fs.children k = ((fs.map (·.1)).filter (fun q => !q.isEmpty && q.dropLast == k)).map keyName := by
  unfold FS.children
  rw [List.filter_map, List.map_map]
  rfl

theorem mem_children_iff (fs : FS) (k : Key) (nm : Str) :
    nm ∈ fs.children k ↔ (fs.get (k ++ [nm])).isSome = true :=
  mem_alChildren fs k nm

theorem FS.children_isEmpty (fs : FS) (k : Key) :
    (fs.children k).isEmpty = true ↔ ∀ nm, fs.get (k ++ [nm]) = none :=
  alChildren_isEmpty fs k

structure FS.Tree (fs : FS) : Prop where
  nodup : (fs.map (·.1)).Nodup
  nonroot : ∀ k, (fs.get k).isSome = true → k ≠ []
  anc : ∀ k, (fs.get k).isSome = true → ∀ a ∈ ancestors k, fs.get a = some .dir

theorem eraseDups_spec {α : Type} [BEq α] [LawfulBEq α] (n : Nat) :
    ∀ l : List α, l.length ≤ n → l.eraseDups.Nodup ∧ l.eraseDups.Sublist l := by
  induction n with
  | zero =>
    intro l hl
    have : l = [] := List.eq_nil_of_length_eq_zero (by omega)
    subst this
    simp
  | succ n ih =>
    intro l hl
    cases l with
    | nil => simp
    | cons a as =>
      have hfl : (as.filter fun b => !b == a).length ≤ as.length := List.length_filter_le _ _
      obtain ⟨h1, h2⟩ := ih (as.filter fun b => !b == a) (by simp only [List.length_cons] at hl; omega)
      rw [List.eraseDups_cons, List.nodup_cons]
      refine ⟨⟨fun hm => ?_, h1⟩, (h2.trans List.filter_sublist).cons_cons a⟩
      have := (List.mem_filter.mp (List.mem_eraseDups.mp hm)).2
      simp at this

theorem nodup_eraseDups' {α : Type} [BEq α] [LawfulBEq α] (l : List α) : l.eraseDups.Nodup :=
  (eraseDups_spec l.length l (Nat.le_refl _)).1

theorem eraseDups_length_eq_iff_nodup {α : Type} [BEq α] [LawfulBEq α] (l : List α) :
    l.eraseDups.length = l.length ↔ l.Nodup :=
  ⟨fun h => (eraseDups_spec l.length l (Nat.le_refl _)).2.eq_of_length h ▸ nodup_eraseDups' l,
   fun h => ((List.perm_ext_iff_of_nodup (nodup_eraseDups' l) h).mpr fun _ => List.mem_eraseDups).length_eq⟩

theorem FS.tree_iff (fs : FS) : fs.tree = true ↔ FS.Tree fs := by
  unfold FS.tree
  have hlen : (fs.map (·.1)).length = fs.length := List.length_map _
  rw [Bool.and_eq_true, beq_iff_eq, ← hlen, eraseDups_length_eq_iff_nodup, List.all_eq_true]
  simp only [Bool.and_eq_true, Bool.not_eq_true', List.isEmpty_eq_false_iff, List.all_eq_true, beq_iff_eq]
  constructor
  · rintro ⟨hall, hnd⟩
    have key : ∀ k, (fs.get k).isSome = true → ∃ n, (k, n) ∈ fs := fun k hk =>
      (Option.isSome_iff_exists.mp hk).imp fun n hn => FS.mem_of_get hn
    exact ⟨hnd, fun k hk => (key k hk).elim fun n hn => (hall _ hn).1,
      fun k hk => (key k hk).elim fun n hn => (hall _ hn).2⟩
  · rintro ⟨hnd, hroot, hanc⟩
    refine ⟨?_, hnd⟩
    rintro ⟨k, n⟩ hmem
    have hs : (fs.get k).isSome = true := by rw [FS.get_of_mem hnd hmem]; rfl
    exact ⟨hroot k hs, hanc k hs⟩

theorem FS.tree_nil : FS.Tree [] := ⟨by simp, by simp [FS.get_nil], by simp [FS.get_nil]⟩

variable {fs : FS}

theorem FS.Tree.prefix_isSome (ht : FS.Tree fs) {q a : Key} (hq : (fs.get q).isSome = true) (ha : a ≠ [])
    (hp : a <+: q) : (fs.get a).isSome = true := by
  by_cases e : a = q
  · rwa [e]
  · rw [ht.anc q hq a ((mem_ancestors a q).mpr ⟨ha, hp, e⟩)]; rfl

theorem FS.Tree.get_nil (ht : FS.Tree fs) : fs.get [] = none := by
  cases hg : fs.get [] with
  | none => rfl
  | some n => exact absurd rfl (ht.nonroot [] (by rw [hg]; rfl))

theorem FS.Tree.parent (ht : FS.Tree fs) {k : Key} (hk : (fs.get k).isSome = true) :
    k.dropLast = [] ∨ fs.get k.dropLast = some .dir := by
  by_cases e : k.dropLast = []
  · exact Or.inl e
  · exact Or.inr (ht.anc k hk _ ((mem_ancestors_iff_dropLast _ k).mpr ⟨e, List.prefix_refl _⟩))

theorem FS.Tree.nothing_below (ht : FS.Tree fs) {k q : Key}
    (hk : fs.get k ≠ some .dir ∨ (fs.children k).isEmpty = true) (hkq : k ∈ ancestors q) : fs.get q = none := by
  cases hq : fs.get q with
  | none => rfl
  | some n =>
    exfalso
    have hs : (fs.get q).isSome = true := by rw [hq]; rfl
    rcases hk with hk | hk
    · exact hk (ht.anc q hs k hkq)
    · obtain ⟨hne, ⟨t, rfl⟩, hkq⟩ := (mem_ancestors k q).mp hkq
      cases t with
      | nil => simp at hkq
      | cons x t =>
        have := ht.prefix_isSome hs (a := k ++ [x]) (by simp) ⟨t, by simp⟩
        rw [(FS.children_isEmpty fs k).mp hk x] at this
        cases this

theorem children_nodup (ht : FS.Tree fs) (k : Key) : (fs.children k).Nodup := alChildren_nodup ht.nodup k

theorem FS.Tree.set (ht : FS.Tree fs) {k : Key} {n : Node} (hk : k ≠ [])
    (hanc : ∀ a ∈ ancestors k, fs.get a = some .dir)
    (hleaf : n ≠ .dir → ∀ q, (fs.get q).isSome = true → k ∉ ancestors q) : FS.Tree (fs.set k n) := by
  refine ⟨al_nodup_set ht.nodup _ _, ?_, ?_⟩
  · intro q hq
    rw [FS.get_set] at hq
    by_cases h : k = q
    · exact h ▸ hk
    · rw [if_neg h] at hq; exact ht.nonroot q hq
  · intro q hq a ha
    rw [FS.get_set] at hq ⊢
    by_cases h : k = q
    · subst h
      rw [if_neg (fun e => ancestors_ne_self ha e.symm)]
      exact hanc a ha
    · rw [if_neg h] at hq
      by_cases h2 : k = a
      · subst h2
        rw [if_pos rfl]
        by_cases hn : n = .dir
        · rw [hn]
        · exact absurd ha (hleaf hn q hq)
      · rw [if_neg h2]
        exact ht.anc q hq a ha

theorem FS.Tree.mkdirs (ht : FS.Tree fs) {ks : List Key} (hne : ∀ a ∈ ks, a ≠ [])
    (hcl : ∀ a ∈ ks, ∀ b ∈ ancestors a, b ∈ ks)
    (hnf : ∀ a ∈ ks, fs.get a = none ∨ fs.get a = some .dir) : FS.Tree (fs.mkdirs ks) := by
  refine ⟨FS.nodup_mkdirs _ ht.nodup, ?_, ?_⟩
  · intro q hq
    rw [FS.get_mkdirs] at hq
    by_cases h : q ∈ ks ∧ fs.get q = none
    · exact hne q h.1
    · rw [if_neg h] at hq; exact ht.nonroot q hq
  · intro q hq a ha
    rw [FS.get_mkdirs] at hq ⊢
    by_cases h : q ∈ ks ∧ fs.get q = none
    · have hak : a ∈ ks := hcl q h.1 a ha
      rcases hnf a hak with e | e <;> simp [hak, e]
    · rw [if_neg h] at hq
      simp [ht.anc q hq a ha]

theorem FS.Tree.filter {fs : FS} (ht : FS.Tree fs) (P : Key → Bool)
    (hP : ∀ q, P q = true → (fs.get q).isSome = true → ∀ a ∈ ancestors q, P a = true) :
    FS.Tree (fs.filter (fun kv => P kv.1)) := by
  refine ⟨al_nodup_filter ht.nodup _, ?_, ?_⟩
  · intro q hq
    rw [FS.get_filter_key] at hq
    by_cases h : P q = true
    · rw [if_pos h] at hq; exact ht.nonroot q hq
    · rw [if_neg h] at hq; cases hq
  · intro q hq a ha
    rw [FS.get_filter_key] at hq ⊢
    by_cases h : P q = true
    · rw [if_pos h] at hq
      rw [if_pos (hP q h hq a ha)]
      exact ht.anc q hq a ha
    · rw [if_neg h] at hq; cases hq

theorem FS.Tree.erase_leaf (ht : FS.Tree fs) {k : Key}
    (hk : fs.get k ≠ some .dir ∨ (fs.children k).isEmpty = true) : FS.Tree (fs.erase k) := by
  refine ht.filter (fun q => q != k) fun q _ hq a ha => ?_
  rw [bne_iff_ne]
  rintro rfl
  rw [ht.nothing_below hk ha] at hq
  cases hq

theorem FS.Tree.prune (ht : FS.Tree fs) (k : Key) : FS.Tree (fs.prune k) := by
  refine ht.filter (fun q => !(k.isPrefixOf q)) fun q hq _ a ha => ?_
  simp only [Bool.not_eq_true', List.isPrefixOf_iff_prefix, ← Bool.not_eq_true] at hq ⊢
  exact fun hka => hq (hka.trans (ancestors_prefix ha))

def StoreOp.key : StoreOp → Key
  | .store k _ _ => k
  | .storeMeta k _ => k
  | .remove k => k
  | .removedir k _ => k
  | .makedir k => k

theorem step_storeMeta (fs : FS) (k : Key) (m : UMeta) :
    specOps.step fs (.storeMeta k m) = match fs.get k with
      | some (.file d _) => fs.set k (.file d m)
      | _ => fs := by
  unfold StoreOps.step StoreOps.apply specOps
  dsimp only
  cases fs.get k with
  | none => rfl
  | some n => cases n <;> rfl

theorem step_removedir (fs : FS) (k : Key) (r : Bool) :
    specOps.step fs (.removedir k r) =
      if k.isEmpty then fs else if r then fs.prune k else if (fs.children k).isEmpty then fs.erase k else fs := by
  unfold StoreOps.step StoreOps.apply specOps
  dsimp only
  cases k.isEmpty
  · cases r
    · cases (fs.children k).isEmpty <;> rfl
    · rfl
  · rfl

theorem dirList_eq {k : Key} (hk : k ≠ []) : ancestors k ++ (if k.isEmpty then [] else [k]) = ancestors k ++ [k] := by
  rw [if_neg (by simpa using hk)]

theorem notFile_cases {o : Option Node} (h : (match o with | some (.file ..) => false | _ => true) = true) :
    o = none ∨ o = some .dir := by
  cases o with
  | none => left; rfl
  | some n => cases n with
    | file d m => cases h
    | dir => right; rfl

theorem isFile_cases {o : Option Node} (h : (match o with | some (.file ..) => true | _ => false) = true) :
    ∃ d m, o = some (.file d m) := by
  cases o with
  | none => cases h
  | some n => cases n with
    | file d m => exact ⟨d, m, rfl⟩
    | dir => cases h

/-- a well-formed operation and the state it leads to: one case per operation, with what `wfOp` demands spelt out -/
inductive WfStep (fs : FS) : StoreOp → FS → Prop
  | store {k : Key} (d : Data) (m : UMeta) (hk : k ≠ []) (hnd : fs.get k ≠ some .dir)
      (hanc : ∀ a ∈ ancestors k, fs.get a = none ∨ fs.get a = some .dir) :
      WfStep fs (.store k d m) ((fs.mkdirs (ancestors k)).set k (.file d { m with size := some d.length, md5 := some d }))
  | storeMeta {k : Key} {d0 : Data} {m0 : UMeta} (m : UMeta) (hg : fs.get k = some (.file d0 m0)) :
      WfStep fs (.storeMeta k m) (fs.set k (.file d0 m))
  | remove {k : Key} {d0 : Data} {m0 : UMeta} (hg : fs.get k = some (.file d0 m0)) : WfStep fs (.remove k) (fs.erase k)
  | removeTree {k : Key} (hk : k ≠ []) (hd : fs.get k = some .dir) : WfStep fs (.removedir k true) (fs.prune k)
  | removeEmpty {k : Key} (hk : k ≠ []) (hd : fs.get k = some .dir) (hc : (fs.children k).isEmpty = true) :
      WfStep fs (.removedir k false) (fs.erase k)
  | makedir {k : Key} (hk : k ≠ []) (hall : ∀ a ∈ ancestors k ++ [k], fs.get a = none ∨ fs.get a = some .dir) :
      WfStep fs (.makedir k) (fs.mkdirs (ancestors k ++ [k]))

theorem wfOp_step {op : StoreOp} (hwf : wfOp fs op = true) : WfStep fs op (specOps.step fs op) := by
  cases op with
  | store k d m =>
    simp only [wfOp, Bool.and_eq_true, Bool.not_eq_true', List.isEmpty_eq_false_iff, List.all_eq_true] at hwf
    refine .store d m hwf.1.1 (fun e => ?_) fun a ha => notFile_cases (hwf.2 a ha)
    simp [FS.isDirB, e] at hwf
  | storeMeta k m =>
    obtain ⟨d0, m0, hg⟩ := isFile_cases hwf
    rw [step_storeMeta, hg]
    exact .storeMeta m hg
  | remove k =>
    obtain ⟨d0, m0, hg⟩ := isFile_cases hwf
    exact .remove hg
  | removedir k r =>
    simp only [wfOp, Bool.and_eq_true, Bool.not_eq_true', List.isEmpty_eq_false_iff, beq_iff_eq, Bool.or_eq_true] at hwf
    obtain ⟨⟨hk, hd⟩, hr⟩ := hwf
    rw [step_removedir, if_neg (by simpa using hk)]
    cases r with
    | true => exact .removeTree hk hd
    | false =>
      have hc : (fs.children k).isEmpty = true := by simpa using hr
      rw [if_neg Bool.false_ne_true, if_pos hc]
      exact .removeEmpty hk hd hc
  | makedir k =>
    simp only [wfOp, Bool.and_eq_true, Bool.not_eq_true', List.isEmpty_eq_false_iff, List.all_eq_true] at hwf
    have := WfStep.makedir hwf.1 fun a ha => notFile_cases (hwf.2 a ha)
    rwa [← dirList_eq hwf.1] at this

theorem WfStep.tree {op : StoreOp} {fs' : FS} (h : WfStep fs op fs') (ht : FS.Tree fs) : FS.Tree fs' := by
  cases h with
  | @store k d m hk hnd hanc =>
    have ht1 : FS.Tree (fs.mkdirs (ancestors k)) :=
      ht.mkdirs (fun a ha => ancestors_ne_nil ha) (fun a ha b hb => ancestors_trans hb ha) hanc
    have hk1 : (fs.mkdirs (ancestors k)).get k = fs.get k := by
      rw [FS.get_mkdirs, if_neg (fun h => ancestors_ne_self h.1 rfl)]
    refine ht1.set hk (fun a ha => ?_) fun _ q hq hkq => ?_
    · rw [FS.get_mkdirs]
      rcases hanc a ha with e | e <;> simp [ha, e]
    · rw [ht1.nothing_below (Or.inl (hk1 ▸ hnd)) hkq] at hq
      cases hq
  | @storeMeta k d0 m0 m hg =>
    have hs : (fs.get k).isSome = true := by rw [hg]; rfl
    refine ht.set (ht.nonroot k hs) (ht.anc k hs) fun _ q hq hkq => ?_
    rw [ht.nothing_below (Or.inl (by rw [hg]; simp)) hkq] at hq
    cases hq
  | remove hg => exact ht.erase_leaf (Or.inl (by rw [hg]; simp))
  | removeTree => exact ht.prune _
  | removeEmpty _ _ hc => exact ht.erase_leaf (Or.inr hc)
  | @makedir k hk hall =>
    refine ht.mkdirs (fun a ha => ?_) (fun a ha b hb => ?_) hall
    · rw [← dirList_eq hk] at ha; exact ((mem_mkdirP_list k a).mp ha).1
    · rw [← dirList_eq hk, mem_mkdirP_list] at ha ⊢
      exact ⟨ancestors_ne_nil hb, (ancestors_prefix hb).trans ha.2⟩

theorem spec_tree_step (ht : FS.Tree fs) (op : StoreOp) (hwf : wfOp fs op = true) : FS.Tree (specOps.step fs op) :=
  (wfOp_step hwf).tree ht

theorem spec_tree_run (ht : FS.Tree fs) (h : List StoreOp) (hwf : wfHist fs h = true) :
    FS.Tree (specOps.run fs h) := by
  induction h generalizing fs with
  | nil => exact ht
  | cons op rest ih =>
    rw [wfHist, Bool.and_eq_true] at hwf
    exact ih (spec_tree_step ht op hwf.1) hwf.2

theorem wfHist_append (fs : FS) (h h' : List StoreOp) :
    wfHist fs (h ++ h') = (wfHist fs h && wfHist (specOps.run fs h) h') := by
  induction h generalizing fs with
  | nil => rfl
  | cons op rest ih => simp only [List.cons_append, wfHist, ih, Bool.and_assoc]; rfl

/-- what any operation on `K` can do to the bindings, well-formed or not: rebind prefixes of `K`, drop `K`, drop the
extensions of `K`.  The frame and the shape of new keys follow from this alone. -/
inductive Edit (K : Key) (fs : FS) : FS → Prop
  | refl : Edit K fs fs
  | set {fs' : FS} {a : Key} (n : Node) : Edit K fs fs' → a <+: K → Edit K fs (fs'.set a n)
  | erase {fs' : FS} : Edit K fs fs' → Edit K fs (fs'.erase K)
  | prune {fs' : FS} : Edit K fs fs' → Edit K fs (fs'.prune K)

theorem Edit.mkdirs {K : Key} {fs' : FS} (h : Edit K fs fs') (ks : List Key) (hks : ∀ a ∈ ks, a <+: K) :
    Edit K fs (fs'.mkdirs ks) := by
  unfold FS.mkdirs
  induction ks generalizing fs' with
  | nil => exact h
  | cons a ks ih =>
    rw [List.foldl_cons]
    refine ih ?_ fun b hb => hks b (List.mem_cons_of_mem _ hb)
    split
    · exact h
    · exact h.set _ (hks a List.mem_cons_self)

theorem step_edit (fs : FS) (op : StoreOp) : Edit op.key fs (specOps.step fs op) := by
  cases op with
  | store k d m => exact (Edit.refl.mkdirs _ fun a ha => ancestors_prefix ha).set _ (List.prefix_refl k)
  | storeMeta k m =>
    rw [step_storeMeta]
    split
    · exact Edit.refl.set _ (List.prefix_refl k)
    · exact .refl
  | remove k => exact Edit.refl.erase
  | removedir k r =>
    rw [step_removedir]
    split
    · exact .refl
    · split
      · exact Edit.refl.prune
      · split
        · exact Edit.refl.erase
        · exact .refl
  | makedir k => exact Edit.refl.mkdirs _ fun a ha => ((mem_mkdirP_list k a).mp ha).2

/-- the frame in the form both `get` and `children` can use: the bindings a predicate selects are the same list, as
long as it selects no prefix and no extension of `K` -/
theorem Edit.filter_eq {K : Key} {fs' : FS} (h : Edit K fs fs') (P : Key → Bool)
    (hP : ∀ q, (q <+: K ∨ K <+: q) → P q = false) :
    fs'.filter (fun kv => P kv.1) = fs.filter (fun kv => P kv.1) := by
  have herase : ∀ (f : FS) (a : Key), P a = false → (f.erase a).filter (fun kv => P kv.1) = f.filter (fun kv => P kv.1) := by
    intro f a ha
    unfold FS.erase
    rw [List.filter_filter]
    refine List.filter_congr fun kv _ => ?_
    by_cases e : kv.1 = a <;> simp [e, ha]
  induction h with
  | refl => rfl
  | @set fs' a n _ ha ih =>
    unfold FS.set
    rw [List.filter_cons_of_neg (by simp [hP a (Or.inl ha)])]
    exact (herase fs' a (hP a (Or.inl ha))).trans ih
  | erase _ ih => exact (herase _ K (hP K (Or.inl (List.prefix_refl K)))).trans ih
  | @prune fs' _ ih =>
    unfold FS.prune
    rw [List.filter_filter, ← ih]
    refine List.filter_congr fun kv _ => ?_
    by_cases e : K <+: kv.1
    · simp [hP kv.1 (Or.inr e)]
    · simp [show K.isPrefixOf kv.1 = false by rwa [← Bool.not_eq_true, List.isPrefixOf_iff_prefix]]

theorem Edit.isSome {K : Key} {fs' : FS} (h : Edit K fs fs') {q : Key} (hq : (fs'.get q).isSome = true) :
    (fs.get q).isSome = true ∨ q <+: K := by
  induction h with
  | refl => exact Or.inl hq
  | @set fs' a n _ ha ih =>
    rw [FS.get_set] at hq
    by_cases e : a = q
    · exact Or.inr (e ▸ ha)
    · rw [if_neg e] at hq; exact ih hq
  | erase _ ih =>
    rw [FS.get_erase] at hq
    split at hq
    · cases hq
    · exact ih hq
  | prune _ ih =>
    rw [FS.get_prune] at hq
    split at hq
    · cases hq
    · exact ih hq

def AllComps (C : Str → Prop) (fs : FS) : Prop := ∀ q, (fs.get q).isSome = true → ∀ c ∈ q, C c

theorem AllComps.run {C : Str → Prop} (h : AllComps C fs) (hist : List StoreOp) (hk : ∀ op ∈ hist, ∀ c ∈ op.key, C c) :
    AllComps C (specOps.run fs hist) := by
  induction hist generalizing fs with
  | nil => exact h
  | cons op rest ih =>
    refine ih (fun q hq c hc => ?_) fun o ho => hk o (List.mem_cons_of_mem _ ho)
    rcases (step_edit fs op).isSome hq with h1 | h1
    · exact h q h1 c hc
    · exact hk op List.mem_cons_self c (h1.subset hc)

theorem AllComps.nil (C : Str → Prop) : AllComps C [] := fun q hq => by cases hq

theorem FS.get_eq_head_filter (fs : FS) (k : Key) :
    fs.get k = ((fs.filter (fun kv => kv.1 == k)).head?).map (·.2) := by
  unfold FS.get
  rw [List.head?_filter]

theorem spec_frame_get (fs : FS) (op : StoreOp) (k' : Key) (h : ¬ (k' <+: op.key ∨ op.key <+: k')) :
    (specOps.step fs op).get k' = fs.get k' := by
  rw [FS.get_eq_head_filter, FS.get_eq_head_filter, (step_edit fs op).filter_eq (fun q => q == k')]
  intro q hq
  rw [beq_eq_false_iff_ne]
  rintro rfl
  exact h hq

theorem spec_frame_children (fs : FS) (op : StoreOp) (k' : Key) (h : ¬ (k' <+: op.key ∨ op.key <+: k')) :
    (specOps.step fs op).children k' = fs.children k' := by
  unfold FS.children
  rw [(step_edit fs op).filter_eq (fun q => !q.isEmpty && q.dropLast == k')]
  intro q hq
  rw [Bool.and_eq_false_iff]
  refine Or.inr (beq_eq_false_iff_ne.mpr ?_)
  rintro rfl
  apply h
  rcases hq with hq | hq
  · exact Or.inl ((List.dropLast_prefix q).trans hq)
  · by_cases e : op.key = q
    · exact Or.inl (e ▸ List.dropLast_prefix q)
    · exact Or.inr (prefix_dropLast_of_ne hq e)

/-- what `specOps` shows of a key is a function of its binding and of the names below it -/
theorem spec_frame_obs (fs : FS) (op : StoreOp) (k' : Key) (h : ¬ (k' <+: op.key ∨ op.key <+: k')) :
    specOps.obs (specOps.step fs op) k' = specOps.obs fs k' := by
  have hg := spec_frame_get fs op k' h
  have hc := spec_frame_children fs op k' h
  generalize specOps.step fs op = fs' at hg hc
  unfold StoreOps.obs specOps FS.containsB FS.isDirB
  dsimp only
  rw [hg, hc]

theorem specOps_contains (fs : FS) (k : Key) : specOps.contains fs k = .ok (k.isEmpty || (fs.get k).isSome) := rfl

theorem specOps_isDir (fs : FS) (k : Key) : specOps.isDir fs k = .ok (k.isEmpty || fs.get k == some .dir) := rfl

theorem specOps_read_file {k : Key} {d : Data} {m : UMeta} (h : fs.get k = some (.file d m)) :
    specOps.getBytes fs k = .ok d ∧
    specOps.getMeta fs k = .ok { key := k, name := keyName k, isDir := false, size := m.size, md5 := m.md5, user := m.user } := by
  unfold specOps
  dsimp only
  rw [h]
  exact ⟨rfl, rfl⟩

theorem specOps_read_absent {k : Key} (h : fs.get k = none) (hk : k ≠ []) :
    specOps.getBytes fs k = .error .keyNotFound ∧ specOps.getMeta fs k = .error .keyNotFound := by
  unfold specOps
  dsimp only
  rw [h, if_neg (by simpa using hk)]
  exact ⟨rfl, rfl⟩

theorem spec_listed_once (ht : FS.Tree fs) {q : Key} (hq : (fs.get q).isSome = true) :
    (fs.map (·.1)).count q = 1 ∧ fs.isDirB (parentKey q) = true ∧ (fs.children (parentKey q)).count (keyName q) = 1 := by
  refine ⟨?_, ?_, ?_⟩
  · rw [ht.nodup.count, if_pos ((FS.mem_keys_iff fs q).mpr hq)]
  · unfold FS.isDirB parentKey
    rcases ht.parent hq with e | e <;> simp [e]
  · rw [(children_nodup ht _).count, if_pos]
    rw [mem_children_iff, ← key_eq_parent_name (ht.nonroot q hq)]
    exact hq

end Liquer
