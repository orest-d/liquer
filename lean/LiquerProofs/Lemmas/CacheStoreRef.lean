/-
`StoreCache` over the reference store `specOps` refines the key-value specification on the
point operations (get / get_metadata / store / store_metadata / remove / contains), for every history,
provided the path scheme is injective and prefix-free on the keys in use.
`keys()` and `clean()`: `CacheStoreRef2.lean`.
-/
import LiquerProofs.Lemmas.CacheKV
import LiquerProofs.Lemmas.CachePaths
import LiquerProofs.Lemmas.StoreSpec

namespace Liquer

/-- metadata-only writes on absent keys are refused by the reference store -/
def kvCfgStore : KVCfg := { keepData := true, metaFresh := false, metaFreshRes := false }

theorem FS.get_eq_AL (fs : FS) (k : Key) : fs.get k = AL.get fs k := rfl
theorem FS.set_eq_AL (fs : FS) (k : Key) (n : Node) : fs.set k n = AL.set fs k n := rfl
theorem FS.erase_eq_AL (fs : FS) (k : Key) : fs.erase k = AL.erase fs k := rfl

theorem FS.get_mkdirs_cases (fs : FS) (ks : List Key) (k : Key) :
    (fs.mkdirs ks).get k = fs.get k ∨ (k ∈ ks ∧ (fs.mkdirs ks).get k = some .dir) := by
  rw [FS.get_mkdirs]
  split
  · next c => exact .inr ⟨c.1, rfl⟩
  · exact .inl rfl

theorem FS.get_mkdirs_of_notMem (fs : FS) (ks : List Key) (k : Key) (h : k ∉ ks) : (fs.mkdirs ks).get k = fs.get k :=
  (FS.get_mkdirs_cases fs ks k).resolve_right fun h' => h h'.1

theorem FS.get_mkdirs_some (fs : FS) (ks : List Key) (k : Key) (n : Node) (h : (fs.mkdirs ks).get k = some n) :
    fs.get k = some n ∨ n = .dir :=
  (FS.get_mkdirs_cases fs ks k).imp (fun h' => h'.symm.trans h) fun h' => Option.some.inj (h.symm.trans h'.2)

/-- what the cache reads of a node: the bytes and the user part of the metadata of a file -/
def StoreC.fileView : Node → Option (Data × Str)
  | .file d um => some (d, um.user)
  | .dir => none

open StoreC in
structure CodecS (c : StoreCCfg) : Prop where
  decM_encM : ∀ m, c.decM (c.encM m) = some m
  deD_serD : ∀ t v, c.deD t (c.serD t v) = some v

theorem CodecS.withPath {c : StoreCCfg} (ok : CodecS c) (p : Str) : CodecS { c with path := p } := ⟨ok.1, ok.2⟩

/-- the path scheme on the keys in use: injective, and no path is a directory above another path -/
structure PathsOK (c : StoreCCfg) (U : Str → Prop) : Prop where
  inj : ∀ a b, U a → U b → StoreC.toPath c a = StoreC.toPath c b → a = b
  prefixFree : ∀ a b, U a → U b → StoreC.toPath c a ∉ ancestors (StoreC.toPath c b)

/-- at the path of every key in use the store holds the file of the key's binding (bytes of the value, metadata in the user
part) or nothing, never a directory.  `hasData`: the specification never binds a key without data — `store` gets a value
(`CacheOp.hasData`) and `kvCfgStore` refuses metadata-only writes on absent keys -/
structure RSt (c : StoreCCfg) (U : Str → Prop) (fs : FS) (kv : KV) : Prop where
  fileOK : ∀ k, U k → (fs.get (StoreC.toPath c k)).bind StoreC.fileView =
    (kv.get k).map (fun e => (c.serD e.1.typeId e.2, c.encM e.1))
  noDir : ∀ k, U k → fs.get (StoreC.toPath c k) ≠ some .dir
  hasData : ∀ k m d, kv.get k = some (m, d) → d.isSome = true

/-- point operations on keys in use: `∃ k, op.key? = some k` rules out `keys` and `clean`, which address no key
(`okSt2` admits them: `∀ k, op.key? = some k → U k`) -/
def okSt (U : Str → Prop) (kv : KV) (op : CacheOp) : Prop :=
  op.hasData = true ∧ op.typeStable kv = true ∧ ∃ k, op.key? = some k ∧ U k

section
variable {c : StoreCCfg} {U : Str → Prop} {fs : FS} {kv : KV}

/-- what the store shows at the path of a key in use: nothing, or the file of an entry with data -/
theorem RSt.look (R : RSt c U fs kv) (k : Str) (hk : U k) :
    (kv.get k = none ∧ fs.get (StoreC.toPath c k) = none) ∨
    ∃ m d um, kv.get k = some (m, some d) ∧ fs.get (StoreC.toPath c k) = some (.file (c.serD m.typeId (some d)) um) ∧ um.user = c.encM m := by
  have h1 := R.fileOK k hk
  match hf : fs.get (StoreC.toPath c k), hg : kv.get k with
  | some .dir, _ => exact absurd hf (R.noDir k hk)
  | none, none => exact .inl ⟨rfl, rfl⟩
  | none, some e => rw [hf, hg] at h1; cases h1
  | some (.file d um), none => rw [hf, hg] at h1; cases h1
  | some (.file d um), some (m, dd) =>
    obtain ⟨d', rfl⟩ := Option.isSome_iff_exists.1 (R.hasData k m dd hg)
    rw [hf, hg] at h1
    obtain ⟨e1, e2⟩ := Prod.mk.inj (Option.some.inj h1)
    exact .inr ⟨m, d', um, rfl, by rw [e1], e2⟩

theorem RSt.erase (paths : PathsOK c U) (R : RSt c U fs kv) {q : Str} (hq : U q) :
    RSt c U (fs.erase (StoreC.toPath c q)) (kv.erase q) := by
  have hget : ∀ k, U k → (fs.erase (StoreC.toPath c q)).get (StoreC.toPath c k) =
      if k == q then none else fs.get (StoreC.toPath c k) := fun k hk => by
    rw [FS.erase_eq_AL, FS.get_eq_AL, AL.get_erase, beq_of_inj (paths.inj k q hk hq)]; rfl
  refine ⟨fun k hk => ?_, fun k hk => ?_, fun k m d hg => ?_⟩
  · rw [hget k hk, KV.get_erase]
    split
    · rfl
    · exact R.fileOK k hk
  · rw [hget k hk]
    split
    · nofun
    · exact R.noDir k hk
  · rw [KV.get_erase] at hg
    split at hg
    · cases hg
    · exact R.hasData k m d hg

theorem RSt.set (paths : PathsOK c U) (R : RSt c U fs kv) {m : CMeta} (hq : U m.query) {ks : List Key}
    (hks : ∀ k, U k → StoreC.toPath c k ∉ ks) (d : Str) {um : UMeta} (hum : um.user = c.encM m) :
    RSt c U ((fs.mkdirs ks).set (StoreC.toPath c m.query) (.file (c.serD m.typeId (some d)) um)) (kv.set m.query m (some d)) := by
  have hget : ∀ k, U k → ∀ n, ((fs.mkdirs ks).set (StoreC.toPath c m.query) n).get (StoreC.toPath c k) =
      if k == m.query then some n else fs.get (StoreC.toPath c k) := fun k hk n => by
    rw [FS.set_eq_AL, FS.get_eq_AL, AL.get_set, beq_of_inj (paths.inj k m.query hk hq), ← FS.get_eq_AL,
      FS.get_mkdirs_of_notMem _ _ _ (hks k hk)]
  refine ⟨fun k hk => ?_, fun k hk => ?_, fun k m' d' hg => ?_⟩
  · rw [hget k hk, KV.get_set]
    split
    · exact congrArg (fun u => some (c.serD m.typeId (some d), u)) hum
    · exact R.fileOK k hk
  · rw [hget k hk]
    split
    · nofun
    · exact R.noDir k hk
  · rw [KV.get_set] at hg
    split at hg
    · cases hg; rfl
    · exact R.hasData k m' d' hg

end

/-- **the point operations, case by case**: the outputs agree, and the two states stay as they are, lose the binding of the
key addressed, or gain the file of an entry with data (after `mkdirs` of directories that are no path of a key in use) and the
corresponding binding -/
theorem storec_step_cases {c : StoreCCfg} {U : Str → Prop} (ok : CodecS c) (paths : PathsOK c U) {fs : FS} {kv : KV}
    (R : RSt c U fs kv) {op : CacheOp} (hok : okSt U kv op) {P : FS → KV → Prop} (same : P fs kv)
    (erase : ∀ q, U q → P (fs.erase (StoreC.toPath c q)) (kv.erase q))
    (set : ∀ (m : CMeta) (d : Str) (um : UMeta) (ks : List Key), U m.query → um.user = c.encM m →
      (∀ k, U k → StoreC.toPath c k ∉ ks) →
      P ((fs.mkdirs ks).set (StoreC.toPath c m.query) (.file (c.serD m.typeId (some d)) um)) (kv.set m.query m (some d))) :
    P ((storeCOps c specOps).step fs op).1 ((kvOpsC kvCfgStore).step kv op).1 ∧
    outEq ((storeCOps c specOps).step fs op).2 ((kvOpsC kvCfgStore).step kv op).2 := by
  obtain ⟨hdata, hstable, k0, hk0, hU⟩ := hok
  have hne := StoreC.toPath_isEmpty c
  cases op with
  | keys => cases hk0
  | clean => cases hk0
  | get k =>
    obtain rfl := Option.some.inj hk0
    refine ⟨same, outEq_of_eq (congrArg CacheOut.state ?_)⟩
    simp only [StoreC.get, StoreC.loadMeta, specOps, FS.containsB, FS.isDirB, hne,
      Bool.false_or, StoreC.okB]
    rcases R.look k hU with ⟨h1, h2⟩ | ⟨m, d, um, h1, h2, h3⟩
    · simp [h1, h2]
    · by_cases hr : m.status = ready <;> simp [h1, h2, h3, ok.decM_encM, ok.deD_serD, hr]
  | getMeta k =>
    obtain rfl := Option.some.inj hk0
    refine ⟨same, outEq_of_eq (congrArg CacheOut.metadata ?_)⟩
    simp only [StoreC.loadMeta, specOps, FS.containsB, FS.isDirB, hne,
      Bool.false_or, StoreC.okB]
    rcases R.look k hU with ⟨h1, h2⟩ | ⟨m, d, um, h1, h2, h3⟩
    · simp [h1, h2]
    · simp [h1, h2, h3, ok.decM_encM]
  | contains k =>
    obtain rfl := Option.some.inj hk0
    refine ⟨same, outEq_of_eq (congrArg CacheOut.bool ?_)⟩
    simp only [specOps, FS.containsB, hne, Bool.false_or, StoreC.okB]
    rcases R.look k hU with ⟨h1, h2⟩ | ⟨m, d, um, h1, h2, h3⟩ <;> simp [h1, h2]
  | remove k =>
    obtain rfl := Option.some.inj hk0
    exact ⟨erase k hU, outEq_refl _⟩
  | storeMeta m =>
    obtain rfl := Option.some.inj hk0
    simp only [CacheOps.step, storeCOps, kvOpsC, kvCfgStore, specOps]
    rcases R.look m.query hU with ⟨h1, h2⟩ | ⟨m0, d, um, h1, h2, h3⟩
    · simp only [h1, h2]
      exact ⟨same, outEq_refl _⟩
    · simp only [h1, h2]
      -- the bytes are those of the old value under the type the write names: the same type
      have hst : m.typeId = m0.typeId := by simpa [CacheOp.typeStable, h1] using hstable
      exact ⟨hst ▸ set m d _ [] hU rfl (fun _ _ => nofun), outEq_refl _⟩
  | store st =>
    obtain rfl := Option.some.inj hk0
    obtain ⟨d, hd⟩ := CacheOp.data_of_hasData hdata
    exact sim_store _ rfl same fun _ =>
      hd ▸ set { st.metadata with status := ready } d _ _ hU rfl (fun k hk => paths.prefixFree _ _ hk hU)

theorem storec_sim (c : StoreCCfg) (U : Str → Prop) (ok : CodecS c) (paths : PathsOK c U) :
    CSim (storeCOps c specOps) (kvOpsC kvCfgStore) (RSt c U) (okSt U) :=
  fun _ _ _ R hok => storec_step_cases ok paths R hok R (fun _ hq => R.erase paths hq)
    fun _ d _ _ hq hum hks => R.set paths hq hks d hum

end Liquer
