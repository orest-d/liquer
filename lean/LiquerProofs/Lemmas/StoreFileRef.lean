/-
The simulation between the `FileStore` model (`LiquerModel/StoreFile.lean`) and the reference store `specOps`: the paths
of plain keys, the relation `SimF` and what it says about every read.
-/
import LiquerProofs.Lemmas.StoreFileFrame
import LiquerProofs.Lemmas.StoreRefine

namespace Liquer

-- nothing below depends on how the two reserved names are spelt (`StoreFile.lean` has what is needed of that);
-- opaque, they are not unfolded (`String.toList` of a literal) whenever two paths are compared
attribute [local irreducible] metaDirName jsonExt

/-- a component a `FileStore` key may use: non-empty, not `.`, `..` or the reserved folder name -/
def PlainC (c : Str) : Prop := c ≠ [] ∧ c ≠ dot ∧ c ≠ dotdot ∧ c ≠ metaDirName

def PlainKey (k : Key) : Prop := ∀ c ∈ k, PlainC c

def PlainFS (fs : FS) : Prop := ∀ q, (fs.get q).isSome = true → PlainKey q

/-- `PlainFS` is `AllComps` at `PlainC`: what `AllComps.run` gives for histories over plain keys -/
theorem plainFS_iff {fs : FS} : PlainFS fs ↔ AllComps PlainC fs := Iff.rfl

theorem PlainKey.nil : PlainKey [] := by intro c hc; cases hc

theorem PlainKey.no_meta {k : Key} (h : PlainKey k) : metaDirName ∉ k := fun hm => (h _ hm).2.2.2 rfl

theorem PlainKey.concat {k : Key} {c : Str} (h : PlainKey k) (hc : PlainC c) : PlainKey (k ++ [c]) := by
  intro x hx
  rcases List.mem_append.mp hx with h1 | h1
  · exact h x h1
  · simp only [List.mem_cons, List.not_mem_nil, or_false] at h1; subst h1; exact hc

theorem PlainKey.sub {k a : Key} (h : PlainKey k) (ha : ∀ c ∈ a, c ∈ k) : PlainKey a := fun c hc => h c (ha c hc)

theorem PlainKey.dropLast {k : Key} (h : PlainKey k) : PlainKey k.dropLast := h.sub (fun _ hc => List.dropLast_subset _ hc)

theorem PlainKey.last {k : Key} {c : Str} (h : PlainKey (k ++ [c])) : PlainC c := h c (by simp)

theorem keyName_append (root : Path) {k : Key} (hk : k ≠ []) : keyName (root ++ k) = keyName k := by
  unfold keyName
  rw [List.getLast?_append, List.getLast?_eq_some_getLast hk]
  simp

theorem keyName_mem {k : Key} (hk : k ≠ []) : keyName k ∈ k := by
  unfold keyName
  rw [List.getLast?_eq_some_getLast hk]
  exact List.getLast_mem hk

theorem compsParts_plain {k : Key} (h : PlainKey k) : compsParts k = k := by
  unfold compsParts
  rw [List.filter_eq_self]
  intro c hc
  obtain ⟨h1, h2, _⟩ := h c hc
  simp [h1, h2]

theorem compsAbsolute_plain {k : Key} (h : PlainKey k) : compsAbsolute k = false := by
  cases k with
  | nil => rfl
  | cons c t =>
    cases c with
    | nil => exact absurd rfl (h [] (by simp)).1
    | cons x xs => rfl

theorem compsOK_plain {k : Key} (h : PlainKey k) : compsOK k = true := by
  rw [compsOK_iff]
  refine ⟨compsAbsolute_plain h, ?_⟩
  rw [compsParts_plain h]
  exact fun hm => (h _ hm).2.2.1 rfl

theorem lexName_plain (root : Path) {k : Key} (h : PlainKey k) (hk : k ≠ []) :
    (File.lexName root k == metaDirName) = false := by
  unfold File.lexName
  rw [compsParts_plain h, keyName_append root hk, beq_eq_false_iff_ne]
  exact (h _ (keyName_mem hk)).2.2.2

theorem File.path_plain (root : Path) {k : Key} (h : PlainKey k) : File.path root k = .ok (root ++ k) := by
  unfold File.path
  rw [compsOK_plain h, pathOfC_ok root (compsOK_plain h), compsParts_plain h]
  by_cases hk : k = []
  · subst hk; simp
  · rw [lexName_plain root h hk]
    simp [hk]

theorem File.metaPath_plain (root : Path) {k : Key} (h : PlainKey k) (hk : k ≠ []) :
    File.metaPath root k = .ok (root ++ metaRel k) := by
  have hok : compsMetaOK k = true := by
    unfold compsMetaOK
    rw [compsOK_plain h, compsParts_plain h]
    simpa using hk
  unfold File.metaPath
  rw [hok, lexName_plain root h hk, metaPathOfC_ok root hok, compsParts_plain h]
  rfl

theorem meta_mem_metaRel (k : Key) : metaDirName ∈ metaRel k := List.mem_append_right _ List.mem_cons_self

theorem metaRel_ne_nil (k : Key) : metaRel k ≠ [] := List.append_ne_nil_of_right_ne_nil _ (List.cons_ne_nil _ _)

theorem metaRel_ne_mdir (k k' : Key) : metaRel k ≠ k' ++ [metaDirName] := by
  intro e
  have e' : (k.dropLast ++ [metaDirName]) ++ [keyName k ++ jsonExt] = k' ++ [metaDirName] :=
    (List.append_assoc _ _ _).trans e
  exact json_ne_meta _ (List.cons.inj (List.append_inj' e' rfl).2).1

theorem metaRel_split {k k' : Key} {nm : Str} (hk' : k' ≠ []) (e : k ++ [metaDirName, nm] = metaRel k') :
    k = k'.dropLast ∧ nm = keyName k' ++ jsonExt ∧ k' = k ++ [keyName k'] := by
  unfold metaRel at e
  obtain ⟨h1, h2⟩ := List.append_inj' e rfl
  exact ⟨h1, (List.cons.inj (List.cons.inj h2).2).1, h1 ▸ (dropLast_concat_keyName hk').symm⟩

theorem metaRel_inj {k k' : Key} (hk : k ≠ []) (hk' : k' ≠ []) (e : metaRel k = metaRel k') : k = k' := by
  obtain ⟨h1, h2, h3⟩ := metaRel_split hk' (show k.dropLast ++ [metaDirName, keyName k ++ jsonExt] = metaRel k' from e)
  have : keyName k = keyName k' := List.append_cancel_right h2
  rw [h3, ← this]
  exact (dropLast_concat_keyName hk).symm

theorem root_append_inj (root : Path) {a b : List Str} : root ++ a = root ++ b ↔ a = b :=
  ⟨List.append_cancel_left, fun e => e ▸ rfl⟩

/-- why a node sits at the relative path `t` below the root directory of the store -/
inductive Just (fs : FS) (t : List Str) (x : PNode) : Prop
  | dir (h : fs.get t = some .dir) (hx : x = .dir)
  | file (d : Data) (m : UMeta) (h : fs.get t = some (.file d m)) (hx : x = .dfile d)
  | mdir (k : Key) (ht : t = k ++ [metaDirName]) (hx : x = .dir) (h : k = [] ∨ fs.get k = some .dir)
  | mfile (k : Key) (d : Data) (m : UMeta) (ht : t = metaRel k) (hx : x = .mfile m) (h : fs.get k = some (.file d m))

/-- the POSIX tree below `root` holds exactly: a directory for every directory of the specification state, a data
file and a metadata file (`__metadata__/<name>.json` next to it) for every file, and `__metadata__` folders inside
existing directories — nothing else.  Paths are unique, the root directory and its ancestors exist. -/
structure SimF (root : Path) (s : PFS) (fs : FS) : Prop where
  nd : s.ND
  ready : rootReady root s
  cdir : ∀ k, fs.get k = some .dir → s.get (root ++ k) = some .dir
  cfile : ∀ k d m, fs.get k = some (.file d m) →
    s.get (root ++ k) = some (.dfile d) ∧ s.get (root ++ metaRel k) = some (.mfile m)
  sound : ∀ t x, t ≠ [] → s.get (root ++ t) = some x → Just fs t x

/-- the node that stands for a binding -/
def dnode : Option Node → Option PNode
  | some (.file d _) => some (.dfile d)
  | some .dir => some .dir
  | none => none

/-- the metadata file that goes with a binding -/
def mnode : Option Node → Option PNode
  | some (.file _ m) => some (.mfile m)
  | _ => none

theorem dnode_eq_dir {g : Option Node} : dnode g = some .dir ↔ g = some .dir := by
  cases g with
  | none => simp [dnode]
  | some n => cases n <;> simp [dnode]

theorem mnode_ne_dir (g : Option Node) : mnode g ≠ some .dir := by
  cases g with
  | none => simp [mnode]
  | some n => cases n <;> simp [mnode]

variable {root : Path} {s : PFS} {fs : FS}

theorem PlainFS.of_get (hp : PlainFS fs) {q : Key} {n : Node} (h : fs.get q = some n) : PlainKey q :=
  hp q (by rw [h]; rfl)

theorem PlainFS.no_meta (hp : PlainFS fs) {q : Key} {n : Node} (h : fs.get q = some n) : metaDirName ∉ q :=
  (hp.of_get h).no_meta

theorem SimF.get_data (h : SimF root s fs) {k : Key} (hk : k ≠ []) (hm : metaDirName ∉ k) :
    s.get (root ++ k) = dnode (fs.get k) := by
  cases hg : fs.get k with
  | none =>
    cases hs : s.get (root ++ k) with
    | none => rfl
    | some x =>
      exfalso
      cases h.sound k x hk hs with
      | dir h' _ => rw [hg] at h'; cases h'
      | file d m h' _ => rw [hg] at h'; cases h'
      | mdir k' ht _ _ => exact hm (ht ▸ by simp)
      | mfile k' d m ht _ _ => exact hm (ht ▸ meta_mem_metaRel k')
  | some n =>
    cases n with
    | dir => exact h.cdir k hg
    | file d m => exact (h.cfile k d m hg).1

theorem SimF.get_mdir (h : SimF root s fs) (hp : PlainFS fs) {k : Key} :
    s.get (root ++ (k ++ [metaDirName])) = none ∨
    (s.get (root ++ (k ++ [metaDirName])) = some .dir ∧ (k = [] ∨ fs.get k = some .dir)) := by
  cases hs : s.get (root ++ (k ++ [metaDirName])) with
  | none => left; rfl
  | some x =>
    right
    cases h.sound _ x (List.concat_ne_nil _ _) hs with
    | dir h' _ => exact absurd (List.mem_append_right _ List.mem_cons_self) (hp.no_meta h')
    | file d m h' _ => exact absurd (List.mem_append_right _ List.mem_cons_self) (hp.no_meta h')
    | mdir k' ht hx hk' => exact (List.append_cancel_right ht : k = k') ▸ ⟨by rw [hx], hk'⟩
    | mfile k' d m ht _ _ => exact absurd ht.symm (metaRel_ne_mdir k' k)

theorem SimF.mdir_absent_or_dir (h : SimF root s fs) (hp : PlainFS fs) (k : Key) :
    s.get (root ++ (k ++ [metaDirName])) = none ∨ s.get (root ++ (k ++ [metaDirName])) = some .dir :=
  (h.get_mdir hp).imp_right And.left

theorem SimF.get_mfile (h : SimF root s fs) (hp : PlainFS fs) (ht : FS.Tree fs) {k : Key} {nm : Str} {x : PNode}
    (hs : s.get (root ++ (k ++ [metaDirName, nm])) = some x) :
    ∃ k' d m, k' = k ++ [keyName k'] ∧ nm = keyName k' ++ jsonExt ∧ fs.get k' = some (.file d m) ∧ x = .mfile m := by
  have hmem : metaDirName ∈ k ++ [metaDirName, nm] := List.mem_append_right _ List.mem_cons_self
  cases h.sound _ x (List.append_ne_nil_of_right_ne_nil _ (List.cons_ne_nil _ _)) hs with
  | dir h' _ => exact absurd hmem (hp.no_meta h')
  | file d m h' _ => exact absurd hmem (hp.no_meta h')
  | mdir k' ht' hx hk' =>
    exfalso
    have h1 : k ++ [metaDirName] = k' := (List.append_inj' ((List.append_assoc k [metaDirName] [nm]).trans ht') rfl).1
    rcases hk' with hk' | hk'
    · exact List.concat_ne_nil _ _ (h1.trans hk')
    · exact hp.no_meta hk' (h1 ▸ List.mem_append_right _ List.mem_cons_self)
  | mfile k' d m ht' hx hk' =>
    obtain ⟨_, h2, h3⟩ := metaRel_split (ht.nonroot k' (by rw [hk']; rfl)) ht'
    exact ⟨k', d, m, h3, h2, hk', hx⟩

theorem SimF.get_meta (h : SimF root s fs) (hp : PlainFS fs) (ht : FS.Tree fs) {k : Key} (hk : k ≠ []) :
    s.get (root ++ metaRel k) = mnode (fs.get k) := by
  cases hs : s.get (root ++ metaRel k) with
  | some x =>
    obtain ⟨k', d, m, h1, h2, h3, hx⟩ := h.get_mfile hp ht hs
    have : k = k' := by rw [h1, ← List.append_cancel_right h2]; exact (dropLast_concat_keyName hk).symm
    rw [this, h3, hx]; rfl
  | none =>
    cases hg : fs.get k with
    | none => rfl
    | some n =>
      cases n with
      | dir => rfl
      | file d m => rw [(h.cfile k d m hg).2] at hs; cases hs

theorem SimF.contains (h : SimF root s fs) {k : Key} (hk : PlainKey k) :
    File.contains root s k = .ok (fs.containsB k) := by
  unfold File.contains FS.containsB
  by_cases hk0 : k = []
  · subst hk0; rfl
  · rw [if_neg (by simpa using hk0), File.path_plain root hk]
    show Except.ok (s.get (root ++ k)).isSome = _
    rw [h.get_data hk0 hk.no_meta, List.isEmpty_eq_false_iff.mpr hk0]
    cases fs.get k with
    | none => rfl
    | some n => cases n <;> rfl

theorem SimF.isDir (h : SimF root s fs) {k : Key} (hk : PlainKey k) :
    File.isDir root s k = .ok (fs.isDirB k) := by
  unfold File.isDir FS.isDirB
  by_cases hk0 : k = []
  · subst hk0; rfl
  · rw [if_neg (by simpa using hk0), File.path_plain root hk]
    show Except.ok (s.get (root ++ k) == some .dir) = _
    rw [h.get_data hk0 hk.no_meta, List.isEmpty_eq_false_iff.mpr hk0]
    cases fs.get k with
    | none => rfl
    | some n => cases n <;> rfl

/-- `get_bytes`: the same data, or a failure on both sides (of a different kind for directories) -/
theorem SimF.getBytes (h : SimF root s fs) (ht : FS.Tree fs) {k : Key} (hk : PlainKey k) :
    (∃ d, File.getBytes root s k = .ok d ∧ specOps.getBytes fs k = .ok d) ∨
    (∃ e e', File.getBytes root s k = .error e ∧ specOps.getBytes fs k = .error e') := by
  have hs : s.get (root ++ k) = if k = [] then some .dir else dnode (fs.get k) := by
    split
    · next e => rw [e, List.append_nil]; exact h.ready root (List.prefix_refl _)
    · next e => exact h.get_data e hk.no_meta
  have hg : k = [] → fs.get k = none := fun e => e ▸ ht.get_nil
  unfold File.getBytes
  simp only [File.path_plain root hk, bind, Except.bind, specOps, hs]
  by_cases hk0 : k = []
  · rw [if_pos hk0, hg hk0]; exact Or.inr ⟨_, _, rfl, rfl⟩
  · rw [if_neg hk0]
    cases fs.get k with
    | none => exact Or.inr ⟨_, _, rfl, rfl⟩
    | some n =>
      cases n with
      | dir => exact Or.inr ⟨_, _, rfl, rfl⟩
      | file d m => exact Or.inl ⟨d, rfl, rfl⟩

theorem SimF.getMeta (h : SimF root s fs) (hp : PlainFS fs) (ht : FS.Tree fs) {k : Key} (hk : PlainKey k) :
    File.getMeta root s k = specOps.getMeta fs k := by
  unfold File.getMeta
  simp only [File.path_plain root hk, bind, Except.bind, specOps]
  by_cases hk0 : k = []
  · subst hk0
    simp [PFS.isDirB, h.ready root (List.prefix_refl _), ht.get_nil, pure, Except.pure, keyName]
  · simp only [PFS.isDirB, PFS.existsB, File.metaPath_plain root hk hk0, File.readMeta, h.get_data hk0 hk.no_meta,
      h.get_meta hp ht hk0]
    cases fs.get k with
    | none => simp [dnode, mnode, hk0]
    | some n => cases n <;> rfl

theorem SimF.listing_perm (h : SimF root s fs) (hp : PlainFS fs) (ht : FS.Tree fs) {k : Key} (hk : PlainKey k) :
    ((s.iterdir (root ++ k)).filter (· != metaDirName)).Perm (fs.children k) := by
  rw [List.perm_ext_iff_of_nodup ((PFS.iterdir_nodup h.nd _).filter _) (children_nodup ht k)]
  intro nm
  rw [List.mem_filter, PFS.mem_iterdir, mem_children_iff, ← PFS.get_of_ne_nil _ (by simp), List.append_assoc,
    bne_iff_ne]
  -- a name other than `__metadata__` below a plain key is a path without `__metadata__` component
  have hd : nm ≠ metaDirName → s.get (root ++ (k ++ [nm])) = dnode (fs.get (k ++ [nm])) := fun hnm =>
    h.get_data (by simp) fun hx => (List.mem_append.mp hx).elim hk.no_meta fun e => hnm (List.mem_singleton.mp e).symm
  constructor
  · rintro ⟨h1, h2⟩
    rw [hd h2] at h1
    cases hg : fs.get (k ++ [nm]) with
    | none => rw [hg] at h1; cases h1
    | some n => rfl
  · intro h1
    obtain ⟨n, hn⟩ := Option.isSome_iff_exists.mp h1
    have hnm : nm ≠ metaDirName := (hp.of_get hn).last.2.2.2
    refine ⟨?_, hnm⟩
    rw [hd hnm, hn]
    cases n <;> rfl

theorem SimF.listdir (h : SimF root s fs) (hp : PlainFS fs) (ht : FS.Tree fs) {k : Key} (hk : PlainKey k) :
    (fs.isDirB k = false ∧ File.listdir root s k = .ok none) ∨
    (fs.isDirB k = true ∧ ∃ l, File.listdir root s k = .ok (some l) ∧ l.Perm (fs.children k)) := by
  unfold File.listdir
  simp only [h.isDir hk, File.path_plain root hk, bind, Except.bind, pure, Except.pure]
  cases hd : fs.isDirB k with
  | true => exact Or.inr ⟨rfl, _, rfl, h.listing_perm hp ht hk⟩
  | false => exact Or.inl ⟨rfl, rfl⟩

theorem prefix_root_ne {root a : Path} {t : List Str} (ha : a <+: root) (ht : t ≠ []) : a ≠ root ++ t := by
  intro e
  have h1 := ha.length_le
  have h2 : 0 < t.length := List.length_pos_iff.mpr ht
  rw [e, List.length_append] at h1
  omega

theorem prefix_root_cases {root a : Path} {k : List Str} (h : a <+: root ++ k) :
    a <+: root ∨ ∃ t, t ≠ [] ∧ a = root ++ t ∧ t <+: k := by
  rcases List.prefix_or_prefix_of_prefix h (List.prefix_append root k) with h1 | ⟨t, rfl⟩
  · exact Or.inl h1
  · by_cases ht : t = []
    · subst ht; left; simp
    · right; exact ⟨t, ht, rfl, (List.prefix_append_right_inj root).mp h⟩

/-- every prefix of the path of an existing directory (or of the root) is a directory -/
theorem SimF.chain (h : SimF root s fs) (ht : FS.Tree fs) {k : Key} (hd : k = [] ∨ fs.get k = some .dir) :
    ∀ a, a <+: root ++ k → s.get a = some .dir := by
  intro a ha
  rcases prefix_root_cases ha with h1 | ⟨t, ht0, rfl, htk⟩
  · exact h.ready a h1
  · rcases hd with hd | hd
    · subst hd; exact absurd (List.prefix_nil.mp htk) ht0
    · have := ht.prefix_isSome (by rw [hd]; rfl) ht0 htk
      by_cases e : t = k
      · exact h.cdir t (e ▸ hd)
      · exact h.cdir t (ht.anc k (by rw [hd]; rfl) t ((mem_ancestors t k).mpr ⟨ht0, htk, e⟩))

theorem fileInit_spec (root : Path) :
    (fileInit root).ND ∧ ∀ q, (fileInit root).get q = if q <+: root then some .dir else none := by
  obtain ⟨s', h1, h2, h3⟩ := PFS.mkdirP_spec [] root (fun a ha _ => by left; rw [PFS.get_of_ne_nil _ ha]; rfl)
  have : fileInit root = s' := by unfold fileInit; rw [h1]
  rw [this]
  refine ⟨h3 PFS.nd_nil, ?_⟩
  intro q
  rw [h2 q]
  by_cases hq : q = []
  · subst hq; simp [PFS.get_root]
  · have : PFS.get [] q = none := by rw [PFS.get_of_ne_nil _ hq]; rfl
    simp [this]

theorem simF_init (root : Path) : SimF root (fileInit root) [] := by
  obtain ⟨hnd, hget⟩ := fileInit_spec root
  refine ⟨hnd, fun a ha => by rw [hget, if_pos ha], fun k hk => (by cases hk), fun k d m hk => (by cases hk), ?_⟩
  intro t x ht hs
  rw [hget, if_neg fun hp => prefix_root_ne hp ht rfl] at hs
  cases hs

end Liquer
