/-
The refinement theorem R-eval: in a `Sound` world the evaluator computes (up to `status`) what the reference
interpretation computes, keeps the world `Sound`, and logs a subsequence of the reference calls.
Induction on the fuel, simultaneously for the four mutual functions; the reference fuel is existential
(a cache hit stands for a reference computation of unknown depth; `ref_mono` aligns fuels).
`CanonOK` is used at cache hits (`CanonHit`) and at `store` (`CanonStore`) only.
-/
import LiquerProofs.Lemmas.EvalRef

namespace Liquer

/-- link arguments of a parameter list: a link that is evaluated as its own query (absolute, or no parent) is
in the class `C`; the text a relative link is evaluated as (`parse(parent_query) + link`, encoded) is in the
class `T` of texts -/
def LinksIn (env : Env) (C : Query → Prop) (T : Str → Prop) (parent : Str) (ps : List Param) : Prop :=
  ∀ lq pos, Param.link lq pos ∈ ps →
    ((lq.absolute || parent.isEmpty || parent == ['/']) = true → C lq) ∧
    ((lq.absolute || parent.isEmpty || parent == ['/']) = false →
      ∀ h as f ab pq, lq = .mk [.transform h as f] ab → parse env.dec parent = some pq →
        T ((Query.mk (pq.segments ++ [.transform h as f]) pq.absolute).encode Gen.escapeTable))

/-- the texts the command of an action may sub-evaluate are in `T` -/
def SubIn (env : Env) (T : Str → Prop) (a : Action) : Prop :=
  ∀ nss sig, resolve env.reg nss a.name = some sig → ∀ input vars args x qt,
    cmdSem sig.ns sig.name input vars args = .subeval x qt → T qt

/-- a class `C` of queries and a class `T` of texts closed under everything an evaluation descends into:
non-empty predecessors, link arguments and sub-evaluated texts of the last action, and the queries the texts of `T`
parse to.  (`C = T = everything` is closed; so is the chain of predecessors of a link-free, `sub`-free query with
`T = ∅`.) -/
structure Closed (env : Env) (C : Query → Prop) (T : Str → Prop) : Prop where
  pred : ∀ q p r, C q → q.predecessor = some (p, r) → p.segments.isEmpty = false → C p
  act : ∀ q p h a, C q → q.predecessor = some (p, some (.transform h [a] none)) →
    LinksIn env C T q.preParent a.params ∧ SubIn env T a
  text : ∀ t q, T t → parse env.dec t = some q → C q

theorem LinksIn.tail {env : Env} {C : Query → Prop} {T : Str → Prop} {parent : Str} {p : Param} {ps : List Param}
    (h : LinksIn env C T parent (p :: ps)) : LinksIn env C T parent ps :=
  fun lq pos hm => h lq pos (List.mem_cons_of_mem _ hm)

/-- the result `(w', o)` of an evaluation started in `w` refines the reference computation `f` -/
def Refines (env : Env) (w w' : World) (o : Outcome) (f : Nat → Outcome × List Str) : Prop :=
  Sound env w' ∧
  (o ≠ .unmodelled → ∃ m c', w'.calls = w.calls ++ c' ∧ c'.Sublist (f m).2 ∧ Outcome.sim o (f m).1)

def RefinesP (env : Env) (w w' : World) (r : List PVal ⊕ Outcome) (f : Nat → (List PVal ⊕ Outcome) × List Str) : Prop :=
  Sound env w' ∧
  (r ≠ .inr .unmodelled → ∃ m c', w'.calls = w.calls ++ c' ∧ c'.Sublist (f m).2 ∧ (f m).1 = r)

/-- the four mutual functions at evaluator fuel `n`; the reference fuel is existential inside `Refines`.
`uc = true → input = none`: an injected input value selects `NoCache()`; with the cache on, the result would be
stored under a key that does not mention the input -/
structure RefAt (env : Env) (C : Query → Prop) (T : Str → Prop) (n : Nat) : Prop where
  text : ∀ w t ug, Sound env w → T t →
    Refines env w (evalText env n w t ug).1 (evalText env n w t ug).2 (fun m => refText env m t)
  q : ∀ w q raw extra input uc, Sound env w → C q → (uc = true → input = none) →
    Refines env w (evalQ env n w q raw extra input uc).1 (evalQ env n w q raw extra input uc).2
      (fun m => refQ env m q raw extra input)
  act : ∀ w st a raw parent extra uc, Sound env w → LinksIn env C T parent a.params → SubIn env T a →
    Refines env w (evalAction env n w st a raw parent extra uc).1 (evalAction env n w st a raw parent extra uc).2
      (fun m => refAction env m st a raw parent extra)
  params : ∀ w ps raw parent, Sound env w → LinksIn env C T parent ps →
    RefinesP env w (evalParams env n w ps raw parent).1 (evalParams env n w ps raw parent).2
      (fun m => refParams env m ps raw parent)

@[simp] theorem World.calls_logCall (w : World) (st sig args) :
    (w.logCall st sig args).calls = w.calls ++ callOf st sig args := by
  unfold World.logCall callOf; split <;> simp

theorem Sound.logCall {env : Env} {w : World} (h : Sound env w) (st sig args) : Sound env (w.logCall st sig args) := by
  unfold World.logCall; split
  · exact h
  · exact h.log _

@[simp] theorem calls_subW (uc raw o) (w : World) : (subW uc raw o w).calls = w.calls := by
  unfold subW; split <;> simp

theorem Sound.subW {env : Env} {w : World} (h : Sound env w) (uc raw o) : Sound env (subW uc raw o w) := by
  unfold Liquer.subW; split
  · exact h.metaIf _ _ _
  · exact h.metaIf _ _ _
  · exact h

@[simp] theorem calls_admitW (uc key st3) (w : World) : (admitW uc key st3 w).calls = w.calls := by
  unfold admitW; split
  · rfl
  · split
    · simp
    · split <;> simp

@[simp] theorem calls_fileW (uc key st2) (w : World) : (fileW uc key st2 w).calls = w.calls := by
  unfold fileW; split
  · rfl
  · split <;> simp

theorem subOutcome_sim {o o' : Outcome} (h : Outcome.sim o o') (st act raw sig xv x) :
    subOutcome st act raw sig xv x o = subOutcome st act raw sig xv x o' := by
  cases o with
  | st a =>
    obtain ⟨b, rfl, hc⟩ := Outcome.sim_st_left h
    simp only [subOutcome, EState.core_isError hc, EState.core_errPos hc, EState.core_errQuery hc, EState.core_data hc]
  | raised p q => simp at h; subst h; rfl
  | parseError => simp at h; subst h; rfl
  | unmodelled => simp at h; subst h; rfl

theorem subOutcome_ne_unmodelled {st act raw sig xv x o} (h : subOutcome st act raw sig xv x o ≠ .unmodelled) :
    o ≠ .unmodelled := by
  intro hu; subst hu; exact h rfl

abbrev RefinesR (env : Env) (w : World) (e : World × Outcome) (f : Nat → Outcome × List Str) : Prop :=
  Refines env w e.1 e.2 f

abbrev RefinesPR (env : Env) (w : World) (e : World × (List PVal ⊕ Outcome))
    (f : Nat → (List PVal ⊕ Outcome) × List Str) : Prop :=
  RefinesP env w e.1 e.2 f

theorem Refines.unmodelled {env : Env} {w w' : World} {f} (hS : Sound env w') : Refines env w w' .unmodelled f :=
  ⟨hS, fun h => absurd rfl h⟩

theorem Refines.intro {env : Env} {w w' : World} {o : Outcome} {f : Nat → Outcome × List Str}
    (hS : Sound env w') (m : Nat) (c' : List Str) {o' : Outcome} {c : List Str} (hf : f m = (o', c))
    (hc : w'.calls = w.calls ++ c') (hsub : c'.Sublist c) (hsim : Outcome.sim o o') : Refines env w w' o f :=
  ⟨hS, fun _ => ⟨m, c', hc, by rw [hf]; exact hsub, by rw [hf]; exact hsim⟩⟩

theorem RefinesP.intro {env : Env} {w w' : World} {r : List PVal ⊕ Outcome} {f : Nat → (List PVal ⊕ Outcome) × List Str}
    (hS : Sound env w') (m : Nat) (c' : List Str) {c : List Str} (hf : f m = (r, c))
    (hc : w'.calls = w.calls ++ c') (hsub : c'.Sublist c) : RefinesP env w w' r f :=
  ⟨hS, fun _ => ⟨m, c', hc, by rw [hf]; exact hsub, by rw [hf]⟩⟩

variable {env : Env} {C : Query → Prop} {T : Str → Prop}

theorem call_refines {n : Nat} (ih : RefAt env C T n) (w1 : World) (st act raw sig x) (uc : Bool)
    (hS : Sound env w1)
    (hsub : ∀ args y qt, cmdSem sig.ns sig.name st.data st.vars args = .subeval y qt → T qt) :
    RefinesR env w1 (evalCall env n w1 st act raw sig x uc) (fun m => refCall env m st act raw sig x) := by
  unfold evalCall refCall
  generalize parseArgv sig.args x.1 x.2.1 = pa
  cases pa with
  | unmodelled => exact Refines.unmodelled hS
  | fail => exact Refines.intro (hS.metaIf _ _ _) 0 [] rfl (by simp) (by simp) (Outcome.sim_refl _)
  | ok args =>
    dsimp only
    generalize hc : cmdSem sig.ns sig.name st.data st.vars args = ce
    cases ce with
    | unmodelled => exact Refines.unmodelled (hS.logCall _ _ _)
    | subeval y qt =>
      obtain ⟨hS3, hw⟩ := ih.text (w1.logCall st sig args) qt true (hS.logCall _ _ _) (hsub _ _ _ hc)
      refine ⟨hS3.subW _ _ _, fun hne => ?_⟩
      obtain ⟨m, c3', hc1, hc2, hsim⟩ := hw (subOutcome_ne_unmodelled hne)
      refine ⟨m, callOf st sig args ++ c3', by simp [hc1, List.append_assoc], (List.Sublist.refl _).append hc2, ?_⟩
      dsimp only
      rw [subOutcome_sim hsim]
      exact Outcome.sim_refl _
    | _ => exact Refines.intro ((hS.logCall _ _ _).metaIf _ _ _) 0 _ rfl (by simp) (List.Sublist.refl _) (Outcome.sim_refl _)

theorem link_refines {n : Nat} (ih : RefAt env C T n) (w : World) (lq : Query)
    (parent : Str) (hS : Sound env w)
    (hC : (lq.absolute || parent.isEmpty || parent == ['/']) = true → C lq)
    (hT : (lq.absolute || parent.isEmpty || parent == ['/']) = false →
      ∀ h as f ab pq, lq = .mk [.transform h as f] ab → parse env.dec parent = some pq →
      T ((Query.mk (pq.segments ++ [.transform h as f]) pq.absolute).encode Gen.escapeTable)) :
    RefinesR env w (evalLink env n w lq parent) (fun m => refLink env m lq parent) := by
  unfold evalLink refLink
  split
  · next hc => exact ih.q w lq _ .none none true hS (hC hc) (fun _ => rfl)
  · next hc =>
    split
    · cases hpq : parse env.dec parent with
      | none => exact Refines.unmodelled hS
      | some pq => exact ih.text w _ true hS (hT (by simpa using hc) _ _ _ _ _ rfl hpq)
    · exact Refines.unmodelled hS

/-- a stage that only passes on the result of the stage before it, at one more unit of reference fuel -/
theorem RefinesP.step {env : Env} {w w' : World} {r r' : List PVal ⊕ Outcome} {f F : Nat → (List PVal ⊕ Outcome) × List Str}
    (h : RefinesP env w w' r f) (hne : r' ≠ .inr .unmodelled → r ≠ .inr .unmodelled)
    (hF : ∀ m c, f m = (r, c) → F (m+1) = (r', c)) : RefinesP env w w' r' F := by
  refine ⟨h.1, fun hr' => ?_⟩
  obtain ⟨m, c', h1, h2, h3⟩ := h.2 (hne hr')
  have := hF m (f m).2 (Prod.ext h3 rfl)
  exact ⟨m+1, c', h1, by rw [this]; exact h2, by rw [this]⟩

theorem params_step {n : Nat} (ih : RefAt env C T n) (w : World) (ps : List Param)
    (raw parent : Str) (hS : Sound env w) (hL : LinksIn env C T parent ps) :
    RefinesPR env w (evalParams env (n+1) w ps raw parent) (fun m => refParams env m ps raw parent) := by
  cases ps with
  | nil => exact RefinesP.intro hS 1 [] rfl (List.append_nil _).symm (List.Sublist.refl _)
  | cons p ps =>
    have hL' : LinksIn env C T parent ps := hL.tail
    cases p with
    | str t pos =>
      rw [evalParams_str]
      have h := ih.params w ps raw parent hS hL'
      generalize evalParams env n w ps raw parent = x at h ⊢
      obtain ⟨w1, r⟩ := x
      cases r with
      | inl rest => exact h.step (fun _ => Sum.inl_ne_inr) (fun m c hm => by rw [refParams_str, hm])
      | inr o => exact h.step id (fun m c hm => by rw [refParams_str, hm])
    | link lq pos =>
      rw [evalParams_link]
      obtain ⟨hS1, hw⟩ := link_refines ih w lq parent hS (hL lq pos (List.mem_cons_self ..)).1
        (hL lq pos (List.mem_cons_self ..)).2
      generalize evalLink env n w lq parent = x at hS1 hw ⊢
      obtain ⟨w1, o⟩ := x
      have hw' : o ≠ .unmodelled → ∃ m c1' o' c1, w1.calls = w.calls ++ c1' ∧ c1'.Sublist c1 ∧ Outcome.sim o o' ∧
          refLink env m lq parent = (o', c1) := fun ho =>
        let ⟨m, c1', h1, h2, h3⟩ := hw ho; ⟨m, c1', _, _, h1, h2, h3, rfl⟩
      cases o with
      | unmodelled => exact ⟨hS1, fun h => absurd rfl h⟩
      | st v =>
        obtain ⟨m, c1', o', c1, h1, h2, h3, hr⟩ := hw' (by simp)
        obtain ⟨v', rfl, hcore⟩ := Outcome.sim_st_left h3
        have hve := EState.core_isError hcore
        dsimp only
        cases hv : v.isError with
        | true => exact RefinesP.intro hS1 (m+1) c1' (by rw [refParams_link, hr]; simp [← hve, hv]) h1 h2
        | false =>
          simp only [Bool.false_eq_true, if_false]
          obtain ⟨hS2, hw2⟩ := ih.params w1 ps raw parent hS1 hL'
          generalize evalParams env n w1 ps raw parent = y at hS2 hw2 ⊢
          obtain ⟨w2, r⟩ := y
          -- the link and the remaining parameters at one reference fuel
          have key : r ≠ .inr .unmodelled → ∃ M c2' c2, w2.calls = w.calls ++ (c1' ++ c2') ∧
              (c1' ++ c2').Sublist (c1 ++ c2) ∧ refLink env M lq parent = (.st v', c1) ∧
              refParams env M ps raw parent = (r, c2) := by
            intro hne
            obtain ⟨m2, c2', g1, g2, g3⟩ := hw2 hne
            obtain ⟨M, e1, e2⟩ := (refLink_stable env lq parent).align (refParams_stable env ps raw parent)
              (m := m) (m' := m2) (by rw [Modelled, hr]; simp) (by rw [ModelledP, g3]; exact hne)
            exact ⟨M, c2', _, by rw [g1, h1, List.append_assoc], h2.append g2, e1.trans hr, e2.trans (Prod.ext g3 rfl)⟩
          cases r with
          | inl rest =>
            obtain ⟨M, c2', c2, k1, k2, k3, k4⟩ := key Sum.inl_ne_inr
            exact RefinesP.intro hS2 (M+1) _ (by rw [refParams_link, k3, k4]; simp [← hve, hv, EState.core_data hcore]) k1 k2
          | inr o2 =>
            refine ⟨hS2, fun hne => ?_⟩
            obtain ⟨M, c2', c2, k1, k2, k3, k4⟩ := key hne
            exact (RefinesP.intro hS2 (M+1) _ (by rw [refParams_link, k3, k4]; simp [← hve, hv]) k1 k2).2 hne
      | _ =>
        obtain ⟨m, c1', o', c1, h1, h2, h3, hr⟩ := hw' (by simp)
        cases h3; exact RefinesP.intro hS1 (m+1) c1' (by rw [refParams_link, hr]) h1 h2

theorem act_step {n : Nat} (ih : RefAt env C T n) (w : World) (st : EState) (a : Action)
    (raw parent : Str) (extra : Extra) (uc : Bool) (hS : Sound env w) (hL : LinksIn env C T parent a.params)
    (hSub : SubIn env T a) :
    Refines env w (evalAction env (n+1) w st a raw parent extra uc).1 (evalAction env (n+1) w st a raw parent extra uc).2
      (fun m => refAction env m st a raw parent extra) := by
  rw [evalAction_succ]
  have hS0 := hS.metaIf uc raw (s "evaluation")
  split
  · exact ⟨hS0, by simp⟩
  · next nss hns =>
    split
    · exact ⟨hS0, by simp⟩
    · next hl =>
      split
      · next hr =>
        refine ⟨hS0.metaIf _ _ _, fun _ => ⟨1, [], by simp, by simp, ?_⟩⟩
        simp only [refAction_succ, hns, hl, hr]; exact Outcome.sim_refl _
      · next sig hr =>
        obtain ⟨hS1, hw⟩ := ih.params (w.metaIf uc raw (s "evaluation")) a.params raw parent hS0 hL
        rcases hp : evalParams env n (w.metaIf uc raw (s "evaluation")) a.params raw parent with ⟨w1, r⟩
        rw [hp] at hS1 hw
        simp only [World.calls_metaIf] at hS1 hw
        cases r with
        | inr o =>
          refine ⟨hS1, fun hne => ?_⟩
          obtain ⟨m, c', h1, h2, h3⟩ := hw (fun hu => hne (by simpa using hu))
          rcases hr1 : refParams env m a.params raw parent with ⟨r', c1⟩
          simp only [hr1] at h2 h3
          subst h3
          refine ⟨m+1, c', h1, ?_, ?_⟩
          · simp only [refAction_succ, hns, hl, hr, hr1]; exact h2
          · simp only [refAction_succ, hns, hl, hr, hr1]; exact Outcome.sim_refl _
        | inl given =>
          obtain ⟨hS2, hw2⟩ := call_refines ih w1 st a raw sig (applyExtra extra given) uc hS1
            (fun args y qt hc => hSub nss sig hr _ _ _ _ _ hc)
          refine ⟨hS2, fun hne => ?_⟩
          obtain ⟨m, c1', h1, h2, h3⟩ := hw (by simp)
          obtain ⟨m2, c2', g1, g2, g3⟩ := hw2 hne
          rcases hr1 : refParams env m a.params raw parent with ⟨r', c1⟩
          simp only [hr1] at h2 h3
          subst h3
          have hpM := refParams_mono_le env (Nat.le_max_left m m2) a.params raw parent (by rw [hr1]; simp)
          rw [hr1] at hpM
          have hcM := refCall_mono_le env (Nat.le_max_right m m2) st a raw sig (applyExtra extra given)
            (Outcome.sim_ne_unmodelled g3 hne)
          refine ⟨max m m2 + 1, c1' ++ c2', ?_, ?_, ?_⟩
          · rw [g1, h1, List.append_assoc]
          · simp only [refAction_succ, hns, hl, hr, hpM, hcM]; exact h2.append g2
          · simp only [refAction_succ, hns, hl, hr, hpM, hcM]; exact g3

theorem text_step {n : Nat} (hC : Closed env C T) (ih : RefAt env C T n) (w : World) (t : Str)
    (ug : Bool) (hS : Sound env w) (hT : T t) :
    Refines env w (evalText env (n+1) w t ug).1 (evalText env (n+1) w t ug).2 (fun m => refText env m t) := by
  rw [evalText_succ]
  split
  · next hp =>
    refine ⟨hS, fun _ => ⟨1, [], by simp, by simp, ?_⟩⟩
    simp only [refText_succ, hp]; exact Outcome.sim_refl _
  · next q hp =>
    obtain ⟨hS1, hw⟩ := ih.q w q t .none none ug hS (hC.text t q hT hp) (fun _ => rfl)
    refine ⟨hS1, fun hne => ?_⟩
    obtain ⟨m, c', h1, h2, h3⟩ := hw hne
    exact ⟨m+1, c', h1, by simp only [refText_succ, hp]; exact h2, by simp only [refText_succ, hp]; exact h3⟩

theorem Refines.of_calls_eq {env : Env} {w0 w w' : World} {o f} (h : Refines env w0 w' o f) (hc : w0.calls = w.calls) :
    Refines env w w' o f := by
  unfold Refines at h ⊢; rw [hc] at h; exact h

theorem pre_refines {n : Nat} (hC : Closed env C T) (ih : RefAt env C T n) (w : World)
    (q : Query) (raw : Str) (input : Option Val) (uc : Bool) (hS : Sound env w) (hCq : C q)
    (huc : uc = true → input = none) :
    Refines env w (evalPre env n w q raw input uc).1 (evalPre env n w q raw input uc).2
      (fun m => refPre env m q input) := by
  unfold evalPre refPre
  cases hp : q.preQ with
  | none => exact ⟨hS, fun _ => ⟨0, [], by simp, by simp, Outcome.sim_refl _⟩⟩
  | some p =>
    obtain ⟨r, hpr, hpe⟩ := Query.preQ_some hp
    exact (ih.q (w.metaIf uc raw (s "evaluating parent")) p _ .none input uc (hS.metaIf _ _ _)
      (hC.pred q p r hCq hpr hpe) huc).of_calls_eq (by simp)

/-- a state that is, up to status, the successful cacheable reference value of `q` (under any spelling and
extra parameters) may be stored under the canonical text of `q`: this is where `CanonStore` is used -/
theorem store_ok {env : Env} {q : Query} (hcs : CanonStore env q) {M : Nat} {raw : Str} {extra : Extra}
    {s' : EState} (href : (refQ env M q raw extra none).1 = .st s')
    (s : EState) (hcore : s.core = s'.core) (he : s.isError = false) (hv : s.volatile = false) (hc : s.caching = true)
    (hq : s.query = q.encode Gen.escapeTable) :
    FreshAt env s.query s := by
  have he' : s'.isError = false := by rw [← EState.core_isError hcore]; exact he
  have hv' : s'.volatile = false := by rw [← EState.core_volatile hcore]; exact hv
  have h1 := refQ_good_indep env (q.encode Gen.escapeTable) M q raw extra none s' href he' (Or.inr hv')
  rcases hr : refQ env M q raw extra none with ⟨o, c⟩
  rw [hr] at href h1
  simp only at href; subst href
  obtain ⟨fuel', st'', c', hrt, hcore'⟩ := hcs M s' c h1 he'
  have hcc := hcore.trans hcore'
  refine ⟨fuel', st'', c', by rw [hq]; exact hrt, ?_, ?_, ?_, hcc⟩
  · rw [← EState.core_isError hcc]; exact he
  · rw [← EState.core_volatile hcc]; exact hv
  · rw [← EState.core_caching hcc]; exact hc

theorem core_setQuery {a b : EState} (h : a.core = b.core) (k : Str) :
    ({ a with query := k } : EState).core = ({ b with query := k } : EState).core := by
  rw [EState.core_eq_withStatus h]; rfl

theorem core_propagate {a b : EState} (h : a.core = b.core) (k : Str) :
    ({ a with data := .none, query := k } : EState).core = ({ b with data := .none, query := k } : EState).core := by
  rw [EState.core_eq_withStatus h]; rfl

theorem core_file {a b : EState} (h : a.core = b.core) (f : Str) (k : Str) :
    ({ a with filename := some f, extension := some (extensionOf f), query := k } : EState).core =
      ({ b with filename := some f, extension := some (extensionOf f), query := k } : EState).core := by
  rw [EState.core_eq_withStatus h]; rfl

theorem refQ_succ_of_pre {env : Env} {M : Nat} {q : Query} {raw : Str} {extra : Extra} {input : Option Val}
    {o' : Outcome} {c0 : List Str} (hres : q.isRes = false) (hpre : refPre env M q input = (o', c0)) :
    refQ env (M+1) q raw extra input =
      ((refAfter env M o' q.preParent q.preRem (q.encode Gen.escapeTable) raw extra).1,
        c0 ++ (refAfter env M o' q.preParent q.preRem (q.encode Gen.escapeTable) raw extra).2) := by
  rw [refQ_succ', hpre]; simp [hres]

theorem Sound.admitW {env : Env} {w : World} (h : Sound env w) (uc : Bool) (key : Str) (st3 : EState)
    (hstore : uc = true → st3.isError = false → st3.volatile = false → st3.caching = true →
      FreshAt env st3.query st3) :
    Sound env (admitW uc key st3 w) := by
  unfold Liquer.admitW
  split
  · exact h
  · next huc =>
    split
    · next hadm =>
      simp only [Bool.and_eq_true, Bool.not_eq_eq_eq_not, Bool.not_true] at hadm huc
      exact h.store st3 (hstore (by simpa using huc) hadm.1.2 hadm.2 hadm.1.1)
    · split
      · exact h.storeMeta _ _
      · exact h.remove _

theorem Sound.fileW {env : Env} {w : World} (h : Sound env w) (uc : Bool) (key : Str) (st2 : EState)
    (hstore : uc = true → st2.volatile = false → st2.caching = true →
      FreshAt env st2.query st2) :
    Sound env (fileW uc key st2 w) := by
  unfold Liquer.fileW
  split
  · exact h
  · next huc =>
    split
    · next hadm =>
      simp only [Bool.and_eq_true, Bool.not_eq_eq_eq_not, Bool.not_true] at hadm huc
      exact h.store st2 (hstore (by simpa using huc) hadm.2 hadm.1)
    · exact h.remove _

theorem q_step {n : Nat} (hC : Closed env C T) (hcanon : ∀ q, C q → CanonOK env q)
    (ih : RefAt env C T n) (w : World) (q : Query) (raw : Str) (extra : Extra) (input : Option Val) (uc : Bool)
    (hS : Sound env w) (hCq : C q) (huc : uc = true → input = none) :
    Refines env w (evalQ env (n+1) w q raw extra input uc).1 (evalQ env (n+1) w q raw extra input uc).2
      (fun m => refQ env m q raw extra input) := by
  rw [evalQ_succ']
  split
  · next st hhit =>
    -- cache hit: `Sound` gives the reference value of the key text, `CanonHit` that of the query
    have hcond : (extra.isEmpty && input.isNone && uc) = true ∧ w.get (q.encode Gen.escapeTable) = some st := by
      split at hhit
      · exact ⟨‹_›, hhit⟩
      · simp at hhit
    obtain ⟨hcond, hget⟩ := hcond
    simp only [Bool.and_eq_true] at hcond
    obtain ⟨⟨hxe, hin⟩, _⟩ := hcond
    have hin : input = none := by cases input <;> simp_all
    subst hin
    obtain ⟨fuel, st', c, hrt, he, hv, hc, hcore⟩ := hS.get hget
    obtain ⟨fuel', st'', c', hrq, hcore'⟩ := (hcanon q hCq).1 fuel st' c hrt he
    have he'' : st''.isError = false := by rw [← EState.core_isError hcore']; exact he
    have := refQ_good_indep' env raw fuel' q _ extra none st'' (by rw [hrq]) he'' hxe
    refine ⟨hS, fun _ => ⟨fuel', [], by simp, by simp, ?_⟩⟩
    simp only [this, hrq]; exact hcore.trans hcore'
  · split
    · exact ⟨hS, by simp⟩
    · next hres =>
      have hres : q.isRes = false := by simpa using hres
      obtain ⟨hS1, hw⟩ := pre_refines hC ih w q raw input uc hS hCq huc
      rcases hpre : evalPre env n w q raw input uc with ⟨w1, o⟩
      rw [hpre] at hS1 hw
      simp only at hS1 hw ⊢
      unfold evalAfter
      cases o with
      | unmodelled => exact ⟨hS1, by simp⟩
      | st st =>
        obtain ⟨m1, c', h1, h2, h3⟩ := hw (by simp)
        rcases hr1 : refPre env m1 q input with ⟨o', c0⟩
        simp only [hr1] at h2 h3
        obtain ⟨st', rfl, hcore⟩ := Outcome.sim_st_left h3
        have hse := EState.core_isError hcore
        simp only
        rcases Bool.eq_false_or_eq_true st.isError with hserr | hserr
        rotate_left
        · -- successful predecessor: the last step
          have hserr' : st'.isError = false := by rw [← hse]; exact hserr
          rw [if_neg (by rw [hserr]; simp)]
          unfold evalPost
          generalize hrem : q.preRem = r
          split
          · -- no step
            have href : (refQ env (m1+1) q raw extra input) =
                (.st { st' with query := q.encode Gen.escapeTable }, c0) := by
              simp only [refQ_succ_of_pre hres hr1, refAfter, hserr', Bool.false_eq_true, if_false, hrem, refPost,
                List.append_nil]
            exact Refines.intro hS1 (m1+1) c' href h1 h2 (core_setQuery hcore _)
          · -- file name
            next hd f =>
            have href : (refQ env (m1+1) q raw extra input) =
                (.st { st' with filename := some f, extension := some (extensionOf f), query := q.encode Gen.escapeTable },
                  c0) := by
              simp only [refQ_succ_of_pre hres hr1, refAfter, hserr', Bool.false_eq_true, if_false, hrem, refPost,
                List.append_nil]
            have hcore2 := core_file hcore f (q.encode Gen.escapeTable)
            refine Refines.intro ((hS1.metaIf _ _ _).fileW _ _ _ ?_) (m1+1) c' href (by simpa using h1) h2 hcore2
            intro hu hv hc
            have hin := huc hu; subst hin
            exact store_ok (hcanon q hCq).2 (by rw [href]) _ hcore2 hserr hv hc rfl
          · -- action
            next hd a =>
            obtain ⟨p0, hp0⟩ := Query.preRem_some hrem
            obtain ⟨hL, hSub⟩ := hC.act q p0 hd a hCq hp0
            obtain ⟨hS2, hw2⟩ := ih.act w1 st a raw q.preParent extra uc hS1 hL hSub
            rcases hact : evalAction env n w1 st a raw q.preParent extra uc with ⟨w2, o2⟩
            rw [hact] at hS2 hw2
            simp only at hS2 hw2 ⊢
            -- the reference side at a common fuel
            have key : o2 ≠ .unmodelled → ∃ M c2' o2' c2, w2.calls = w1.calls ++ c2' ∧ c2'.Sublist c2 ∧ Outcome.sim o2 o2' ∧
                refPre env M q input = (.st st', c0) ∧ refAction env M st' a raw q.preParent extra = (o2', c2) := by
              intro hne
              obtain ⟨m2, c2', g1, g2, g3⟩ := hw2 hne
              simp only [refAction_core env m2 hcore] at g2 g3
              refine ⟨max m1 m2, c2', _, _, g1, g2, g3, ?_, ?_⟩
              · rw [refPre_mono_le env (Nat.le_max_left m1 m2) q input (by rw [hr1]; simp), hr1]
              · rw [refAction_mono_le env (Nat.le_max_right m1 m2) st' a raw q.preParent extra
                  (Outcome.sim_ne_unmodelled g3 hne)]
            cases o2 with
            | unmodelled => exact ⟨hS2, by simp⟩
            | st st2 =>
              obtain ⟨M, c2', o2', c2, g1, g2, g3, hpM, haM⟩ := key (by simp)
              obtain ⟨st2', rfl, hcore2⟩ := Outcome.sim_st_left g3
              have href : (refQ env (M+1) q raw extra input) =
                  (.st { st2' with query := q.encode Gen.escapeTable }, c0 ++ c2) := by
                simp only [refQ_succ_of_pre hres hpM, refAfter, hserr', Bool.false_eq_true, if_false, hrem, refPost, haM]
              have hcore3 := core_setQuery hcore2 (q.encode Gen.escapeTable)
              refine Refines.intro (hS2.admitW _ _ _ ?_) (M+1) (c' ++ c2') href
                (by simp only [calls_admitW]; rw [g1, h1, List.append_assoc]) (h2.append g2) hcore3
              intro hu he hv hc
              have hin := huc hu; subst hin
              exact store_ok (hcanon q hCq).2 (by rw [href]) _ hcore3 he hv hc rfl
            | _ =>
              obtain ⟨M, c2', o2', c2, g1, g2, g3, hpM, haM⟩ := key (by simp)
              cases g3
              exact Refines.intro hS2 (M+1) (c' ++ c2')
                (by simp only [refQ_succ_of_pre hres hpM, refAfter, hserr', Bool.false_eq_true, if_false, hrem, refPost, haM])
                (by rw [g1, h1, List.append_assoc]) (h2.append g2) (Outcome.sim_refl _)
          · exact ⟨hS1, by simp⟩
        · -- failed predecessor: propagated
          have hserr' : st'.isError = true := by rw [← hse]; exact hserr
          rw [if_pos hserr]
          have href : (refQ env (m1+1) q raw extra input) =
              (.st { st' with data := .none, query := q.encode Gen.escapeTable }, c0) := by
            simp only [refQ_succ_of_pre hres hr1, refAfter, hserr', if_true, List.append_nil]
          exact Refines.intro (hS1.metaIf _ _ _) (m1+1) c' href (by simpa using h1) h2 (core_propagate hcore _)
      | _ =>
        -- an exception or a parse error of the predecessor is passed on
        obtain ⟨m1, c', h1, h2, h3⟩ := hw (by simp)
        rcases hr1 : refPre env m1 q input with ⟨o', c0⟩
        rw [hr1] at h2 h3
        cases h3
        exact Refines.intro hS1 (m1+1) c' (c := c0) (by rw [refQ_succ_of_pre hres hr1]; simp [refAfter]) h1 h2
          (Outcome.sim_refl _)

theorem refAt_zero (env : Env) (C : Query → Prop) (T : Str → Prop) : RefAt env C T 0 where
  text := fun w t ug hS _ => by rw [evalText_zero]; exact ⟨hS, by simp⟩
  q := fun w q raw extra input uc hS _ _ => by rw [evalQ_zero]; exact ⟨hS, by simp⟩
  act := fun w st a raw parent extra uc hS _ _ => by rw [evalAction_zero]; exact ⟨hS, by simp⟩
  params := fun w ps raw parent hS _ => by rw [evalParams_zero]; exact ⟨hS, by simp⟩

/-- R-eval: for every fuel, all four evaluator functions refine their reference counterparts -/
theorem refines {env : Env} {C : Query → Prop} {T : Str → Prop} (hC : Closed env C T)
    (hcanon : ∀ q, C q → CanonOK env q) :
    ∀ n, RefAt env C T n
  | 0 => refAt_zero env C T
  | n + 1 =>
    have ih := refines hC hcanon n
    { text := fun w t ug hS hT => text_step hC ih w t ug hS hT
      q := fun w q raw extra input uc hS hCq huc => q_step hC hcanon ih w q raw extra input uc hS hCq huc
      act := fun w st a raw parent extra uc hS hL hSub => act_step ih w st a raw parent extra uc hS hL hSub
      params := fun w ps raw parent hS hL => params_step ih w ps raw parent hS hL }

end Liquer
