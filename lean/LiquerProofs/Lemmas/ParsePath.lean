/-
Action paths (`action_path_nonempty`): a sequence of actions separated by `/`, ending in an action or a
file name. The one delicate point is that a file name and an action are not mistaken for each other:
an identifier contains no dot, and a file name up to its dot no delimiter.
-/
import LiquerProofs.Lemmas.ParseRes

namespace Liquer
open PS

variable {dec : List UInt8 → List Char}

/-- `a/b/c/` -/
def slashActs : List Action → Str
  | [] => []
  | a :: as => a.encode T ++ '/' :: slashActs as

theorem encodeActions_append (tbl : EscTable) (as bs : List Action) :
    encodeActions tbl (as ++ bs) = encodeActions tbl as ++ encodeActions tbl bs := by
  induction as with
  | nil => rfl
  | cons a as ih => simp [encodeActions, ih]

theorem eraseActions_append (as bs : List Action) :
    eraseActions (as ++ bs) = eraseActions as ++ eraseActions bs := by
  induction as with
  | nil => rfl
  | cons a as ih => simp [eraseActions, ih]

theorem wfActions_append (as bs : List Action) :
    wfActions (as ++ bs) = (wfActions as && wfActions bs) := by
  induction as with
  | nil => simp [wfActions]
  | cons a as ih => simp [wfActions, ih, Bool.and_assoc]

theorem joinStr_snoc (as : List Action) (x : Str) :
    joinStr ['/'] (encodeActions T as ++ [x]) = slashActs as ++ x := by
  induction as with
  | nil => simp [encodeActions, joinStr, slashActs]
  | cons a as ih =>
    simp only [encodeActions, List.cons_append, joinStr_cons, slashActs, List.append_assoc]
    congr 1
    cases h : encodeActions T as ++ [x] with
    | nil => simp at h
    | cons y ys =>
      rw [h, joinStr_cons] at ih
      rw [slashed_cons, ih]

theorem action_enc_head {a : Action} (h : wfAction a = true) :
    ∃ c t, a.encode T = c :: t ∧ inRanges Inst.idR1 c = true ∧ c ∉ Inst.delims := by
  obtain ⟨name, ps, pos⟩ := a
  simp only [wfAction, Bool.and_eq_true] at h
  have h1 := h.1
  rw [Inst.identifier_shape] at h1
  obtain ⟨c, t, rfl, hc⟩ := fullMatch_first h1
  exact ⟨c, t ++ encodeDashParams T ps, by simp [Action.encode], hc, fun hd =>
    not_mem_of_excl h.1 (List.all_eq_true.mp Inst.identifier_stops c hd) List.mem_cons_self⟩

theorem action_noDash {a : Action} (h : wfAction a = true) (x : Str) :
    (a.encode T ++ x).head? ≠ some '-' := by
  obtain ⟨c, t, he, _, hc⟩ := action_enc_head h
  rw [he]
  exact fun e => hc (Option.some.inj e ▸ by simp [Inst.delims])

theorem bodyText_last (as : List Action) (c : Action) :
    bodyText T (as ++ [c]) none = slashActs as ++ c.encode T := by
  simp only [bodyText, encodeActions_append, encodeActions]
  exact joinStr_snoc as (c.encode T)

theorem bodyText_file (as : List Action) (hwf : wfActions as = true) (fn : Str) :
    bodyText T as (some fn) = slashActs as ++ fn := by
  rw [← joinStr_snoc]
  simp only [bodyText]
  cases as with
  | nil => simp [encodeActions, joinStr]
  | cons a as =>
    simp only [wfActions, Bool.and_eq_true] at hwf
    obtain ⟨c, t, he, _⟩ := action_enc_head hwf.1
    have : (joinStr ['/'] (encodeActions T (a :: as))).isEmpty = false := by
      simp [encodeActions, joinStr_cons, he]
    rw [this]
    simp [encodeActions, joinStr_cons, slashed]

/-- the pieces of a header-less transform segment: its actions and its file name -/
def segPieces (as : List Action) (f : Option Str) : List Str :=
  encodeActions T as ++ (match f with | none => [] | some x => [x])

theorem bodyText_pieces {as : List Action} (hwfa : wfActions as = true) (f : Option Str) :
    bodyText T as f = joinStr ['/'] (segPieces as f) := by
  cases f with
  | none => simp [bodyText, segPieces]
  | some fn => rw [bodyText_file as hwfa fn, segPieces, joinStr_snoc]

theorem filename_match {s m r : Str} (h : matchRe Gen.filenameRe s = some (m, r)) :
    ∃ u v, m = u ++ '.' :: v ∧ ∀ c ∈ u, inRanges Inst.fnR1 c = true := by
  rw [Inst.filename_shape] at h
  obtain ⟨m2, h2, rfl⟩ := matchRe_cons_some h
  obtain ⟨c, _, m', _, hc, _, rfl⟩ := matchRe_one_some h2
  exact ⟨_, m', by rw [(char_eq_iff c '.').mpr (inRanges_single.mp hc)],
    (takeClass_spec Inst.fnR1 s none).2⟩

theorem filename_split {f : Str} (h : fullMatch Gen.filenameRe f = true) :
    ∃ a b, f = a ++ '.' :: b ∧ ∀ c ∈ a, inRanges Inst.fnR1 c = true :=
  filename_match ((fullMatch_iff _ _).mp h)

theorem cut_before {m r a y : Str} {d : Char} (h : m ++ r = a ++ d :: y) (hd : d ∉ m) :
    ∃ c, a = m ++ c ∧ r = c ++ d :: y := by
  rcases List.append_eq_append_iff.mp h with ⟨as, ha, hr⟩ | ⟨bs, hm, hy⟩
  · exact ⟨as, ha, hr⟩
  · rcases List.cons_eq_append_iff.mp hy with ⟨rfl, hr⟩ | ⟨bs', rfl, _⟩
    · exact ⟨[], by simpa using hm.symm, hr⟩
    · exact absurd (by simp [hm]) hd

theorem fnDot_head {c w : Str} (hc : ∀ x ∈ c, inRanges Inst.fnR1 x = true) {d : Char}
    (hd : d ∈ Inst.delims) : (c ++ '.' :: w).head? ≠ some d := by
  have hx : d ∈ ['-', '.', '/', '~'] := by
    simp only [Inst.delims, List.mem_cons, List.not_mem_nil, or_false] at hd ⊢
    exact hd.elim Or.inl (fun h => Or.inr (Or.inr h))
  have hf := not_inRanges_of_all Inst.filename_first hx
  cases c with
  | nil => rintro e; cases Option.some.inj e; revert hd; decide
  | cons x c => exact fun e => by rw [Option.some.inj e] at hc; simp [hf] at hc

theorem filename_noDash {f : Str} (hf : fullMatch Gen.filenameRe f = true) (x : Str) :
    (f ++ x).head? ≠ some '-' := by
  obtain ⟨a, b, rfl, ha⟩ := filename_split hf
  rw [List.append_assoc]
  exact fnDot_head ha (by simp [Inst.delims])

theorem identifier_item_no_dot {it : ReItem} (h : it ∈ Gen.identifierRe) : inRanges it.ranges '.' = false :=
  excl_item Inst.identifier_no_dot h

/-- the loop `ZeroOrMore(action_request + "/" + ~header)` stops in front of a file name: the identifier of
an action would end before the dot at the latest, where neither `-` nor `/` follows -/
theorem actionsSlash_block_file {f : Str} (hf : fullMatch Gen.filenameRe f = true) (rest : Str)
    (hws : NoWs (f ++ rest)) (m p : Nat) :
    parseActionsSlash dec m ⟨f ++ rest, p⟩ = ([], ⟨f ++ rest, p⟩) := by
  cases m with
  | zero => rfl
  | succ m =>
    -- an iteration spends two units of fuel before it looks at the input
    cases m with
    | zero => rfl
    | succ m =>
      obtain ⟨a, b, rfl, ha⟩ := filename_split hf
      simp only [List.append_assoc, List.cons_append] at hws ⊢
      simp only [parseActionsSlash, parseAction, skipWs_noWs hws, re_noWs hws]
      cases hm : matchRe Gen.identifierRe (a ++ '.' :: (b ++ rest)) with
      | none => rfl
      | some mr =>
        obtain ⟨name, r⟩ := mr
        obtain ⟨heq, hmem⟩ := matchRe_spec _ _ _ _ hm
        have hdot : '.' ∉ name := fun h => by
          obtain ⟨it, hit, hin⟩ := hmem '.' h
          rw [identifier_item_no_dot hit] at hin; cases hin
        obtain ⟨c, rfl, rfl⟩ := cut_before heq.symm hdot
        have hwr : NoWs (c ++ '.' :: (b ++ rest)) := by
          rw [List.append_assoc] at hws; exact hws.right
        have hc : ∀ x ∈ c, inRanges Inst.fnR1 x = true := fun x hx => ha x (List.mem_append_right _ hx)
        have hdash : ∀ q, lit ['-'] ⟨c ++ '.' :: (b ++ rest), q⟩ = none :=
          fun q => lit_ne_head hwr (fnDot_head hc (by simp [Inst.delims]))
        have hslash : ∀ q, lit ['/'] ⟨c ++ '.' :: (b ++ rest), q⟩ = none :=
          fun q => lit_ne_head hwr (fnDot_head hc (by simp [Inst.delims]))
        have hdp : ∀ q, parseDashParams dec false m ⟨c ++ '.' :: (b ++ rest), q⟩ =
            ([], ⟨c ++ '.' :: (b ++ rest), q⟩) := by
          intro q
          cases m with
          | zero => rfl
          | succ m => simp [parseDashParams, hdash]
        simp only [hdp, hslash]

theorem re_filename_none {name X : Str} {p : Nat} (hnd : '.' ∉ name) (hX : HeadIn Inst.delims X)
    (hws : NoWs (name ++ X)) : PS.re Gen.filenameRe ⟨name ++ X, p⟩ = none := by
  rw [re_noWs hws]
  cases hm : matchRe Gen.filenameRe (name ++ X) with
  | none => rfl
  | some mr =>
    exfalso
    obtain ⟨m, r⟩ := mr
    have heq := (matchRe_spec _ _ _ _ hm).1
    obtain ⟨u, v, rfl, hu⟩ := filename_match hm
    rw [List.append_assoc, List.cons_append] at heq
    obtain ⟨c, hc, hXe⟩ := cut_before heq hnd
    rw [hXe] at hX
    cases hh : (c ++ '.' :: (v ++ r)).head? with
    | none => cases c <;> cases hh
    | some x => exact fnDot_head (fun y hy => hu y (hc ▸ List.mem_append_right _ hy)) (hX x hh) hh

theorem actionsSlash_block_action (hd : DecOK dec) {N : Nat} (ih : LinkIH dec N) (c : Action)
    (hwf : wfAction c = true) (rest : Str) (b : Bool) (hf : Follow false b rest)
    (hws : NoWs (c.encode T ++ rest)) (m p : Nat) (hm : Fuel 4 (c.encode T).length m N) :
    parseActionsSlash dec m ⟨c.encode T ++ rest, p⟩ = ([], ⟨c.encode T ++ rest, p⟩) := by
  cases m with
  | zero => rfl
  | succ m =>
    obtain ⟨c', p', hc, _⟩ := action_spec hd ih c hwf rest hf.dpStop p m hws
      (hm.sub (Nat.le_refl _) (by decide))
    rcases hf with ⟨_, hq⟩ | ⟨r', rfl, hr⟩
    · simp only [parseActionsSlash, hc, lit_ne_head hws.right hq.noSlash]
    · rcases hr with hr | hr
      · cases hr
      · simp [parseActionsSlash, hc, lit_cons hws.right, hr.2 (p' + 1)]

/-- the loop reads the actions `as`, each followed by `/`, and stops in front of `tail`, the last action
or the file name (`hblock`) -/
theorem actionsSlash_spec (hd : DecOK dec) {N : Nat} (ih : LinkIH dec N) :
    ∀ (as : List Action), wfActions as = true →
      ∀ (tail : Str) (L : Nat), tail.head? ≠ some '-' →
      (∀ m p, Fuel 4 L m N → parseActionsSlash dec m ⟨tail, p⟩ = ([], ⟨tail, p⟩)) →
      ∀ (p n : Nat), NoWs (slashActs as ++ tail) → Fuel 4 ((slashActs as).length + L) n N →
      ∃ as' p', parseActionsSlash dec n ⟨slashActs as ++ tail, p⟩ = (as', ⟨tail, p'⟩) ∧
        eraseActions as' = eraseActions as
  | [], _, tail, L, _, hblock, p, n, _, hn => by
    simp only [slashActs, List.length_nil, Nat.zero_add, List.nil_append] at hn ⊢
    exact ⟨[], p, hblock n p hn, rfl⟩
  | a :: as, hwf, tail, L, htail, hblock, p, n, hws, hn => by
    simp only [wfActions, Bool.and_eq_true] at hwf
    simp only [slashActs, List.append_assoc, List.cons_append, List.length_append, List.length_cons] at hws hn ⊢
    obtain ⟨n, rfl⟩ := hn.pos
    obtain ⟨a', p1, ha, hae⟩ := action_spec hd ih a hwf.1 ('/' :: (slashActs as ++ tail))
      (Or.inr ⟨_, rfl⟩) p n hws (hn.sub (by omega) (by decide))
    have hw2 := hws.right
    have hnd : (slashActs as ++ tail).head? ≠ some '-' := by
      cases as with
      | nil => exact htail
      | cons b bs =>
        simp only [wfActions, Bool.and_eq_true] at hwf
        simp only [slashActs, List.append_assoc]
        exact action_noDash hwf.2.1 _
    obtain ⟨as', p2, has, hase⟩ := actionsSlash_spec hd ih as hwf.2 tail L htail hblock (p1 + 1) n
      hw2.tail (hn.next (by omega) (by decide))
    refine ⟨a' :: as', p2, ?_, by simp [eraseActions, hae, hase]⟩
    simp [parseActionsSlash, ha, lit_cons hw2, (notSegStart_of_noDash hw2.tail hnd).2.2, has]

theorem actionPath_spec (hd : DecOK dec) {N : Nat} (ih : LinkIH dec N) (as : List Action)
    (f : Option Str) (hwfa : wfActions as = true)
    (hne : as ≠ [] ∨ f.isSome = true) (hwff : ∀ x, f = some x → fullMatch Gen.filenameRe x = true)
    (rest : Str) (b : Bool) (hf : Follow f.isSome b rest) (p n : Nat)
    (hws : NoWs (bodyText T as f ++ rest)) (hn : Fuel 5 (bodyText T as f).length n N) :
    ∃ as' p', parseActionPath dec n ⟨bodyText T as f ++ rest, p⟩ = some ((as', f), ⟨rest, p'⟩) ∧
      eraseActions as' = eraseActions as := by
  obtain ⟨n, rfl⟩ := hn.pos
  cases f with
  | some fn =>
    have hfn := hwff fn rfl
    rw [bodyText_file as hwfa fn] at hws hn ⊢
    rw [List.append_assoc] at hws ⊢
    simp only [List.length_append] at hn
    obtain ⟨as', p1, has, hase⟩ := actionsSlash_spec hd ih as hwfa (fn ++ rest) 0
      (filename_noDash hfn rest) (fun m p _ => actionsSlash_block_file hfn rest hws.right m p)
      p n hws (hn.sub (Nat.add_le_add_left (Nat.zero_le _) _) (by decide))
    have hre := re_filename (p := p1) hfn hf.dpStop hws.right
    exact ⟨as', p1 + fn.length, by simp only [parseActionPath, has, hre], hase⟩
  | none =>
    have hne' : as ≠ [] := by simpa using hne
    obtain ⟨as0, c, rfl⟩ : ∃ as0 c, as = as0 ++ [c] :=
      ⟨as.dropLast, as.getLast hne', (List.dropLast_concat_getLast hne').symm⟩
    rw [wfActions_append] at hwfa
    simp only [wfActions, Bool.and_true, Bool.and_eq_true] at hwfa
    rw [bodyText_last] at hws hn ⊢
    rw [List.append_assoc] at hws ⊢
    simp only [List.length_append] at hn
    simp only [Option.isSome_none] at hf
    obtain ⟨as', p1, has, hase⟩ := actionsSlash_spec hd ih as0 hwfa.1 (c.encode T ++ rest)
      (c.encode T).length (action_noDash hwfa.2 rest)
      (fun m p hm => actionsSlash_block_action hd ih c hwfa.2 rest b hf hws.right m p hm)
      p n hws (hn.sub (Nat.le_refl _) (by decide))
    have hre : PS.re Gen.filenameRe ⟨c.encode T ++ rest, p1⟩ = none := by
      obtain ⟨name, ps, pos⟩ := c
      simp only [wfAction, Bool.and_eq_true] at hwfa
      have hw := hws.right
      simp only [Action.encode, List.append_assoc] at hw ⊢
      exact re_filename_none (fun h => by
        obtain ⟨it, hit, hin⟩ := fullMatch_mem hwfa.2.1 '.' h
        rw [identifier_item_no_dot hit] at hin; cases hin)
        (pieceStop_head (pieceStop_dashParams ps hf.dpStop)) hw
    obtain ⟨c', p2, hc, hce⟩ := action_spec hd ih c hwfa.2 rest hf.dpStop p1 n hws.right
      (hn.sub (Nat.le_add_left _ _) (by decide))
    refine ⟨as' ++ [c'], p2, by simp only [parseActionPath, has, hre, hc], ?_⟩
    simp [eraseActions_append, eraseActions, hase, hce]

theorem actionPath_fail {r : Str} (hws : NoWs r) (hr : HeadIn Inst.delims r) (n p : Nat) :
    parseActionPath dec n ⟨r, p⟩ = none := by
  have hact : ∀ m, parseAction dec m ⟨r, p⟩ = none
    | 0 => rfl
    | m + 1 => by simp only [parseAction, skipWs_noWs hws, re_identifier_none hws hr]
  have hfn : PS.re Gen.filenameRe ⟨r, p⟩ = none := re_filename_none (name := []) (by simp) hr hws
  cases n with
  | zero => rfl
  | succ n =>
    have hsl : parseActionsSlash dec n ⟨r, p⟩ = ([], ⟨r, p⟩) := by
      cases n with
      | zero => rfl
      | succ n => simp only [parseActionsSlash, hact]
    simp only [parseActionPath, hsl, hfn, hact]

end Liquer
