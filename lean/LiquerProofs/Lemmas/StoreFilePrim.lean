/-
The POSIX tree `PFS` of the `FileStore` model: `get` after `set` / `erase`, unique paths, `iterdir`, and the primitives
(`mkdir -p`, `write`, `unlink`, `rmdir`) — when they succeed, what a successful call found and changed, each with its
equation on `PFS.get`; `PFS.NoFile`: no regular file on the way.
-/
import LiquerProofs.Lemmas.StoreFile
import LiquerProofs.Lemmas.StoreSpec

namespace Liquer

theorem PFS.get_eq_alGet (fs : PFS) (q : Path) : PFS.get fs q = if q.isEmpty then some .dir else alGet fs q := rfl

/-- the two `_ne` forms need no `p ≠ []`: the frame lemmas know only that `p` differs from the path read -/
theorem PFS.get_erase_ne (fs : PFS) (p q : Path) (h : p ≠ q) : (fs.erase p).get q = fs.get q := by
  rw [PFS.get_eq_alGet, PFS.get_eq_alGet]
  by_cases hq : q.isEmpty = true
  · simp [hq]
  · simp only [hq, Bool.false_eq_true, ↓reduceIte]
    show alGet (alErase fs p) q = alGet fs q
    rw [alGet_erase]
    have : ¬ q = p := fun e => h e.symm
    simp [this]

theorem PFS.get_set_ne (fs : PFS) (p : Path) (n : PNode) (q : Path) (h : p ≠ q) : (fs.set p n).get q = fs.get q := by
  rw [PFS.get_eq_alGet, PFS.get_eq_alGet]
  by_cases hq : q.isEmpty = true
  · simp [hq]
  · simp only [hq, Bool.false_eq_true, ↓reduceIte]
    show alGet (alSet fs p n) q = alGet fs q
    rw [alGet_set]
    simp [h]

theorem PFS.get_of_ne_nil (s : PFS) {q : Path} (hq : q ≠ []) : s.get q = alGet s q := by
  rw [PFS.get_eq_alGet, if_neg (by simpa using hq)]

theorem PFS.get_root (s : PFS) : s.get [] = some .dir := rfl

theorem PFS.get_set (s : PFS) {p : Path} (hp : p ≠ []) (n : PNode) (q : Path) :
    (s.set p n).get q = if p = q then some n else s.get q := by
  by_cases e : p = q
  · subst e
    rw [PFS.get_of_ne_nil _ hp, if_pos rfl]
    show alGet (alSet s p n) p = _
    rw [alGet_set, if_pos rfl]
  · rw [PFS.get_set_ne _ _ _ _ e, if_neg e]

theorem PFS.get_erase (s : PFS) {p : Path} (hp : p ≠ []) (q : Path) :
    (s.erase p).get q = if q = p then none else s.get q := by
  by_cases e : q = p
  · subst e
    rw [PFS.get_of_ne_nil _ hp, if_pos rfl]
    show alGet (alErase s q) q = _
    rw [alGet_erase, if_pos rfl]
  · rw [PFS.get_erase_ne _ _ _ (fun e' => e e'.symm), if_neg e]

theorem Except.bind_ok {ε α β : Type} {x : Except ε α} {f : α → Except ε β} {b : β} (h : (x >>= f) = .ok b) :
    ∃ a, x = .ok a ∧ f a = .ok b := by
  cases x with
  | error e => simp [bind, Except.bind] at h
  | ok a => exact ⟨a, rfl, by simpa [bind, Except.bind] using h⟩

def PFS.mkdirStep (f : PFS) (a : Path) : Except StoreErr PFS :=
  match f.get a with
  | none => .ok (f.set a .dir)
  | some .dir => .ok f
  | some _ => .error .other

theorem PFS.mkdirP_eq (s : PFS) (p : Path) :
    s.mkdirP p = (ancestors p ++ (if p.isEmpty then [] else [p])).foldlM PFS.mkdirStep s := rfl

def PFS.ND (s : PFS) : Prop := (s.map (·.1)).Nodup

theorem PFS.nd_erase {s : PFS} (h : s.ND) (p : Path) : (s.erase p).ND := al_nodup_filter h _

theorem PFS.nd_set {s : PFS} (h : s.ND) (p : Path) (n : PNode) : (s.set p n).ND := al_nodup_set h p n

theorem PFS.nd_nil : PFS.ND [] := by simp [PFS.ND]

theorem PFS.mem_iterdir (s : PFS) (p : Path) (nm : Str) :
    nm ∈ s.iterdir p ↔ (alGet s (p ++ [nm])).isSome = true :=
  mem_alChildren s p nm

theorem PFS.iterdir_nodup {s : PFS} (hn : s.ND) (p : Path) : (s.iterdir p).Nodup := alChildren_nodup hn p

theorem PFS.iterdir_isEmpty (s : PFS) (p : Path) :
    (s.iterdir p).isEmpty = true ↔ ∀ nm, s.get (p ++ [nm]) = none := by
  simp only [PFS.get_of_ne_nil s (List.concat_ne_nil _ p)]
  exact alChildren_isEmpty s p

/-- with no file in the way `mkdir -p` is the fold that `FS.mkdirs` is -/
theorem PFS.mkdirP_list (as : List Path) :
    ∀ s : PFS, (∀ a ∈ as, a ≠ []) → (∀ a ∈ as, s.get a = none ∨ s.get a = some .dir) →
      as.foldlM PFS.mkdirStep s = .ok (alMkdirs .dir s as) := by
  induction as with
  | nil => intro s _ _; rfl
  | cons a as ih =>
    intro s hne hok
    have ha : a ≠ [] := hne a List.mem_cons_self
    have hne' : ∀ b ∈ as, b ≠ [] := fun b hb => hne b (List.mem_cons_of_mem _ hb)
    rw [List.foldlM_cons, alMkdirs, List.foldl_cons, ← alMkdirs, ← PFS.get_of_ne_nil s ha]
    unfold PFS.mkdirStep
    rcases hok a List.mem_cons_self with hg | hg
    · rw [hg]
      refine ih (s.set a .dir) hne' fun b hb => ?_
      rw [PFS.get_set _ ha]
      split
      · exact Or.inr rfl
      · exact hok b (List.mem_cons_of_mem _ hb)
    · rw [hg]
      exact ih s hne' fun b hb => hok b (List.mem_cons_of_mem _ hb)

/-- no regular file at `p` or on the way to it: when `mkdir(parents=True, exist_ok=True)` of `p` succeeds -/
def PFS.NoFile (s : PFS) (p : Path) : Prop := ∀ a, a ≠ [] → a <+: p → s.get a = none ∨ s.get a = some .dir

theorem PFS.mkdirP_spec (s : PFS) (p : Path) (h : s.NoFile p) :
    ∃ s', s.mkdirP p = .ok s' ∧
      (∀ q, s'.get q = if q <+: p ∧ s.get q = none then some .dir else s.get q) ∧ (s.ND → s'.ND) := by
  refine ⟨_, PFS.mkdirP_list _ s (fun a ha => ((mem_mkdirP_list p a).mp ha).1)
    (fun a ha => h a ((mem_mkdirP_list p a).mp ha).1 ((mem_mkdirP_list p a).mp ha).2), fun q => ?_, al_nodup_mkdirs _ _⟩
  by_cases hq : q = []
  · rw [hq, if_neg fun c : [] <+: p ∧ s.get [] = none => nomatch (PFS.get_root s).symm.trans c.2]; rfl
  · rw [PFS.get_of_ne_nil _ hq, PFS.get_of_ne_nil _ hq, alGet_mkdirs]
    exact ite_iff_congr (by rw [mem_mkdirP_list]; exact ⟨fun c => ⟨c.1.2, c.2⟩, fun c => ⟨⟨hq, c.1⟩, c.2⟩⟩) _ _

theorem PFS.write_ok (s : PFS) (p : Path) (n : PNode) (h1 : s.get p ≠ some .dir) (h2 : s.get p.dropLast = some .dir) :
    s.write p n = .ok (s.set p n) := by
  unfold PFS.write
  have : s.isDirB p.dropLast = true := by simp [PFS.isDirB, h2]
  rw [this]
  cases hg : s.get p with
  | none => simp
  | some x =>
    cases x with
    | dir => exact absurd hg h1
    | dfile d => simp
    | mfile m => simp

theorem PFS.unlink_file (s : PFS) (p : Path) {x : PNode} (h : s.get p = some x) (hx : x ≠ .dir) :
    s.unlinkMissingOk p = .ok (s.erase p) := by
  unfold PFS.unlinkMissingOk PFS.unlink
  rw [h]
  cases x with
  | dir => exact absurd rfl hx
  | dfile d => rfl
  | mfile m => rfl

theorem PFS.unlink_missing (s : PFS) (p : Path) (h : s.get p = none)
    (hw : ∀ a ∈ ancestors p, s.get a = none ∨ s.get a = some .dir) :
    s.unlinkMissingOk p = .ok s := by
  unfold PFS.unlinkMissingOk PFS.unlink
  rw [h]
  have : s.fileOnWay p = false := by
    unfold PFS.fileOnWay
    rw [List.any_eq_false]
    intro a ha
    rcases hw a ha with e | e <;> simp [e]
  simp [this]

theorem PFS.rmdir_ok (s : PFS) (p : Path) (hp : p ≠ []) (h : s.get p = some .dir) (he : (s.iterdir p).isEmpty = true) :
    s.rmdir p = .ok (s.erase p) := by
  unfold PFS.rmdir
  have : p.isEmpty = false := by simpa using hp
  simp [this, h, he]

theorem PFS.fileOnWay_false (s : PFS) (p : Path) : s.fileOnWay p = false ↔ s.NoFile p.dropLast := by
  unfold PFS.fileOnWay PFS.NoFile
  rw [List.any_eq_false]
  constructor
  · intro h a ha hap
    have := h a ((mem_ancestors_iff_dropLast a p).mpr ⟨ha, hap⟩)
    cases hg : s.get a with
    | none => exact Or.inl rfl
    | some x =>
      cases x with
      | dir => exact Or.inr rfl
      | dfile d => simp [hg] at this
      | mfile m => simp [hg] at this
  · intro h a ha
    obtain ⟨h1, h2⟩ := (mem_ancestors_iff_dropLast a p).mp ha
    rcases h a h1 h2 with e | e <;> simp [e]

theorem PFS.mkdirStep_ok {s s' : PFS} {a : Path} (h : PFS.mkdirStep s a = .ok s') :
    (s.get a = none ∧ s' = s.set a .dir) ∨ (s.get a = some .dir ∧ s' = s) := by
  unfold PFS.mkdirStep at h
  split at h
  · cases h; exact Or.inl ⟨‹_›, rfl⟩
  · cases h; exact Or.inr ⟨‹_›, rfl⟩
  · cases h

theorem PFS.mkdirList_noFile (as : List Path) : ∀ (s s' : PFS), as.foldlM PFS.mkdirStep s = .ok s' →
    ∀ a ∈ as, s.get a = none ∨ s.get a = some .dir := by
  induction as with
  | nil => exact fun _ _ _ a ha => nomatch ha
  | cons b as ih =>
    intro s s' h a ha
    rw [List.foldlM_cons] at h
    obtain ⟨s1, h1, h2⟩ := Except.bind_ok h
    rcases PFS.mkdirStep_ok h1 with ⟨hb, rfl⟩ | ⟨hb, rfl⟩
    · by_cases e : b = a
      · exact Or.inl (e ▸ hb)
      · have hbne : b ≠ [] := fun e => by rw [e, PFS.get_root] at hb; cases hb
        have := ih _ s' h2 a ((List.mem_cons.mp ha).resolve_left (Ne.symm e))
        rwa [PFS.get_set _ hbne, if_neg e] at this
    · rcases List.mem_cons.mp ha with rfl | ha'
      · exact Or.inr hb
      · exact ih _ s' h2 a ha'

theorem PFS.mkdirP_get {s s' : PFS} {p : Path} (h : s.mkdirP p = .ok s') :
    s.NoFile p ∧ ∀ q, s'.get q = if q <+: p ∧ s.get q = none then some .dir else s.get q := by
  have hnf : s.NoFile p := fun a ha hap =>
    PFS.mkdirList_noFile _ s s' (PFS.mkdirP_eq s p ▸ h) a ((mem_mkdirP_list p a).mpr ⟨ha, hap⟩)
  obtain ⟨s1, h1, hget, _⟩ := PFS.mkdirP_spec s p hnf
  cases h.symm.trans h1
  exact ⟨hnf, hget⟩

theorem PFS.mkdirP_nd {s s' : PFS} {p : Path} (h : s.mkdirP p = .ok s') (hnd : s.ND) : s'.ND := by
  obtain ⟨s1, h1, _, h3⟩ := PFS.mkdirP_spec s p (PFS.mkdirP_get h).1
  cases h.symm.trans h1
  exact h3 hnd

theorem PFS.mkdirP_dir {s s' : PFS} {p a : Path} (h : s.mkdirP p = .ok s') (ha : a <+: p) : s'.get a = some .dir := by
  obtain ⟨hnf, hget⟩ := PFS.mkdirP_get h
  rw [hget]
  by_cases e : a = []
  · rw [e]; rfl
  · rcases hnf a e ha with g | g
    · rw [if_pos ⟨ha, g⟩]
    · rw [if_neg (by rw [g]; nofun), g]

theorem PFS.mkdirP_notdir {s s' : PFS} {p : Path} (h : s.mkdirP p = .ok s') {q : Path} (hq : s'.get q ≠ some .dir) :
    s'.get q = s.get q := by
  rw [(PFS.mkdirP_get h).2] at hq ⊢
  split at hq
  · exact absurd rfl hq
  · rw [if_neg ‹_›]

theorem PFS.write_inv {s s' : PFS} {p : Path} {n : PNode} (h : s.write p n = .ok s') :
    p ≠ [] ∧ s.get p ≠ some .dir ∧ s' = s.set p n := by
  unfold PFS.write at h
  split at h
  · cases h
  · split at h <;> cases h
    exact ⟨fun e => by subst e; exact absurd (PFS.get_root s) ‹_›, ‹_›, rfl⟩

theorem PFS.mkdirP_write (s : PFS) {p : Path} (n : PNode) (hp : p ≠ []) (hnf : s.NoFile p.dropLast) (hd : s.get p ≠ some .dir) :
    ∃ s1, s.mkdirP p.dropLast = .ok s1 ∧ s1.write p n = .ok (s1.set p n) ∧
      ∀ q, (s1.set p n).get q =
        if q = p then some n else if q <+: p.dropLast ∧ s.get q = none then some .dir else s.get q := by
  obtain ⟨s1, h1, _, _⟩ := PFS.mkdirP_spec s p.dropLast hnf
  have hget := (PFS.mkdirP_get h1).2
  have hnp : ¬ p <+: p.dropLast := fun c => by
    have := c.length_le
    have := List.length_pos_iff.mpr hp
    rw [List.length_dropLast] at *
    omega
  refine ⟨s1, h1, PFS.write_ok s1 p n ?_ ?_, fun q => ?_⟩
  · rw [hget, if_neg (fun c => hnp c.1)]
    exact hd
  · exact PFS.mkdirP_dir h1 (List.prefix_refl _)
  · rw [PFS.get_set _ hp, hget]
    by_cases e : q = p
    · rw [if_pos e.symm, if_pos e]
    · rw [if_neg (Ne.symm e), if_neg e]

theorem PFS.unlinkMissingOk_ok (s : PFS) {p : Path} (hp : p ≠ []) (hnf : s.NoFile p.dropLast) (hd : s.get p ≠ some .dir) :
    ∃ s', s.unlinkMissingOk p = .ok s' ∧ ∀ q, s'.get q = if q = p then none else s.get q := by
  cases hg : s.get p with
  | none =>
    refine ⟨s, PFS.unlink_missing s p hg fun a ha => ?_, fun q => ?_⟩
    · obtain ⟨a1, a2⟩ := (mem_ancestors_iff_dropLast a p).mp ha
      exact hnf a a1 a2
    · split
      · rw [‹q = p›, hg]
      · rfl
  | some x => exact ⟨s.erase p, PFS.unlink_file s p hg (fun e => hd (e ▸ hg)), PFS.get_erase s hp⟩

end Liquer
