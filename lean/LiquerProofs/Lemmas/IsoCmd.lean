/-
C10: what a command may touch.  `cmdH` writes only cells of the state it is handed, of the argument values and of the
context's variables (`cmdFoot`), and the state it returns is made of those cells and of new ones (`cmdH_frame`): a command
has no effect on the heap, allocates its result, updates list objects in place, or replaces the variable dictionary.
-/
import LiquerProofs.Lemmas.IsoStage

namespace Liquer.Iso

theorem strOf_some {h : Heap} {k : HV} {s : Str} (e : strOf h k = some s) : k = .imm (.str s) := by
  unfold strOf at e
  split at e <;> cases e
  rfl

theorem listAt_some {h : Heap} {v : HV} {a : Addr} {l : List Val} (e : listAt h v = some (a, l)) :
    v = .ref a ∧ h.cells a = some (.val (.list l)) := by
  cases v with
  | imm v => cases e
  | ref b =>
    rw [listAt, Heap.valAt_eq] at e
    split at e
    · cases e
      refine ⟨rfl, ?_⟩
      split at * <;> simp_all
    · cases e

theorem listAt_valAt {h : Heap} {v : HV} {a : Addr} {l : List Val} (e : listAt h v = some (a, l)) : absHV h v = .list l := by
  obtain ⟨rfl, hc⟩ := listAt_some e
  rw [absHV, Heap.valAt_eq, hc]

theorem getVar_listAt {h : Heap} {vars : List (Str × HV)} {k : Str} {a : Addr} {l : List Val}
    (e : (getVar vars k).bind (listAt h) = some (a, l)) :
    getVar vars k = some (.ref a) ∧ a ∈ cellsVars vars ∧ h.cells a = some (.val (.list l)) := by
  obtain ⟨v, hv, hl⟩ := Option.bind_eq_some_iff.1 e
  obtain ⟨rfl, hc⟩ := listAt_some hl
  exact ⟨hv, mem_cellsVars.2 ⟨k, getKV_mem hv⟩, hc⟩

theorem metaAt_overwrite_val {h : Heap} {a : Addr} {x : Val} (hv : h.cells a = some (.val x)) (y : Val) (b : Addr) :
    (h.write a (.val y)).metaAt b = h.metaAt b := by
  by_cases e : b = a
  · rw [e, Heap.metaAt_write_val, Heap.metaAt_eq, hv]
  · exact Heap.metaAt_write_ne h _ e

theorem cellsState_write_val {h : Heap} {a : Addr} {x : Val} (hv : h.cells a = some (.val x)) (y : Val) (st : HState) :
    cellsState (h.write a (.val y)) st = cellsState h st := by
  rw [cellsState, cellsMeta, metaAt_overwrite_val hv]; rfl

theorem isVal_write_val {h : Heap} {a b : Addr} {x : Val} (hv : h.cells b = some (.val x)) (y : Val) :
    ∃ x', (h.write a (.val y)).cells b = some (.val x') := by
  by_cases e : b = a
  · exact ⟨y, by rw [e]; exact if_pos rfl⟩
  · exact ⟨x, (h.write_cells_ne _ e).trans hv⟩

theorem cellsState_write_md {h : Heap} {st : HState} {m : MetaRec} (hv : m.vars = (h.metaAt st.md).vars) :
    cellsState (h.write st.md (.md m)) st = cellsState h st := by
  rw [cellsState, cellsMeta, Heap.metaAt_write_same, hv]; rfl

/-- the footprint of a command: the cells of its input state, of its argument values and of the context's variables -/
def cmdFoot (h : Heap) (old : HState) (ctx : List (Str × HV)) (args : List HV) : List Addr :=
  cellsState h old ++ args.flatMap cellsHV ++ cellsVars ctx

theorem mem_cmdFoot {h : Heap} {old : HState} {ctx : List (Str × HV)} {args : List HV} {a : Addr} :
    a ∈ cmdFoot h old ctx args ↔ a ∈ cellsState h old ∨ (∃ v ∈ args, a ∈ cellsHV v) ∨ a ∈ cellsVars ctx := by
  simp only [cmdFoot, List.mem_append, List.mem_flatMap, or_assoc]

/-- from `h` to `h4` only cells of `L` were written, and the state `⟨data, md⟩` is made of cells of `L` and new ones -/
def Touched (L : List Addr) (h : Heap) (md : Addr) (h4 : Heap) (data : HV) : Prop :=
  HMod L h h4 ∧ ∀ a ∈ cellsState h4 ⟨data, md⟩, a ∈ L ∨ (h.next ≤ a ∧ a < h4.next)

section effects
variable {L : List Addr} {h : Heap} {old : HState}

theorem Touched.same (sub : ∀ a ∈ cellsState h old, a ∈ L) {d : HV} (hd : ∀ a ∈ cellsHV d, a ∈ cellsState h old) :
    Touched L h old.md h d :=
  ⟨HMod.refl _ _, fun a ha => Or.inl (sub a ((mem_cellsState.1 ha).elim (hd a) (fun ha => mem_cellsState.2 (Or.inr ha))))⟩

theorem Touched.alloc (sub : ∀ a ∈ cellsState h old, a ∈ L) (lt : ∀ a ∈ L, a < h.next) (x : Val) :
    Touched L h old.md (h.alloc (.val x)).1 (.ref h.next) := by
  refine ⟨(HExt.alloc h _).toHMod _, fun a ha => ?_⟩
  rw [mem_cellsState, (HExt.alloc h _).metaAt (lt _ (sub _ (md_mem_cellsState h old)))] at ha
  rcases ha with ha | ha
  · cases mem_cellsHV.1 ha
    exact Or.inr ⟨Nat.le_refl _, Nat.lt_succ_self _⟩
  · exact Or.inl (sub a (mem_cellsState.2 (Or.inr ha)))

/-- one more in-place update (`ext` makes two) -/
theorem Touched.write (lt : ∀ a ∈ L, a < h.next) {h1 : Heap} {a : Addr} {x : Val} (t : Touched L h old.md h1 old.data)
    (hn : h1.next = h.next) (ha : a ∈ L) (hv : h1.cells a = some (.val x)) (y : Val) :
    Touched L h old.md (h1.write a (.val y)) old.data :=
  ⟨t.1.trans (HMod.write ha (hn ▸ lt a ha) _) (fun _ hx _ => hx), fun b hb => by
    rw [cellsState_write_val hv] at hb
    exact t.2 b hb⟩

theorem Touched.vars (sub : ∀ a ∈ cellsState h old, a ∈ L) (lt : ∀ a ∈ L, a < h.next) {m : MetaRec}
    (hm : ∀ a ∈ cellsVars m.vars, a ∈ L) : Touched L h old.md (h.write old.md (.md m)) old.data := by
  have mdin := sub _ (md_mem_cellsState h old)
  refine ⟨HMod.write mdin (lt _ mdin) _, fun a ha => Or.inl ?_⟩
  rw [mem_cellsState, Heap.metaAt_write_same] at ha
  rcases ha with ha | ha | ha
  · exact sub a (data_mem_cellsState ha)
  · exact ha ▸ mdin
  · exact hm a ha

end effects

theorem cmdH_frame {h : Heap} {old : HState} {ctx : List (Str × HV)} {name : String} {args : List HV} {h4 : Heap} {data : HV}
    {vol caching : Bool}
    (hc : cmdH h old ctx name args = .ok h4 data vol caching) (lt : ∀ a ∈ cmdFoot h old ctx args, a < h.next) :
    Touched (cmdFoot h old ctx args) h old.md h4 data := by
  have sub : ∀ a ∈ cellsState h old, a ∈ cmdFoot h old ctx args := fun a ha => mem_cmdFoot.2 (Or.inl ha)
  have arg : ∀ v ∈ args, ∀ a ∈ cellsHV v, a ∈ cmdFoot h old ctx args := fun v hv a ha => mem_cmdFoot.2 (Or.inr (Or.inl ⟨v, hv, ha⟩))
  have same := Touched.same sub (d := old.data) (fun a => data_mem_cellsState)
  have dataIn : ∀ {a l}, listAt h old.data = some (a, l) → a ∈ cmdFoot h old ctx args := fun hl =>
    sub _ (data_mem_cellsState (mem_cellsHV.2 (listAt_some hl).1))
  revert hc
  fun_cases cmdH h old ctx name args <;> intro hc <;> cases hc
  · -- one
    exact Touched.same sub (fun a ha => nomatch ha)
  · -- mk
    next hh => cases hh; exact Touched.alloc sub lt _
  · -- app
    next hl => exact same.write lt rfl (dataIn hl) (listAt_some hl).2 _
  · -- ident
    exact same
  · -- copyl
    next hh => cases hh; exact Touched.alloc sub lt _
  · -- ext
    next o a l b lo hlo hl _ _ =>
      obtain ⟨x, hx⟩ := isVal_write_val (a := a) (listAt_some hlo).2 (.list (l ++ lo))
      exact (same.write lt rfl (dataIn hl) (listAt_some hl).2 _).write lt rfl
        (arg o (List.mem_singleton.2 rfl) b (mem_cellsHV.2 (listAt_some hlo).1)) hx _
  · -- pair
    next hh => cases hh; exact Touched.alloc sub lt _
  · -- let
    next k v _ _ =>
      refine Touched.vars sub lt (fun a ha => ?_)
      rcases mem_cellsVars_setVar ha with h1 | h1
      · exact sub a (vars_mem_cellsState h1)
      · exact arg v (List.mem_cons_of_mem _ (List.mem_singleton.2 rfl)) a h1
  · -- getvar
    exact Touched.same sub (fun a ha => vars_mem_cellsState (mem_cellsHV_getVar ha))
  · -- vapp
    next hl => exact same.write lt rfl (sub _ (vars_mem_cellsState (getVar_listAt hl).2.1)) (getVar_listAt hl).2.2 _
  · -- cvapp
    next hl => exact same.write lt rfl (mem_cmdFoot.2 (Or.inr (Or.inr (getVar_listAt hl).2.1))) (getVar_listAt hl).2.2 _
  · -- vol
    exact same
  · -- nocache
    exact same

end Liquer.Iso
