/-
Segment lists, `parse_query`, and the closure of the induction on the fuel.
-/
import LiquerProofs.Lemmas.ParseSeg

namespace Liquer
open PS

variable {dec : List UInt8 → List Char}

/-- `/seg/seg…` -/
def slashSegs (ss : List Seg) : Str := slashed (encodeSegs T ss)

theorem slashSegs_nil : slashSegs [] = [] := rfl
theorem slashSegs_cons (s : Seg) (ss : List Seg) :
    slashSegs (s :: ss) = '/' :: (s.encode T ++ slashSegs ss) := by
  simp [slashSegs, encodeSegs, slashed_cons]

theorem adjacencyOK_cons2 {k k2 : SegKind} {ks : List SegKind} (h : adjacencyOK (k :: k2 :: ks) = true) :
    k ≠ .rPlain ∧ k2 ≠ .rPlain ∧ adjacencyOK (k2 :: ks) = true ∧
      (∀ e, k2 = .tPlain e → plainMayFollow k = true) := by
  simp only [adjacencyOK, Bool.and_eq_true] at h
  obtain ⟨⟨h1, h2⟩, h3⟩ := h
  refine ⟨?_, ?_, h3, ?_⟩
  · rintro rfl; simp at h1
  · rintro rfl; simp at h2
  · rintro e rfl; simpa using h2

theorem adjacencyOK_head {k : SegKind} {ks : List SegKind} (h : adjacencyOK (k :: ks) = true) :
    k ≠ .rPlain := by
  cases ks with
  | nil => rintro rfl; simp [adjacencyOK] at h
  | cons k2 ks => exact (adjacencyOK_cons2 h).1

theorem kindsOf_cons (s : Seg) (ss : List Seg) : kindsOf (s :: ss) = s.kind :: kindsOf ss := by
  simp [kindsOf]

theorem follow_of_adj (rest : Str) (hq : qStop rest) : ∀ (ss : List Seg) (s : Seg),
    adjacencyOK (s.kind :: kindsOf ss) = true → wfSegs ss = true → NoWs (slashSegs ss ++ rest) →
    Follow (plainMayFollow s.kind) (adjacencyOK [s.kind]) (slashSegs ss ++ rest)
  | [], s, hadj, _, _ => Or.inl ⟨by simpa [kindsOf] using hadj, hq⟩
  | s2 :: ss2, s, hadj, hwf, hws => by
    rw [kindsOf_cons] at hadj
    obtain ⟨_, hk2, hrest, hplain⟩ := adjacencyOK_cons2 hadj
    simp only [wfSegs, Bool.and_eq_true] at hwf
    rw [slashSegs_cons] at hws ⊢
    simp only [List.cons_append, List.append_assoc] at hws ⊢
    refine Or.inr ⟨_, rfl, ?_⟩
    have hhs := fun hh => headerStart_seg s2 hwf.1 hh _
      (follow_of_adj rest hq ss2 s2 hrest hwf.2 hws.tail.right) hws.tail
    rcases seg_cases s2 with ⟨as, f, rfl⟩ | ⟨h, as, f, rfl⟩ | ⟨h, ns, rfl⟩ | ⟨ns, rfl⟩
    · exact Or.inl (hplain _ rfl)
    · exact Or.inr (hhs rfl)
    · exact Or.inr (hhs rfl)
    · exact absurd rfl hk2

/-- `k`: the kind of the segment in front of the list -/
theorem segmentsMore_spec (hd : DecOK dec) {N : Nat} (ih : LinkIH dec N) :
    ∀ (ss : List Seg) (k : SegKind), adjacencyOK (k :: kindsOf ss) = true → wfSegs ss = true →
      ∀ (rest : Str), qStop rest → ∀ (p n : Nat),
      NoWs (slashSegs ss ++ rest) → Fuel 8 (slashSegs ss).length n N →
      ∃ ss' p', parseSegmentsMore dec n ⟨slashSegs ss ++ rest, p⟩ = (ss', ⟨rest, p'⟩) ∧
        eraseSegs ss' = eraseSegs ss
  | [], k, _, _, rest, hq, p, n, hws, _ => by
    rw [slashSegs_nil, List.nil_append] at hws ⊢
    refine ⟨[], p, ?_, rfl⟩
    cases n with
    | zero => rfl
    | succ n => simp only [parseSegmentsMore, lit_ne_head hws hq.noSlash]
  | s :: ss, k, hadj, hwf, rest, hq, p, n, hws, hn => by
    rw [kindsOf_cons] at hadj
    obtain ⟨_, hk2, hrest, _⟩ := adjacencyOK_cons2 hadj
    simp only [wfSegs, Bool.and_eq_true] at hwf
    rw [slashSegs_cons] at hws hn ⊢
    simp only [List.cons_append, List.append_assoc, List.length_cons, List.length_append] at hws hn ⊢
    obtain ⟨n, rfl⟩ := hn.pos
    obtain ⟨s', p1, hs, hse⟩ := seg_spec hd ih s hwf.1 hk2 (slashSegs ss ++ rest)
      (follow_of_adj rest hq ss s hrest hwf.2 hws.tail.right) (p + 1) n hws.tail
      (hn.sub (Nat.le_succ_of_le (Nat.le_add_right _ _)) (by decide))
    obtain ⟨ss', p2, hss, hsse⟩ := segmentsMore_spec hd ih ss s.kind hrest hwf.2 rest hq p1 n
      hws.tail.right (hn.next (Nat.lt_succ_of_le (Nat.le_add_left _ _)) (by decide))
    refine ⟨s' :: ss', p2, ?_, by simp [eraseSegs, hse, hsse]⟩
    simp only [parseSegmentsMore, lit_cons hws, hs, hss]

/-- the text of a link query: no `-R/` is inserted, since a single resource segment has a header -/
theorem encode_inner (s : Seg) (ss : List Seg) (a : Bool) (hwf : wfInner (.mk (s :: ss) a) = true) :
    (Query.mk (s :: ss) a).encode T = (if a then ['/'] else []) ++ (s.encode T ++ slashSegs ss) := by
  simp only [wfInner, Bool.and_eq_true, wfSegs] at hwf
  rw [Query.encode_eq]
  have hj : joinStr ['/'] (encodeSegs T (s :: ss)) = s.encode T ++ slashSegs ss := by
    simp [encodeSegs, joinStr_cons, slashSegs]
  rw [hj]
  have : (isSingleRes (s :: ss) && (s.encode T ++ slashSegs ss).head? != some '-') = false := by
    cases hsr : isSingleRes (s :: ss) with
    | false => rfl
    | true =>
      have hk : s.kind ≠ .rPlain := adjacencyOK_head (by simpa [kindsOf_cons] using hwf.2)
      obtain ⟨c, t, he, _, h1, _⟩ := seg_head s hwf.1.2.1 hk
      have hh : s.header.isSome = true := by
        rcases seg_cases s with ⟨_, _, rfl⟩ | ⟨_, _, _, rfl⟩ | ⟨_, _, rfl⟩ | ⟨_, rfl⟩
        · cases ss <;> cases hsr
        · rfl
        · rfl
        · exact absurd rfl hk
      simp [he, h1 hh]
  rw [this]
  simp

/-- `Optional("/")` at the front of a query: whether there is a slash, and the state behind it -/
def optSlash (s : PS) : Bool × PS :=
  match s.lit ['/'] with
  | some s1 => (true, s1)
  | none => (false, s)

theorem optSlash_spec {a : Bool} {X : Str} {p : Nat} (hws : NoWs ((if a then ['/'] else []) ++ X))
    (hX : X.head? ≠ some '/') :
    optSlash ⟨(if a then ['/'] else []) ++ X, p⟩ = (a, ⟨X, p + (if a then 1 else 0)⟩) := by
  unfold optSlash
  cases a with
  | true =>
    simp only [↓reduceIte, List.cons_append, List.nil_append] at hws ⊢
    rw [lit_cons hws]
  | false =>
    simp only [Bool.false_eq_true, ↓reduceIte, List.nil_append] at hws ⊢
    rw [lit_ne_head hws hX]; rfl

theorem parseQuery_succ (n : Nat) (s : PS) : parseQuery dec (n + 1) s =
    match parseSegment dec n (optSlash s).2 with
    | none => none
    | some (g, s2) =>
      some (.mk (g :: (parseSegmentsMore dec n s2).1) (optSlash s).1, (parseSegmentsMore dec n s2).2) := rfl

theorem query_spec (hd : DecOK dec) {N : Nat} (ih : LinkIH dec N) (q : Query)
    (hwf : wfInner q = true) (rest : Str) (p n : Nat) (hws : NoWs (q.encode T ++ rest))
    (hq : qStop rest) (hn : Fuel 9 (q.encode T).length n N) :
    ∃ q' p', parseQuery dec n ⟨q.encode T ++ rest, p⟩ = some (q', ⟨rest, p'⟩) ∧ q'.erase = q.erase := by
  obtain ⟨segs, a⟩ := q
  cases segs with
  | nil => simp [wfInner] at hwf
  | cons s ss =>
    rw [encode_inner s ss a hwf] at hws hn ⊢
    simp only [wfInner, Bool.and_eq_true, wfSegs] at hwf
    obtain ⟨⟨_, hws1, hwss⟩, hadj⟩ := hwf
    rw [kindsOf_cons] at hadj
    have hk := adjacencyOK_head hadj
    obtain ⟨n, rfl⟩ := hn.pos
    obtain ⟨c, t, he, hc, _⟩ := seg_head s hws1 hk
    simp only [List.append_assoc] at hws ⊢
    simp only [List.length_append] at hn
    rw [parseQuery_succ, optSlash_spec hws (by rw [he]; exact fun e => hc (Option.some.inj e))]
    obtain ⟨s', p1, hs, hse⟩ := seg_spec hd ih s hws1 hk (slashSegs ss ++ rest)
      (follow_of_adj rest hq ss s hadj hwss hws.right.right) (p + if a then 1 else 0) n hws.right
      (hn.sub (Nat.le_trans (Nat.le_add_right _ _) (Nat.le_add_left _ _)) (by decide))
    obtain ⟨ss', p2, hss, hsse⟩ := segmentsMore_spec hd ih ss s.kind hadj hwss rest hq p1 n
      hws.right.right (hn.sub (Nat.le_trans (Nat.le_add_left _ _) (Nat.le_add_left _ _)) (by decide))
    exact ⟨.mk (s' :: ss') a, p2, by simp only [hs, hss], by simp [Query.erase, eraseSegs, hse, hsse]⟩

theorem linkIH_all (hd : DecOK dec) : ∀ N, LinkIH dec N
  | 0 => fun _ _ _ _ _ h => absurd h (Nat.not_lt_zero _)
  | N + 1 => fun q hwf rest p n hnN hws hq hn =>
    query_spec hd (linkIH_all hd N) q hwf rest p n hws hq ⟨hn, Nat.le_of_lt_succ hnN⟩

theorem parseQuery_encode (hd : DecOK dec) (q : Query) (hwf : wfInner q = true) (rest : Str)
    (p n : Nat) (hws : NoWs (q.encode T ++ rest)) (hq : qStop rest)
    (hn : 8 * (q.encode T).length + 9 ≤ n) :
    ∃ q' p', parseQuery dec n ⟨q.encode T ++ rest, p⟩ = some (q', ⟨rest, p'⟩) ∧ q'.erase = q.erase :=
  query_spec hd (linkIH_all hd n) q hwf rest p n hws hq ⟨hn, Nat.le_refl _⟩

end Liquer
