/-
C12, file-operation granularity, directory tree (1):
* the link between the static step lists of a `FileStore` writer with its own temporary names (`storeStepsTN`,
  `storeMetaStepsTN`) and the lists `storeStepsT` / `storeMetaStepsT` of the crash model (C16) — no hypothesis on the tree;
* these lists as writers of the entry `mfile p`, `node p` in the sense of `ConcFile2.lean` (the `mkdir`s are the steps that do not
  concern the entry);
* the frame for every OTHER path: the steps of writers of `p` change, outside the two files of `p` and the temporaries, nothing
  but "absent → directory" at nodes, which no read of another path can tell from "absent".
-/
import LiquerModel.ConcFileT
import LiquerProofs.Lemmas.ConcFile2
import LiquerProofs.Lemmas.CrashTree

namespace Liquer
namespace Crash

theorem execT_mkdir_present (t : Tree) (n : SName) (h : (AL.get t n).isSome = true) : execT t (.mkdir n) = t := by
  simp only [execT]
  cases hg : AL.get t n with
  | none => rw [hg] at h; cases h
  | some x => rfl

theorem get_execT_mkdir_isSome (t : Tree) (n m : SName) (h : (AL.get t m).isSome = true) :
    (AL.get (execT t (.mkdir n)) m).isSome = true := by
  simp only [execT]
  cases AL.get t n with
  | none => simp only [AL.get_set]; split <;> first | rfl | exact h
  | some x => exact h

/-- creating only the directories that are missing in `t` (the crash model's list) and issuing `mkdir` for every name
(`exist_ok=True`) lead to the same tree, from every tree `t'` that has at least the names of `t` -/
theorem mkdirs_run (t : Tree) (ns : List SName) : ∀ t' : Tree,
    (∀ n ∈ ns, (AL.get t n).isSome = true → (AL.get t' n).isSome = true) →
    (mkdirsT t ns).foldl execT t' = (ns.map Step.mkdir).foldl execT t' := by
  induction ns with
  | nil => intro t' _; rfl
  | cons n ns ih =>
    intro t' h
    simp only [mkdirsT] at ih ⊢
    rw [List.filter_cons]
    cases hn : AL.get t n with
    | none =>
      exact ih _ fun m hm hs => get_execT_mkdir_isSome t' n m (h m (List.mem_cons_of_mem _ hm) hs)
    | some x =>
      simp only [Option.isNone_some, Bool.false_eq_true, ↓reduceIte, List.map_cons, List.foldl_cons]
      rw [execT_mkdir_present t' n (h n (List.mem_cons_self ..) (by rw [hn]; rfl))]
      exact ih t' (fun m hm => h m (List.mem_cons_of_mem _ hm))

theorem writeFileTN_tmp (dk : Key) (target : SName) (b : Data) : writeFileTN (.tmp dk) target b = writeFileT dk target b := rfl

theorem mkdir_map_names (ns : List SName) (nm : SName) (h : nm ∉ ns) : ∀ s ∈ ns.map Step.mkdir, nm ∉ s.names := by
  intro s hs
  obtain ⟨n, hn, rfl⟩ := List.mem_map.1 hs
  exact fun e => h (List.mem_singleton.1 e ▸ hn)

/-- **link (effect), `FileStore.store`**: with the crash model's temporary name, from EVERY tree the static list and the list of
the crash model lead to the same tree (the crash model omits the `mkdir` of existing names and the `unlink` of a missing
metadata file, which are no-ops of `execT`) -/
theorem storeStepsTN_run_eq_storeStepsT (t : Tree) (k : Key) (b mb : Data) :
    (storeStepsTN (.tmp (parentKey k)) (.tmp (parentKey k)) k b mb).foldl execT t = (storeStepsT t k b mb).foldl execT t := by
  simp only [storeStepsTN, storeStepsT, List.foldl_append, writeFileTN_tmp]
  rw [mkdirs_run t (parentNodes k) t (fun _ _ h => h)]
  have h1 : AL.get (((parentNodes k).map Step.mkdir).foldl execT t) (.mfile k) = AL.get t (.mfile k) :=
    stepLawsT.foldl_untouched _ _ (mkdir_map_names _ _ (mfile_not_parentNodes k k)) t
  have h2 : AL.get (((parentNodes k).map Step.mkdir).foldl execT t) (.metaDir (parentKey k)) = AL.get t (.metaDir (parentKey k)) :=
    stepLawsT.foldl_untouched _ _ (mkdir_map_names _ _ (by simp [parentNodes])) t
  generalize ((parentNodes k).map Step.mkdir).foldl execT t = t1 at h1 h2
  have e1 : (unlinkIfPresent t (.mfile k)).foldl execT t1 = execT t1 (.unlink (.mfile k)) := by
    unfold unlinkIfPresent
    cases h : AL.get t (.mfile k) with
    | none => exact (AL.erase_of_get_none (h1.trans h)).symm
    | some x => rfl
  rw [e1, mkdirs_run t [.metaDir (parentKey k)] _ (by
    intro n hn hs
    rw [List.mem_singleton.1 hn, stepLawsT.untouched _ _ _ (by simp [Step.names]), h2]
    exact List.mem_singleton.1 hn ▸ hs)]
  rfl

theorem storeMetaStepsTN_run_eq_storeMetaStepsT (t : Tree) (k : Key) (mb : Data) :
    (storeMetaStepsTN (.tmp (parentKey k)) k mb).foldl execT t = (storeMetaStepsT t k mb).foldl execT t := by
  simp only [storeMetaStepsTN, storeMetaStepsT, List.foldl_append, writeFileTN_tmp]
  rw [mkdirs_run t (parentNodes k ++ [SName.metaDir (parentKey k)]) t (fun _ _ h => h)]
  simp only [List.map_append, List.foldl_append, List.map_cons, List.map_nil]

/-- `FileStore.store` of one thread: the directories above, unlink, the hidden folder, data, metadata -/
def treeStore (p n1 n2 : Key) (M : Data) : Writer SName :=
  .store ((parentNodes p).map Step.mkdir) (.mkdir (.metaDir (parentKey p))) (.tmp n1) (.tmp n2) M

def treeProgress (p n : Key) (M : Data) : Writer SName :=
  .progress ((parentNodes p).map Step.mkdir ++ [.mkdir (.metaDir (parentKey p))]) (.tmp n) M

theorem storeStepsTN_eq (p n1 n2 : Key) (X M : Data) :
    storeStepsTN (.tmp n1) (.tmp n2) p X M = (treeStore p n1 n2 M).steps (.mfile p) (.node p) X := by
  simp only [storeStepsTN, treeStore, Writer.steps, List.append_assoc, List.cons_append, List.nil_append]; rfl

theorem storeMetaStepsTN_eq (p n : Key) (X M : Data) :
    storeMetaStepsTN (.tmp n) p M = (treeProgress p n M).steps (.mfile p) (.node p) X := rfl

/-- the names that matter to the writers of `p`: its two files and all temporaries -/
def matters (p : Key) (n : SName) : Prop := n = .node p ∨ n = .mfile p ∨ ∃ a, n = .tmp a

theorem mkdir_parent_quiet {p : Key} : ∀ s ∈ (parentNodes p).map Step.mkdir, ∀ n ∈ s.names, ¬ matters p n := by
  intro s hs n hn
  obtain ⟨m, hm, rfl⟩ := List.mem_map.1 hs
  rw [List.mem_singleton.1 hn]
  rintro (rfl | rfl | ⟨a, rfl⟩)
  · exact node_not_parentNodes p hm
  · exact mfile_not_parentNodes p p hm
  · simp [parentNodes] at hm

theorem mkdir_metaDir_quiet {p : Key} : ∀ n ∈ (Step.mkdir (SName.metaDir (parentKey p))).names, ¬ matters p n := by
  intro n hn
  rw [List.mem_singleton.1 hn]
  rintro (h | h | ⟨a, h⟩) <;> cases h

theorem treeStore_ok {p n1 n2 : Key} {M : Data} {PS PN : Data → Prop} (h : PS M) :
    (treeStore p n1 n2 M).OK (.node p) (matters p) PS PN :=
  ⟨mkdir_parent_quiet, Or.inr mkdir_metaDir_quiet, h⟩

theorem treeProgress_ok {p n : Key} {M : Data} {PS PN : Data → Prop} (h : PN M) :
    (treeProgress p n M).OK (.node p) (matters p) PS PN := by
  refine ⟨fun s hs => ?_, h⟩
  rcases List.mem_append.1 hs with hs | hs
  · exact mkdir_parent_quiet s hs
  · exact List.mem_singleton.1 hs ▸ mkdir_metaDir_quiet

/-- a step of a writer of `p`: the `mkdir` of a node, or a step that mentions only the two files of `p`, hidden folders and
temporaries -/
def Benign (p : Key) (s : Step SName) : Prop :=
  (∃ a, s = .mkdir (.node a)) ∨
  (∀ n ∈ s.names, n = .node p ∨ n = .mfile p ∨ (∃ a, n = .metaDir a) ∨ ∃ a, n = .tmp a)

theorem benign_of_steps {p : Key} {X : Data} {w : Writer SName} (hq : ∀ s ∈ w.quiet, Benign p s) (ht : ∀ n ∈ w.tmps, ∃ a, n = .tmp a) :
    ∀ s ∈ w.steps (.mfile p) (.node p) X, Benign p s := by
  intro s hs
  refine (Writer.mem_steps hs).elim (hq s) fun h => Or.inr fun n hn => ?_
  rcases h n hn with rfl | rfl | h
  · exact Or.inr (Or.inl rfl)
  · exact Or.inl rfl
  · exact Or.inr (Or.inr (Or.inr (ht n h)))

theorem benign_mkdirs {p : Key} {s : Step SName} (h : s ∈ (parentNodes p).map Step.mkdir ∨ s = .mkdir (.metaDir (parentKey p))) :
    Benign p s := by
  rcases h with h | rfl
  · simp only [parentNodes, List.map_map, List.mem_map, Function.comp] at h
    obtain ⟨a, _, rfl⟩ := h
    exact Or.inl ⟨a, rfl⟩
  · exact Or.inr fun n hn => Or.inr (Or.inr (Or.inl ⟨_, List.mem_singleton.1 hn⟩))

theorem treeStore_benign (p n1 n2 : Key) (X M : Data) : ∀ s ∈ (treeStore p n1 n2 M).steps (.mfile p) (.node p) X, Benign p s :=
  benign_of_steps (fun s hs => benign_mkdirs ((List.mem_cons.1 hs).symm)) (by simp [treeStore, Writer.tmps])

theorem treeProgress_benign (p n : Key) (X M : Data) : ∀ s ∈ (treeProgress p n M).steps (.mfile p) (.node p) X, Benign p s :=
  benign_of_steps (fun s hs => benign_mkdirs ((List.mem_append.1 hs).imp_right List.mem_singleton.1)) (by simp [treeProgress, Writer.tmps])

/-- what the steps of writers of `p` may do to the two files of another path `p'`: nothing to the metadata file; the node keeps its
content, or an absent node has become a directory -/
def Other (t0 : Tree) (p' : Key) (t : Tree) : Prop :=
  (AL.get t (.node p') = AL.get t0 (.node p') ∨ (AL.get t0 (.node p') = none ∧ AL.get t (.node p') = some .dir)) ∧
  AL.get t (.mfile p') = AL.get t0 (.mfile p')

theorem Other.step {t0 t : Tree} {p p' : Key} (hne : p' ≠ p) {s : Step SName} (hs : Benign p s) (h : Other t0 p' t) :
    Other t0 p' (execT t s) := by
  obtain ⟨hn, hm⟩ := h
  rcases hs with ⟨a, rfl⟩ | hs
  · refine ⟨?_, by rw [stepLawsT.untouched _ _ _ (by simp [Step.names])]; exact hm⟩
    by_cases ha : a = p'
    · subst ha
      simp only [execT]
      cases hg : AL.get t (.node a) with
      | none =>
        refine Or.inr ⟨hn.elim (fun hn => by rw [← hn, hg]) (·.1), by simp [AL.get_set]⟩
      | some x => simp only [hg] at hn ⊢; exact hn
    · rw [stepLawsT.untouched _ _ _ (by simp [Step.names]; exact fun e => ha e.symm)]
      exact hn
  · have h1 : SName.node p' ∉ s.names := fun hmem => by
      rcases hs _ hmem with h | h | ⟨a, h⟩ | ⟨a, h⟩ <;> first | exact hne (SName.node.inj h) | cases h
    have h2 : SName.mfile p' ∉ s.names := fun hmem => by
      rcases hs _ hmem with h | h | ⟨a, h⟩ | ⟨a, h⟩ <;> first | exact hne (SName.mfile.inj h) | cases h
    rw [Other, stepLawsT.untouched _ _ _ h1, stepLawsT.untouched _ _ _ h2]
    exact ⟨hn, hm⟩

theorem other_prefix (p p' : Key) (hne : p' ≠ p) (l : List (Step SName)) (hl : ∀ s ∈ l, Benign p s) (t0 : Tree) (n : Nat) :
    Other t0 p' (runPrefixT n l t0) :=
  foldl_inv execT (Other t0 p') (l.take n) (fun s hs _ hI => hI.step hne (hl s (List.mem_of_mem_take hs))) t0 ⟨Or.inl rfl, rfl⟩

theorem Other.read {t0 t : Tree} {p' : Key} (h : Other t0 p' t) (deM : Data → Option CMeta) (deD : Str → Data → Option (Option Str)) :
    readSC deM deD t p' = readSC deM deD t0 p' := by
  obtain ⟨hn, hm⟩ := h
  simp only [readSC_eq, pairT, hm]
  rcases hn with hn | ⟨h0, h1⟩
  · rw [hn]
  · rw [h0, h1]; rfl

end Crash
end Liquer
