/-
C16, buffered writes (`LiquerModel/CrashBuf.lean`): a protocol that closes every file before it renames it
and never disturbs an open file reads, at every name that is not open at the kill, exactly as the
write-through execution of the same steps.  Generic in the executor (laws `FsLaws`), then the two
concrete file systems and the fixed writers.
-/
import LiquerModel.CrashBuf
import LiquerProofs.Lemmas.CrashFlat
import LiquerProofs.Lemmas.CrashTree

namespace Liquer
namespace Crash

variable {ν φ β : Type} [DecidableEq ν]

/-- what the generic argument needs to know about an executor and an observation `get fs p` of one name -/
structure FsLaws (exec : φ → Step ν → φ) (get : φ → ν → β) : Prop where
  /-- a step changes only the names it mentions -/
  untouched : ∀ fs s p, p ∉ s.names → get (exec fs s) p = get fs p
  /-- what a step leaves at the names it mentions depends only on what was there -/
  cong : ∀ fs1 fs2 s, (∀ q ∈ s.names, get fs1 q = get fs2 q) → ∀ q ∈ s.names, get (exec fs1 s) q = get (exec fs2 s) q
  append_nil : ∀ fs p, get (exec fs (.append p [])) p = get fs p
  append_append : ∀ fs p x y, get (exec (exec fs (.append p x)) (.append p y)) p = get (exec fs (.append p (x ++ y))) p

theorem Spec.fsLaws {β : Type} {exec : φ → Step ν → φ} {get : φ → ν → Option β} {mk : Option β → Option β} {app : β → Data → β}
    {file : Data → β} (h : Spec exec get mk app file) : FsLaws exec get where
  untouched := h.stepLaws.untouched
  cong fs1 fs2 s hs q hq := by
    rw [h.get_exec, h.get_exec]
    cases s <;> simp only [Step.names, List.mem_cons, List.not_mem_nil, or_false, forall_eq_or_imp, forall_eq] at hs hq <;>
      simp only [stepGet]
    case rename a b =>
      rw [hs.1]
      split
      · rcases hq with rfl | rfl
        · split
          · rfl
          · rw [if_pos rfl, if_pos rfl]
        · rw [if_pos rfl, if_pos rfl]
      · rcases hq with rfl | rfl
        · exact hs.1
        · exact hs.2
    all_goals rw [hq, hs]
  append_nil fs p := by
    rw [h.get_exec, stepGet, if_pos rfl]
    cases get fs p <;> simp only [Option.map_none, Option.map_some, h.app_nil]
  append_append fs p x y := by
    rw [h.get_exec, h.get_exec, stepGet, stepGet, if_pos rfl, if_pos rfl, h.get_exec, stepGet, if_pos rfl]
    cases get fs p <;> simp only [Option.map_none, Option.map_some, h.app_app]

/-! ### the simulation: buffered disk + buffers against the write-through disk -/

/-- at a name without buffer the two disks agree; writing the buffer of an open file out makes them agree -/
def BInv (exec : φ → Step ν → φ) (get : φ → ν → β) (disk : φ) (B : ν → Option Data) (wt : φ) : Prop :=
  (∀ p, B p = none → get disk p = get wt p) ∧ (∀ p x, B p = some x → get (exec disk (.append p x)) p = get wt p)

section generic
variable {exec : φ → Step ν → φ} {get : φ → ν → β} (L : FsLaws exec get)
include L

omit [DecidableEq ν] L in
theorem binv_congr {disk wt : φ} {B B' : ν → Option Data} (h : ∀ q, B' q = B q) (hI : BInv exec get disk B wt) :
    BInv exec get disk B' wt :=
  ⟨fun p hp => hI.1 p (by rw [← h]; exact hp), fun p x hp => hI.2 p x (by rw [← h]; exact hp)⟩

theorem binv_quiet {disk wt : φ} {B : ν → Option Data} (s : Step ν) (hs : ∀ q ∈ s.names, B q = none)
    (hI : BInv exec get disk B wt) : BInv exec get (exec disk s) B (exec wt s) := by
  refine ⟨fun p hp => ?_, fun p x hp => ?_⟩
  · by_cases hm : p ∈ s.names
    · exact L.cong disk wt s (fun q hq => hI.1 q (hs q hq)) p hm
    · rw [L.untouched _ _ _ hm, L.untouched _ _ _ hm]; exact hI.1 p hp
  · have hm : p ∉ s.names := fun hm => by rw [hs p hm] at hp; cases hp
    rw [L.untouched wt s p hm, ← hI.2 p x hp]
    exact L.cong (exec disk s) disk (.append p x) (fun q hq => by
      simp only [Step.names, List.mem_singleton] at hq; subst hq; exact L.untouched _ _ _ hm) p (by simp [Step.names])

/-- `create`: the file becomes open with an empty buffer -/
theorem binv_open {disk wt : φ} {B : ν → Option Data} (p : ν) (hI : BInv exec get disk B wt) (hp : B p = none) :
    BInv exec get disk (fun q => if q = p then some [] else B q) wt := by
  refine ⟨fun q hq => ?_, fun q x hq => ?_⟩
  · by_cases h : q = p
    · simp [h] at hq
    · simp only [h, ↓reduceIte] at hq; exact hI.1 q hq
  · by_cases h : q = p
    · subst h
      simp only [↓reduceIte, Option.some.injEq] at hq; subst hq
      rw [L.append_nil]; exact hI.1 q hp
    · simp only [h, ↓reduceIte] at hq; exact hI.2 q x hq

/-- `append` to an open file: only the buffer grows -/
theorem binv_write {disk wt : φ} {B : ν → Option Data} (p : ν) (x b : Data) (hI : BInv exec get disk B wt) (hp : B p = some x) :
    BInv exec get disk (fun q => if q = p then some (x ++ b) else B q) (exec wt (.append p b)) := by
  refine ⟨fun q hq => ?_, fun q y hq => ?_⟩
  · by_cases h : q = p
    · simp [h] at hq
    · simp only [h, ↓reduceIte] at hq
      rw [L.untouched wt _ q (by simpa [Step.names] using h)]; exact hI.1 q hq
  · by_cases h : q = p
    · subst h
      simp only [↓reduceIte, Option.some.injEq] at hq; subst hq
      rw [← L.append_append]
      exact L.cong _ _ (.append q b) (fun r hr => by
        simp only [Step.names, List.mem_singleton] at hr; subst hr; exact hI.2 r x hp) q (by simp [Step.names])
    · simp only [h, ↓reduceIte] at hq
      rw [L.untouched wt _ q (by simpa [Step.names] using h)]; exact hI.2 q y hq

/-- writing a buffer out -/
theorem binv_flush {disk wt : φ} {B : ν → Option Data} (p : ν) (x : Data) (hI : BInv exec get disk B wt) (hp : B p = some x) :
    BInv exec get (exec disk (.append p x)) (fun q => if q = p then none else B q) wt := by
  refine ⟨fun q hq => ?_, fun q y hq => ?_⟩
  · by_cases h : q = p
    · subst h; exact hI.2 q x hp
    · simp only [h, ↓reduceIte] at hq
      rw [L.untouched disk _ q (by simpa [Step.names] using h)]; exact hI.1 q hq
  · by_cases h : q = p
    · simp [h] at hq
    · simp only [h, ↓reduceIte] at hq
      rw [← hI.2 q y hq]
      exact L.cong _ _ (.append q y) (fun r hr => by
        simp only [Step.names, List.mem_singleton] at hr; subst hr
        exact L.untouched disk _ r (by simpa [Step.names] using h)) q (by simp [Step.names])

end generic

/-- the names with a buffer are the names `openStep` tracks -/
def Link (buf : List (ν × Data)) (o : List ν) : Prop := ∀ q, AL.get buf q = none ↔ q ∉ o

theorem Link.insert {buf : List (ν × Data)} {o : List ν} (h : Link buf o) (p : ν) (v : Data) :
    Link (AL.set buf p v) (p :: o.filter (· != p)) := by
  intro q
  rw [AL.get_set]
  by_cases hq : q = p
  · simp [hq]
  · simp [hq, h q]

theorem Link.remove {buf : List (ν × Data)} {o : List ν} (h : Link buf o) (p : ν) : Link (AL.erase buf p) (o.filter (· != p)) := by
  intro q
  rw [AL.get_erase]
  by_cases hq : q = p
  · simp [hq]
  · simp [hq, h q]

theorem Link.congr {buf buf' : List (ν × Data)} {o o' : List ν} (h : Link buf o)
    (hb : ∀ q, AL.get buf' q = none ↔ AL.get buf q = none) (ho : ∀ q, q ∈ o' ↔ q ∈ o) : Link buf' o' :=
  fun q => (hb q).trans ((h q).trans (not_congr (ho q).symm))

theorem link_step (exec : φ → Step ν → φ) (st : φ × List (ν × Data)) (o : List ν) (s : Step ν) (h : Link st.2 o) :
    Link (execBuf exec st s).2 (openStep o s) := by
  -- removing a name that has no buffer changes nothing
  have skip : ∀ p, AL.get st.2 p = none → Link st.2 (o.filter (· != p)) := fun p hp => h.congr (fun _ => Iff.rfl) fun q => by
    rw [List.mem_filter, bne_iff_ne]
    exact ⟨(·.1), fun hq => ⟨hq, fun e => (h q).1 (e ▸ hp) hq⟩⟩
  cases s with
  | mkdir p => exact h
  | create p => exact h.insert p []
  | unlink p => exact h.remove p
  | append p b =>
    simp only [execBuf, openStep]
    cases hp : AL.get st.2 p with
    | none => exact h
    | some x =>
      refine h.congr (fun q => ?_) fun _ => Iff.rfl
      rw [AL.get_set]
      split
      · next e => rw [beq_iff_eq.1 e, hp]; simp
      · rfl
  | close p =>
    simp only [execBuf, openStep]
    cases hp : AL.get st.2 p with
    | none => exact skip p hp
    | some x => exact h.remove p
  | rename a b =>
    simp only [execBuf, openStep]
    cases ha : AL.get st.2 a with
    | none =>
      rw [if_neg (by simpa using (h a).1 ha)]
      exact h.remove b
    | some x =>
      have hao : a ∈ o := Decidable.byContradiction fun hn => by rw [(h a).2 hn] at ha; cases ha
      rw [if_pos (by simpa using hao)]
      exact (h.remove a).insert b x

section generic
variable {exec : φ → Step ν → φ} {get : φ → ν → β} (L : FsLaws exec get)
include L

theorem binv_step (st : φ × List (ν × Data)) (wt : φ) (o : List ν) (s : Step ν) (hl : Link st.2 o)
    (hr : renamesOpen o s = false) (hd : disturbsOpen o s = false)
    (hI : BInv exec get st.1 (AL.get st.2) wt) :
    BInv exec get (execBuf exec st s).1 (AL.get (execBuf exec st s).2) (exec wt s) := by
  have hno : ∀ p, o.contains p = false → AL.get st.2 p = none := fun p hp => (hl p).2 (by simpa using hp)
  cases s with
  | mkdir p =>
    exact binv_quiet L _ (fun q hq => by
      simp only [Step.names, List.mem_singleton] at hq; subst hq; exact hno _ (by simpa [disturbsOpen] using hd)) hI
  | create p =>
    have hp : AL.get st.2 p = none := hno _ (by simpa [disturbsOpen] using hd)
    have h1 := binv_quiet L (.create p) (fun q hq => by
      simp only [Step.names, List.mem_singleton] at hq; subst hq; exact hp) hI
    refine binv_congr (fun q => ?_) (binv_open L p h1 hp)
    simp only [execBuf, AL.get_set, beq_iff_eq]
  | unlink p =>
    have hp : AL.get st.2 p = none := hno _ (by simpa [disturbsOpen] using hd)
    have h1 := binv_quiet L (.unlink p) (fun q hq => by
      simp only [Step.names, List.mem_singleton] at hq; subst hq; exact hp) hI
    refine binv_congr (fun q => ?_) h1
    simp only [execBuf, AL.get_erase, beq_iff_eq]
    split
    · rename_i h; subst h; exact hp.symm
    · rfl
  | append p b =>
    simp only [execBuf]
    cases hp : AL.get st.2 p with
    | none =>
      exact binv_quiet L _ (fun q hq => by
        simp only [Step.names, List.mem_singleton] at hq; subst hq; exact hp) hI
    | some x =>
      refine binv_congr (fun q => ?_) (binv_write L p x b hI hp)
      simp only [AL.get_set, beq_iff_eq]
  | close p =>
    simp only [execBuf]
    cases hp : AL.get st.2 p with
    | none =>
      exact binv_quiet L _ (fun q hq => by
        simp only [Step.names, List.mem_singleton] at hq; subst hq; exact hp) hI
    | some x =>
      have h1 := binv_flush L p x hI hp
      have h2 := binv_quiet L (.close p) (fun q hq => by
        simp only [Step.names, List.mem_singleton] at hq; subst hq; simp) h1
      refine binv_congr (fun q => ?_) h2
      simp only [AL.get_erase, beq_iff_eq]
  | rename a b =>
    have ha : AL.get st.2 a = none := hno _ (by simpa [renamesOpen] using hr)
    have hb : AL.get st.2 b = none := hno _ (by simpa [disturbsOpen] using hd)
    have h1 := binv_quiet L (.rename a b) (fun q hq => by
      simp only [Step.names, List.mem_cons, List.not_mem_nil, or_false] at hq
      rcases hq with rfl | rfl
      · exact ha
      · exact hb) hI
    refine binv_congr (fun q => ?_) h1
    simp only [execBuf, ha, AL.get_erase, beq_iff_eq]
    split
    · rename_i h; subst h; exact hb.symm
    · rfl

theorem binv_foldl (l : List (Step ν)) : ∀ (st : φ × List (ν × Data)) (wt : φ) (o : List ν), Link st.2 o →
    checkFrom renamesOpen o l = true → checkFrom disturbsOpen o l = true → BInv exec get st.1 (AL.get st.2) wt →
    BInv exec get (l.foldl (execBuf exec) st).1 (AL.get (l.foldl (execBuf exec) st).2) (l.foldl exec wt) ∧
      Link (l.foldl (execBuf exec) st).2 (l.foldl openStep o) := by
  induction l with
  | nil => intro st wt o hl _ _ hI; exact ⟨hI, hl⟩
  | cons s rest ih =>
    intro st wt o hl hr hd hI
    simp only [checkFrom, Bool.and_eq_true, Bool.not_eq_true'] at hr hd
    simp only [List.foldl_cons]
    exact ih _ _ _ (link_step exec st o s hl) hr.2 hd.2 (binv_step L st wt o s hl hr.1 hd.1 hI)

/-- what the kill writes out goes to open files only -/
theorem get_flushSome (keep : ν → Nat) (st : φ × List (ν × Data)) (p : ν) (hp : AL.get st.2 p = none) :
    get (flushSome exec keep st) p = get st.1 p := by
  have hall : ∀ e ∈ st.2, e.1 ≠ p := by
    intro e he heq
    simp only [AL.get, Option.map_eq_none_iff, List.find?_eq_none] at hp
    exact hp e he (by simp [heq])
  unfold flushSome
  generalize st.1 = fs
  generalize st.2 = l at hall
  induction l generalizing fs with
  | nil => rfl
  | cons e rest ih =>
    rw [List.foldl_cons, ih _ (fun e' he' => hall e' (List.mem_cons_of_mem _ he'))]
    exact L.untouched _ _ _ (by simpa [Step.names] using fun h => hall e (List.mem_cons_self ..) h.symm)

/-- a write-through crash that cuts the next write to nothing shows what the completed steps left -/
theorem get_crashAt_zero (n : Nat) (steps : List (Step ν)) (fs : φ) (p : ν) :
    get (crashAt exec n 0 steps fs) p = get ((steps.take n).foldl exec fs) p := by
  unfold crashAt
  split
  · rename_i q b _ _
    simp only [List.take_zero]
    by_cases h : p = q
    · subst h; exact L.append_nil _ _
    · exact L.untouched _ _ _ (by simpa [Step.names] using h)
  · rfl

end generic

theorem checkFrom_take (bad : List ν → Step ν → Bool) (l : List (Step ν)) (n : Nat) : ∀ o, checkFrom bad o l = true →
    checkFrom bad o (l.take n) = true := by
  induction l generalizing n with
  | nil => intro o h; simpa using h
  | cons s rest ih =>
    intro o h
    cases n with
    | zero => rfl
    | succ n =>
      simp only [checkFrom, Bool.and_eq_true, List.take_succ_cons] at h ⊢
      exact ⟨h.1, ih n _ h.2⟩

/-- **buffered writes read as write-through writes**: for a protocol that closes before it renames and does not
disturb open files, whatever suffixes of the unclosed files the kill after `n` steps loses, every name that is not
open at that point holds what the write-through crash at the same point leaves there -/
theorem buffered_reads_as_writethrough {exec : φ → Step ν → φ} {get : φ → ν → β} (L : FsLaws exec get)
    (steps : List (Step ν)) (hc : closedBeforeRename steps = true) (hu : openUndisturbed steps = true)
    (n : Nat) (keep : ν → Nat) (fs : φ) (p : ν) (hp : p ∉ openAt steps n) :
    get (crashBuf exec n keep steps fs) p = get (crashAt exec n 0 steps fs) p := by
  have h := binv_foldl L (steps.take n) (fs, []) fs [] (fun q => by simp [AL.get])
    (checkFrom_take _ _ n _ hc) (checkFrom_take _ _ n _ hu) ⟨fun _ _ => rfl, fun p x hx => by simp [AL.get] at hx⟩
  have hb : AL.get ((steps.take n).foldl (execBuf exec) (fs, [])).2 p = none := (h.2 p).2 hp
  rw [get_crashAt_zero L, crashBuf, get_flushSome L keep _ p hb]
  exact h.1.1 p hb

theorem mem_foldl_openStep (l : List (Step ν)) : ∀ (o : List ν), checkFrom renamesOpen o l = true → ∀ p, p ∈ l.foldl openStep o →
    p ∈ o ∨ Step.create p ∈ l := by
  induction l with
  | nil => intro o _ p hp; exact Or.inl hp
  | cons s rest ih =>
    intro o hc p hp
    simp only [checkFrom, Bool.and_eq_true, Bool.not_eq_true'] at hc
    rcases ih _ hc.2 p hp with h | h
    · cases s with
      | mkdir q => exact Or.inl h
      | append q b => exact Or.inl h
      | create q =>
        simp only [openStep, List.mem_cons, List.mem_filter] at h
        rcases h with rfl | h
        · exact Or.inr (List.mem_cons_self ..)
        · exact Or.inl h.1
      | close q => simp only [openStep, List.mem_filter] at h; exact Or.inl h.1
      | unlink q => simp only [openStep, List.mem_filter] at h; exact Or.inl h.1
      | rename a b =>
        have ha : o.contains a = false := by simpa [renamesOpen] using hc.1
        simp only [openStep, ha, Bool.false_eq_true, ↓reduceIte, List.mem_filter] at h
        exact Or.inl h.1
    · exact Or.inr (List.mem_cons_of_mem _ h)

/-- only files the protocol `create`s are ever open -/
theorem openAt_creates (steps : List (Step ν)) (hc : closedBeforeRename steps = true) (n : Nat) (p : ν)
    (hp : p ∈ openAt steps n) : Step.create p ∈ steps := by
  rcases mem_foldl_openStep (steps.take n) [] (checkFrom_take _ _ n _ hc) p hp with h | h
  · cases h
  · exact List.mem_of_mem_take h

/-! ### tidy protocols: built from quiet steps and writes through a temporary file -/

theorem checkFrom_append (bad : List ν → Step ν → Bool) (l1 l2 : List (Step ν)) : ∀ o,
    checkFrom bad o (l1 ++ l2) = (checkFrom bad o l1 && checkFrom bad (l1.foldl openStep o) l2) := by
  induction l1 with
  | nil => intro o; simp [checkFrom]
  | cons s rest ih => intro o; simp [checkFrom, ih, Bool.and_assoc]

/-- the protocol satisfies both checks, leaves nothing open, and creates only files in `T` (the temporaries) -/
structure Tidy (T : ν → Prop) (l : List (Step ν)) : Prop where
  cbr : closedBeforeRename l = true
  und : openUndisturbed l = true
  closed : l.foldl openStep [] = []
  creates : ∀ p, Step.create p ∈ l → T p

theorem Tidy.append {T : ν → Prop} {l1 l2 : List (Step ν)} (h1 : Tidy T l1) (h2 : Tidy T l2) : Tidy T (l1 ++ l2) where
  cbr := by
    have := h1.cbr; have := h2.cbr
    simp_all [closedBeforeRename, checkFrom_append, h1.closed]
  und := by
    have := h1.und; have := h2.und
    simp_all [openUndisturbed, checkFrom_append, h1.closed]
  closed := by rw [List.foldl_append, h1.closed, h2.closed]
  creates := fun p hp => by
    rcases List.mem_append.1 hp with h | h
    · exact h1.creates p h
    · exact h2.creates p h

def Step.isQuiet : Step ν → Bool
  | .mkdir _ => true
  | .unlink _ => true
  | _ => false

/-- `mkdir`s and `unlink`s while nothing is open -/
theorem Tidy.of_quiet {T : ν → Prop} (l : List (Step ν)) (h : ∀ s ∈ l, s.isQuiet = true) : Tidy T l := by
  induction l with
  | nil => exact ⟨rfl, rfl, rfl, nofun⟩
  | cons s rest ih =>
    refine Tidy.append (l1 := [s]) ?_ (ih fun s' hs' => h s' (List.mem_cons_of_mem _ hs'))
    have hs := h s (List.mem_cons_self ..)
    cases s <;> first | exact ⟨rfl, rfl, rfl, fun p hp => nomatch List.mem_singleton.1 hp⟩ | cases hs

theorem Tidy.writeFile {T : ν → Prop} (tmp target : ν) (b : Data) (ht : T tmp) :
    Tidy T (writeVia tmp target b) where
  cbr := by simp [writeVia, closedBeforeRename, checkFrom, renamesOpen, openStep]
  und := by simp [writeVia, openUndisturbed, checkFrom, disturbsOpen, openStep]
  closed := by simp [writeVia, openStep]
  creates := fun p hp => by
    simp only [writeVia, List.mem_cons, Step.create.injEq, reduceCtorEq, List.not_mem_nil, or_false] at hp
    subst hp; exact ht

theorem lawsC : FsLaws execC (fun (d : CDir) (p : FName) => AL.get d p) := specC.fsLaws

/-- the temporaries of the flat cache directory -/
def isTmpC : FName → Prop
  | .tmp _ => True
  | _ => False

theorem tidy_writeFileC (target : FName) (b : Data) : Tidy isTmpC (writeFileC target b) :=
  writeFileC_eq target b ▸ Tidy.writeFile tmpC target b trivial

theorem tidy_removeStepsC (c : FileCfg) (d : CDir) (k : Str) : Tidy isTmpC (removeStepsC c d k) := by
  apply Tidy.of_quiet
  intro s hs
  simp only [removeStepsC, List.mem_append, List.mem_map] at hs
  rcases hs with hs | ⟨e, _, rfl⟩
  · split at hs
    · simp only [List.mem_cons, List.not_mem_nil, or_false] at hs; subst hs; rfl
    · simp at hs
  · rfl

theorem tidy_storeMetaStepsC (c : FileCfg) (m : CMeta) : Tidy isTmpC (storeMetaStepsC c m) := tidy_writeFileC _ _

theorem tidy_storeStepsC (c : FileCfg) (d : CDir) (st : CState) : Tidy isTmpC (storeStepsC c d st) :=
  ((tidy_removeStepsC c d _).append (tidy_writeFileC _ _)).append (tidy_storeMetaStepsC c _)

theorem getC_buffered (steps : List (Step FName)) (ht : Tidy isTmpC steps) (n : Nat) (keep : FName → Nat) (d : CDir)
    (nm : FName) (hnm : ¬ isTmpC nm) :
    AL.get (crashBuf execC n keep steps d) nm = AL.get (crashAt execC n 0 steps d) nm :=
  buffered_reads_as_writethrough lawsC steps ht.cbr ht.und n keep d nm
    (fun h => hnm (ht.creates nm (openAt_creates steps ht.cbr n nm h)))

/-- **flat cache directory**: a fresh `FileCache` reads every key after the buffered crash as after the write-through crash -/
theorem readC_buffered (c : FileCfg) (steps : List (Step FName)) (ht : Tidy isTmpC steps) (n : Nat) (keep : FName → Nat)
    (d : CDir) (k : Str) :
    readC c (crashBuf execC n keep steps d) k = readC c (crashAt execC n 0 steps d) k :=
  readC_congr c _ _ k (getC_buffered steps ht n keep d _ (fun h => h)) (fun _ => getC_buffered steps ht n keep d _ (fun h => h))

theorem lawsT : FsLaws execT (fun (t : Tree) (p : SName) => AL.get t p) := specT.fsLaws

/-- the temporaries of the directory store -/
def isTmpT : SName → Prop
  | .tmp _ => True
  | _ => False

theorem tidy_writeFileT (dk : Key) (target : SName) (b : Data) : Tidy isTmpT (writeFileT dk target b) :=
  writeFileT_eq dk target b ▸ Tidy.writeFile (.tmp dk) target b trivial

theorem tidy_mkdirsT (t : Tree) (ns : List SName) : Tidy isTmpT (mkdirsT t ns) :=
  Tidy.of_quiet _ (fun s hs => by obtain ⟨n, _, rfl⟩ := mkdirsT_mem t ns s hs; rfl)

theorem tidy_unlinkIfPresent (t : Tree) (n : SName) : Tidy isTmpT (unlinkIfPresent t n) :=
  Tidy.of_quiet _ (fun s hs => by
    simp only [unlinkIfPresent] at hs
    split at hs
    · simp only [List.mem_cons, List.not_mem_nil, or_false] at hs; subst hs; rfl
    · simp at hs)

theorem tidy_storeStepsT (t : Tree) (k : Key) (b mb : Data) : Tidy isTmpT (storeStepsT t k b mb) :=
  ((((tidy_mkdirsT t _).append (tidy_unlinkIfPresent t _)).append (tidy_mkdirsT t _)).append (tidy_writeFileT _ _ _)).append
    (tidy_writeFileT _ _ _)

theorem tidy_storeMetaStepsT (t : Tree) (k : Key) (mb : Data) : Tidy isTmpT (storeMetaStepsT t k mb) :=
  (tidy_mkdirsT t _).append (tidy_writeFileT _ _ _)

theorem tidy_removeStepsT (t : Tree) (k : Key) : Tidy isTmpT (removeStepsT t k) :=
  (tidy_unlinkIfPresent t _).append (tidy_unlinkIfPresent t _)

theorem getT_buffered (steps : List (Step SName)) (ht : Tidy isTmpT steps) (n : Nat) (keep : SName → Nat) (t : Tree)
    (nm : SName) (hnm : ¬ isTmpT nm) :
    AL.get (crashBuf execT n keep steps t) nm = AL.get (crashAt execT n 0 steps t) nm :=
  buffered_reads_as_writethrough lawsT steps ht.cbr ht.und n keep t nm
    (fun h => hnm (ht.creates nm (openAt_creates steps ht.cbr n nm h)))

/-- **directory store**: the two files of every key after the buffered crash are those after the write-through crash -/
theorem pairT_buffered (steps : List (Step SName)) (ht : Tidy isTmpT steps) (n : Nat) (keep : SName → Nat) (t : Tree) (k : Key) :
    pairT (crashBuf execT n keep steps t) k = pairT (crashAt execT n 0 steps t) k := by
  simp only [pairT]
  rw [getT_buffered steps ht n keep t (.node k) (fun h => h), getT_buffered steps ht n keep t (.mfile k) (fun h => h)]

theorem readBytesT_buffered (steps : List (Step SName)) (ht : Tidy isTmpT steps) (n : Nat) (keep : SName → Nat) (t : Tree) (k : Key) :
    readBytesT (crashBuf execT n keep steps t) k = readBytesT (crashAt execT n 0 steps t) k := by
  rw [readBytesT_eq, readBytesT_eq, pairT_buffered steps ht]

theorem readMetaT_buffered (steps : List (Step SName)) (ht : Tidy isTmpT steps) (n : Nat) (keep : SName → Nat) (t : Tree) (k : Key) :
    readMetaT (crashBuf execT n keep steps t) k = readMetaT (crashAt execT n 0 steps t) k := by
  rw [readMetaT_eq, readMetaT_eq, pairT_buffered steps ht]

theorem readSC_buffered (deM : Data → Option CMeta) (deD : Str → Data → Option (Option Str))
    (steps : List (Step SName)) (ht : Tidy isTmpT steps) (n : Nat) (keep : SName → Nat) (t : Tree) (k : Key) :
    readSC deM deD (crashBuf execT n keep steps t) k = readSC deM deD (crashAt execT n 0 steps t) k := by
  rw [readSC_eq, readSC_eq, pairT_buffered steps ht]

end Crash
end Liquer
