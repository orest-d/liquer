/-
C10: the separation invariant of histories, and isolation.  `Sep s`: the world is well formed and the returned states, the
cache entries and the defaults own pairwise disjoint cells.  A caller operation writes at most one cell, of the state it
addresses (`caller_cases`); an evaluation writes no cell that existed (`Sep.eval_good`).  So `Sep` is preserved and no
operation changes what anything else means.
-/
import LiquerProofs.Lemmas.IsoFrame

namespace Liquer.Iso

structure Sep (s : Hist) : Prop where
  inv : Inv s.w
  retLt : ∀ i st, s.nth i = some st → ∀ a ∈ cellsState s.w.heap st, a < s.w.heap.next
  retSep : ∀ i j st st', i ≠ j → s.nth i = some st → s.nth j = some st' →
    Disj (cellsState s.w.heap st) (cellsState s.w.heap st')
  retCache : ∀ i st, s.nth i = some st → ∀ e ∈ s.w.cache, Disj (cellsState s.w.heap st) (cellsState s.w.heap e.2)
  retDflt : ∀ i st, s.nth i = some st → Disj (cellsState s.w.heap st) (cellsVars s.w.defaults)

def resOpt : Res → Option HState
  | .st st => some st
  | .fail => none

theorem step_eval (s : Hist) (q : List Act) :
    step s (.eval q) =
      { w := (evalChain (evalFuel q) { s.w with calls := [] } false q).1,
        returned := s.returned ++ [resOpt (evalChain (evalFuel q) { s.w with calls := [] } false q).2] } := by
  rw [step]
  generalize (evalChain (evalFuel q) { s.w with calls := [] } false q) = wr
  obtain ⟨w', r⟩ := wr
  cases r <;> rfl

def Op.target : Op → Option Nat
  | .eval _ => none
  | .mutData i _ => some i
  | .mutInner i _ => some i
  | .mutVar i _ _ => some i
  | .setVar i _ _ => some i
  | .setMeta i _ _ _ _ _ => some i
  | .scribble i => some i

theorem run_cons (s : Hist) (op : Op) (ops : List Op) : run s (op :: ops) = run (Liquer.Iso.step s op) ops := rfl

theorem run_append (s : Hist) (ops : List Op) (op : Op) : run s (ops ++ [op]) = Liquer.Iso.step (run s ops) op := by
  simp only [run, List.foldl_append, List.foldl_cons, List.foldl_nil]

/-- the write does not enlarge any variable dictionary's cells -/
def Tame (h : Heap) (a : Addr) (c : Cell) : Prop :=
  ∀ b, ∀ x ∈ cellsVars ((h.write a c).metaAt b).vars, x ∈ cellsVars (h.metaAt b).vars

theorem Tame.cells {h : Heap} {a : Addr} {c : Cell} (t : Tame h a c) (st : HState) :
    ∀ x ∈ cellsState (h.write a c) st, x ∈ cellsState h st :=
  fun x hx => mem_cellsState.2 ((mem_cellsState.1 hx).imp_right (Or.imp_right (t _ x)))

theorem Tame.val {h : Heap} {a : Addr} {x : Val} (hv : h.cells a = some (.val x)) (y : Val) : Tame h a (.val y) :=
  fun b _ hz => metaAt_overwrite_val hv y b ▸ hz

theorem Tame.md {h : Heap} {a : Addr} {m : MetaRec} (hs : ∀ x ∈ cellsVars m.vars, x ∈ cellsVars (h.metaAt a).vars) :
    Tame h a (.md m) := by
  intro b x hx
  by_cases e : b = a
  · rw [e, Heap.metaAt_write_same] at hx
    exact e ▸ hs x hx
  · rwa [Heap.metaAt_write_ne h _ e] at hx

/-- a caller operation does nothing or writes one cell of the state it addresses -/
theorem caller_cases (s : Hist) (op : Op) (i : Nat) (ht : op.target = some i) :
    step s op = s ∨ ∃ st a c, s.nth i = some st ∧ a ∈ cellsState s.w.heap st ∧ Tame s.w.heap a c ∧
      step s op = { s with w := { s.w with heap := s.w.heap.write a c } } := by
  have dataIn : ∀ {st : HState} {a l}, listAt s.w.heap st.data = some (a, l) → a ∈ cellsState s.w.heap st :=
    fun hl => data_mem_cellsState (mem_cellsHV.2 (listAt_some hl).1)
  revert ht
  -- the cases are numbered in the order of the alternatives of `step`, the do-nothing branches included
  fun_cases step s op <;> intro ht <;> cases ht
  case case2 _ st a _ hl hn =>        -- mutData
    exact Or.inr ⟨st, a, _, hn, dataIn hl, Tame.val (listAt_some hl).2 _, rfl⟩
  case case5 _ st a _ _ hl hn =>      -- mutInner
    exact Or.inr ⟨st, a, _, hn, dataIn hl, Tame.val (listAt_some hl).2 _, rfl⟩
  case case8 _ _ st a _ hl hn =>      -- mutVar
    exact Or.inr ⟨st, a, _, hn, vars_mem_cellsState (getVar_listAt hl).2.1, Tame.val (getVar_listAt hl).2.2 _, rfl⟩
  case case11 name v st m hn =>       -- setVar
    exact Or.inr ⟨st, st.md, .md { m with vars := setVar m.vars name (.imm v) }, hn, md_mem_cellsState _ _,
      Tame.md (fun x hx => (mem_cellsVars_setVar hx).resolve_right (fun h => nomatch h)), rfl⟩
  case case13 _ _ _ _ _ st _ m' hn => -- setMeta
    exact Or.inr ⟨st, st.md, .md m', hn, md_mem_cellsState _ _, Tame.md (fun x hx => hx), rfl⟩
  -- the others leave the history as it is
  all_goals exact Or.inl rfl

theorem Sep.write {s : Hist} {i : Nat} {st : HState} {a : Addr} {c : Cell} (sp : Sep s) (hn : s.nth i = some st)
    (ha : a ∈ cellsState s.w.heap st) (t : Tame s.w.heap a c) :
    Sep { s with w := { s.w with heap := s.w.heap.write a c } } := by
  have hm : HMod [a] s.w.heap (s.w.heap.write a c) := HMod.write (List.mem_singleton.2 rfl) (sp.retLt i st hn a ha) c
  have hcache : ∀ e ∈ s.w.cache, a ∉ cellsState s.w.heap e.2 := fun e he h => sp.retCache i st hn e he a ha h
  have ce : ∀ e ∈ s.w.cache, cellsState (s.w.heap.write a c) e.2 = cellsState s.w.heap e.2 :=
    fun e he => cellsState_write_notin (hcache e he)
  have sub := t.cells
  refine ⟨sp.inv.heap hm (fun e he x h1 h2 => hcache e he (List.mem_singleton.1 h2 ▸ h1)),
    fun j st' hn' x hx => sp.retLt j st' hn' x (sub st' x hx),
    fun j k st' st'' hjk hj hk x h1 h2 => sp.retSep j k st' st'' hjk hj hk x (sub st' x h1) (sub st'' x h2),
    fun j st' hn' e he x h1 h2 => sp.retCache j st' hn' e he x (sub st' x h1) (ce e he ▸ h2),
    fun j st' hn' x h1 h2 => sp.retDflt j st' hn' x (sub st' x h1) h2⟩

theorem nth_lt {s : Hist} {i : Nat} {st : HState} (h : s.nth i = some st) : i < s.returned.length := by
  apply Nat.lt_of_not_le
  intro hi
  rw [Hist.nth, List.getElem?_eq_none hi] at h
  cases h

theorem nth_append {s : Hist} {w' : World} {r : Option HState} {i : Nat} {st : HState}
    (h : ({ w := w', returned := s.returned ++ [r] } : Hist).nth i = some st) :
    s.nth i = some st ∨ (i = s.returned.length ∧ r = some st) := by
  rw [Hist.nth] at h
  rcases Nat.lt_or_ge i s.returned.length with hi | hi
  · rw [List.getElem?_append_left hi] at h
    exact Or.inl h
  · rcases Nat.eq_or_lt_of_le hi with e | hi
    · rw [← e, List.getElem?_concat_length] at h
      exact Or.inr ⟨e.symm, h⟩
    · rw [List.getElem?_eq_none (by rw [List.length_append]; exact hi)] at h
      cases h

theorem Sep.eval_good {s : Hist} (sp : Sep s) (q : List Act) :
    Good { s.w with calls := [] } (step s (.eval q)).w
      (optCells (step s (.eval q)).w.heap (resOpt (evalChain (evalFuel q) { s.w with calls := [] } false q).2)) := by
  rw [step_eval]
  have g := (eval_frame (evalFuel q)).1 { s.w with calls := [] } false q (sp.inv.calls [])
    (evalChain (evalFuel q) { s.w with calls := [] } false q).1 (evalChain (evalFuel q) { s.w with calls := [] } false q).2 rfl
  generalize (evalChain (evalFuel q) { s.w with calls := [] } false q).2 = r at g ⊢
  cases r <;> exact g

theorem Sep.eval {s : Hist} (sp : Sep s) (q : List Act) : Sep (step s (.eval q)) := by
  have g := sp.eval_good q
  have p := g.post
  rw [step_eval] at g p ⊢
  generalize (evalChain (evalFuel q) { s.w with calls := [] } false q) = wr at g p ⊢
  obtain ⟨w', r⟩ := wr
  -- a state of the new history: an old state with its old cells, below the old allocation pointer, or the new one
  have old_new : ∀ i st, ({ w := w', returned := s.returned ++ [resOpt r] } : Hist).nth i = some st →
      (s.nth i = some st ∧ cellsState w'.heap st = cellsState s.w.heap st ∧ ∀ a ∈ cellsState w'.heap st, a < s.w.heap.next) ∨
      (i = s.returned.length ∧ cellsState w'.heap st = optCells w'.heap (resOpt r)) := by
    intro i st hn
    rcases nth_append hn with h | ⟨h1, h2⟩
    · have e := p.cells_eq (sp.retLt i st h _ (md_mem_cellsState _ _))
      exact Or.inl ⟨h, e, fun a ha => sp.retLt i st h a (e ▸ ha)⟩
    · exact Or.inr ⟨h1, by rw [h2]; rfl⟩
  have new_rng := g.own.rng
  -- an entry of the new cache likewise
  have cache_cases : ∀ e ∈ w'.cache,
      (e ∈ s.w.cache ∧ cellsState w'.heap e.2 = cellsState s.w.heap e.2) ∨ ∀ a ∈ cellsState w'.heap e.2, s.w.heap.next ≤ a :=
    fun e he => (p.cache e he).imp_left (fun h => ⟨h.1, p.cells_eq (h.2 _ (md_mem_cellsState _ _))⟩)
  refine ⟨g.inv, fun i st hn a ha => ?_, fun i j st st' hij hi hj => ?_, fun i st hn e he => ?_, fun i st hn => ?_⟩
  · rcases old_new i st hn with ⟨-, -, h⟩ | ⟨-, h⟩
    · exact Nat.lt_of_lt_of_le (h a ha) p.mono
    · exact (new_rng a (h ▸ ha)).2
  · rcases old_new i st hi with ⟨hi', hc, lt⟩ | ⟨hi', hc⟩ <;> rcases old_new j st' hj with ⟨hj', hc', lt'⟩ | ⟨hj', hc'⟩
    · exact hc ▸ hc' ▸ sp.retSep i j st st' hij hi' hj'
    · exact hc' ▸ g.old_disj lt
    · exact hc ▸ (g.old_disj lt').symm
    · exact absurd (hi'.trans hj'.symm) hij
  · rcases old_new i st hn with ⟨hi', hc, lt⟩ | ⟨-, hc⟩
    · rcases cache_cases e he with ⟨he', hc'⟩ | hf'
      · exact hc ▸ hc' ▸ sp.retCache i st hi' e he'
      · exact Disj.of_lt_le lt hf'
    · exact hc ▸ (g.own.cache e he).symm
  · show Disj _ (cellsVars w'.defaults)
    rw [p.dflt]
    rcases old_new i st hn with ⟨hi', hc, -⟩ | ⟨-, hc⟩
    · exact hc ▸ sp.retDflt i st hi'
    · exact hc ▸ (g.old_disj sp.inv.dfltLt).symm

theorem Sep.step {s : Hist} (sp : Sep s) (op : Op) : Sep (step s op) := by
  cases ht : op.target with
  | none =>
    cases op with
    | eval q => exact sp.eval q
    | _ => cases ht
  | some i =>
    rcases caller_cases s op i ht with h | ⟨st, a, c, hn, ha, t, h⟩
    · rw [h]; exact sp
    · rw [h]; exact sp.write hn ha t

theorem Sep.run {s : Hist} (sp : Sep s) (ops : List Op) : Sep (run s ops) := by
  induction ops generalizing s with
  | nil => exact sp
  | cons op ops ih => exact ih (sp.step op)

theorem Sep.init {h0 : Heap} {d : List (Str × HV)} (b : Bool) (wf : h0.WF) (hd : ∀ a ∈ cellsVars d, a < h0.next) :
    Sep { w := { heap := h0, defaults := d, cacheOn := b } } :=
  ⟨⟨wf, fun _ h => (nomatch h), hd, List.Pairwise.nil, fun _ h => (nomatch h)⟩, fun _ _ h => (nomatch h),
   fun _ _ _ _ _ h => (nomatch h), fun _ _ h => (nomatch h), fun _ _ h => (nomatch h)⟩

section isolation

variable {s : Hist}

theorem caller_keeps (op : Op) (i : Nat) (ht : op.target = some i) :
    (step s op).returned = s.returned ∧ (step s op).w.cache = s.w.cache ∧ (step s op).w.defaults = s.w.defaults ∧
      (step s op).w.cacheOn = s.w.cacheOn ∧ (step s op).w.heap.next = s.w.heap.next := by
  rcases caller_cases s op i ht with h | ⟨st, a, c, -, -, -, h⟩ <;> rw [h] <;> exact ⟨rfl, rfl, rfl, rfl, rfl⟩

theorem caller_nth (op : Op) (i : Nat) (ht : op.target = some i) (j : Nat) : (step s op).nth j = s.nth j := by
  rw [Hist.nth, (caller_keeps (s := s) op i ht).1]; rfl

/-- a caller operation on the returned state `i` changes no other returned state, no cache entry, not the defaults -/
theorem caller_isolation (sp : Sep s) (op : Op) (i : Nat) (ht : op.target = some i) :
    (∀ j st, j ≠ i → s.nth j = some st → absState (step s op).w.heap st = absState s.w.heap st) ∧
    (∀ e ∈ s.w.cache, absState (step s op).w.heap e.2 = absState s.w.heap e.2) ∧
    absVars (step s op).w.heap s.w.defaults = absVars s.w.heap s.w.defaults := by
  rcases caller_cases s op i ht with h | ⟨st, a, c, hn, ha, -, h⟩
  · rw [h]; exact ⟨fun _ _ _ _ => rfl, fun _ _ => rfl, rfl⟩
  · rw [h]
    exact ⟨fun j st' hj hn' => absState_write_notin (fun h => sp.retSep i j st st' (Ne.symm hj) hn hn' a ha h) c,
      fun e he => absState_write_notin (fun h => sp.retCache i st hn e he a ha h) c,
      absVars_write_notin (fun h => sp.retDflt i st hn a ha h) c⟩

theorem eval_frame_cells (sp : Sep s) (q : List Act) :
    ∀ a, a < s.w.heap.next → (step s (.eval q)).w.heap.cells a = s.w.heap.cells a :=
  (sp.eval_good q).post.frame

theorem eval_keeps (sp : Sep s) (q : List Act) :
    (step s (.eval q)).w.defaults = s.w.defaults ∧ (step s (.eval q)).w.cacheOn = s.w.cacheOn ∧
      s.w.heap.next ≤ (step s (.eval q)).w.heap.next :=
  ⟨(sp.eval_good q).post.dflt, (sp.eval_good q).post.on, (sp.eval_good q).post.mono⟩

theorem eval_nth (q : List Act) {j : Nat} {st : HState} (hn : s.nth j = some st) : (step s (.eval q)).nth j = some st := by
  rw [step_eval, Hist.nth, List.getElem?_append_left (nth_lt hn)]
  exact hn

/-- an evaluation changes no previously returned state, no entry the cache had, not the defaults; the entries of the cache
afterwards are old entries or made of new cells -/
theorem eval_isolation (sp : Sep s) (q : List Act) :
    (∀ j st, s.nth j = some st → absState (step s (.eval q)).w.heap st = absState s.w.heap st) ∧
    (∀ e ∈ s.w.cache, absState (step s (.eval q)).w.heap e.2 = absState s.w.heap e.2) ∧
    (∀ e ∈ (step s (.eval q)).w.cache,
      e ∈ s.w.cache ∨ ∀ a ∈ cellsState (step s (.eval q)).w.heap e.2, s.w.heap.next ≤ a) ∧
    absVars (step s (.eval q)).w.heap s.w.defaults = absVars s.w.heap s.w.defaults := by
  have fr := eval_frame_cells sp q
  exact ⟨fun j st hn => absState_congr (fun a ha => fr a (sp.retLt j st hn a ha)),
    fun e he => absState_congr (fun a ha => fr a (sp.inv.cacheLt e he a ha)),
    fun e he => ((sp.eval_good q).post.cache e he).imp_left (·.1),
    absVars_congr (fun a ha => fr a (sp.inv.dfltLt a ha))⟩

theorem step_dflt (sp : Sep s) (op : Op) :
    (step s op).w.defaults = s.w.defaults ∧ absVars (step s op).w.heap s.w.defaults = absVars s.w.heap s.w.defaults := by
  cases ht : op.target with
  | none =>
    cases op with
    | eval q => exact ⟨(eval_keeps sp q).1, (eval_isolation sp q).2.2.2⟩
    | _ => cases ht
  | some i => exact ⟨(caller_keeps op i ht).2.2.1, (caller_isolation sp op i ht).2.2⟩

/-- the configured defaults never change, whatever commands and callers do -/
theorem run_dflt (sp : Sep s) (ops : List Op) :
    (run s ops).w.defaults = s.w.defaults ∧
      absVars (run s ops).w.heap (run s ops).w.defaults = absVars s.w.heap s.w.defaults := by
  induction ops generalizing s with
  | nil => exact ⟨rfl, rfl⟩
  | cons op ops ih =>
    obtain ⟨h1, h2⟩ := ih (sp.step op)
    obtain ⟨h3, h4⟩ := step_dflt sp op
    exact ⟨h1.trans h3, by rw [run_cons, h2, h3, h4]⟩

theorem step_returned (sp : Sep s) (op : Op) {j : Nat} {st : HState} (hn : s.nth j = some st) (ht : op.target ≠ some j) :
    (step s op).nth j = some st ∧ absState (step s op).w.heap st = absState s.w.heap st := by
  cases h : op.target with
  | none =>
    cases op with
    | eval q => exact ⟨eval_nth q hn, (eval_isolation sp q).1 j st hn⟩
    | _ => cases h
  | some i =>
    exact ⟨(caller_nth op i h j).trans hn, (caller_isolation sp op i h).1 j st (fun e => ht (e ▸ h)) hn⟩

/-- a returned state changes only by operations of the caller on that very state -/
theorem run_returned (sp : Sep s) (ops : List Op) {j : Nat} {st : HState} (hn : s.nth j = some st)
    (ht : ∀ op ∈ ops, op.target ≠ some j) :
    (run s ops).nth j = some st ∧ absState (run s ops).w.heap st = absState s.w.heap st := by
  induction ops generalizing s with
  | nil => exact ⟨hn, rfl⟩
  | cons op ops ih =>
    obtain ⟨h1, h2⟩ := step_returned sp op hn (ht op List.mem_cons_self)
    obtain ⟨h3, h4⟩ := ih (sp.step op) h1 (fun o ho => ht o (List.mem_cons_of_mem _ ho))
    exact ⟨h3, h4.trans h2⟩

end isolation

end Liquer.Iso
