/-
The evaluator of Eval.lean and the oracle evaluator of EvalO.lean are the same program, built from returns, cache writes, log
lines and look-ups by sequential composition (`Twin`, `twin`); only the oracle side tests after a look-up whether the answers
ran out (`guard`).  Facts that depend only on this build are proved by induction over `Twin`: ConcO2, ConcO4, ConcO6, EvalVia.
-/
import LiquerModel.Conc
import LiquerProofs.Lemmas.ConcO1

namespace Liquer

/-- `f` on a cache and `fO` on an oracle world are the same program with results in `α`; `u` is the result with which `fO`
gives up once the answers have run out (`hu`: what follows a part that gave up hands the starved world back). -/
inductive Twin : {α : Type} → α → (World → World × α) → (OW → OW × α) → Prop
  | ret {α : Type} (u o : α) : Twin u (fun w => (w, o)) (fun ow => (ow, o))
  /-- a write (`applyOp` on a write unfolds to `w.storeMeta k x` etc.); no error state is ever stored -/
  | emit {α : Type} {u : α} {f : World → World × α} {fO : OW → OW × α} (op : COp) (hk : ∀ k, op ≠ .get k)
      (he : ∀ st, op = .store st → st.isError = false) (h : Twin u f fO) :
      Twin u (fun w => f (applyOp (w, []) op).1) (fun ow => fO (ow.emit op))
  | log {α : Type} {u : α} {f : World → World × α} {fO : OW → OW × α} (c : Str) (h : Twin u f fO) :
      Twin u (fun w => f (w.log c)) (fun ow => fO (ow.log c))
  | ask (k : Str) : Twin none (fun w => (w, w.get k)) (fun ow => ow.ask k)
  | bind {α β : Type} {u : α} {u' : β} {f : World → World × α} {fO : OW → OW × α}
      (k : World × α → World × β) (kO : OW × α → OW × β) (h : Twin u f fO)
      (hk : ∀ a, Twin u' (fun w => k (w, a)) (fun ow => kO (ow, a)))
      (hu : ∀ ow, ow.starved = true → kO (ow, u) = (ow, u')) :
      Twin u' (fun w => k (f w)) (fun ow => kO (fO ow))
  /-- `if w.starved then (w, .unmodelled)` of `evalQO`, without counterpart in `evalQ`: why `bind` needs `hu` -/
  | guard {α : Type} {u : α} {f : World → World × α} {fO : OW → OW × α} (h : Twin u f fO) :
      Twin u f (fun ow => if ow.starved then (ow, u) else fO ow)

theorem Twin.congr {α : Type} {u : α} {f f' : World → World × α} {fO fO' : OW → OW × α} (hf : ∀ w, f w = f' w)
    (hO : ∀ ow, fO ow = fO' ow) (h : Twin u f' fO') : Twin u f fO := by
  rw [funext hf, funext hO]; exact h

/-- `g` and `gO` are the same writes and log lines: a program stays a `Twin` when they run first -/
structure Twin.Pre (g : World → World) (gO : OW → OW) : Prop where
  run : ∀ {α : Type} {u : α} {f : World → World × α} {fO : OW → OW × α}, Twin u f fO →
    Twin u (fun w => f (g w)) (fun ow => fO (gO ow))

namespace Twin.Pre

theorem id : Pre (fun w => w) (fun ow => ow) := ⟨fun h => h⟩

theorem comp {g1 g2 : World → World} {gO1 gO2 : OW → OW} (h1 : Pre g1 gO1) (h2 : Pre g2 gO2) :
    Pre (fun w => g2 (g1 w)) (fun ow => gO2 (gO1 ow)) := ⟨fun h => h1.run (h2.run h)⟩

theorem ret {g : World → World} {gO : OW → OW} (h : Pre g gO) {α : Type} (u o : α) :
    Twin u (fun w => (g w, o)) (fun ow => (gO ow, o)) := h.run (Twin.ret u o)

theorem storeMeta (k x : Str) : Pre (fun w => w.storeMeta k x) (fun ow => ow.storeMeta k x) :=
  ⟨fun h => Twin.emit (.storeMeta k x) (fun _ e => by cases e) (fun _ e => by cases e) h⟩

theorem remove (k : Str) : Pre (fun w => w.remove k) (fun ow => ow.remove k) :=
  ⟨fun h => Twin.emit (.remove k) (fun _ e => by cases e) (fun _ e => by cases e) h⟩

theorem store (st : EState) (he : st.isError = false) : Pre (fun w => w.store st) (fun ow => ow.store st) :=
  ⟨fun h => Twin.emit (.store st) (fun _ e => by cases e) (fun _ e => by cases e; exact he) h⟩

theorem log (c : Str) : Pre (fun w => w.log c) (fun ow => ow.log c) := ⟨fun h => Twin.log c h⟩

theorem metaIf (uc : Bool) (k x : Str) : Pre (fun w => w.metaIf uc k x) (fun ow => ow.metaIf uc k x) := by
  cases uc
  · exact id
  · exact storeMeta k x

theorem logCall (st : EState) (sig : CmdSig) (args : List Val) :
    Pre (fun w => w.logCall st sig args) (fun ow => ow.logCall st sig args) := by
  unfold World.logCall OW.logCall
  cases isLibraryCommand sig.name
  · exact log _
  · exact id

theorem subW (uc : Bool) (raw : Str) (o : Outcome) : Pre (fun w => subW uc raw o w) (fun ow => subWO uc raw o ow) := by
  cases o with
  | st sub => exact metaIf _ _ _
  | parseError => exact metaIf _ _ _
  | _ => exact id

theorem admitW (uc : Bool) (key : Str) (st3 : EState) :
    Pre (fun w => admitW uc key st3 w) (fun ow => admitWO uc key st3 ow) := by
  unfold Liquer.admitW admitWO
  cases uc
  · exact id
  · cases he : st3.isError
    · cases (st3.caching && !false && !st3.volatile)
      · exact remove _
      · exact store _ he
    · rw [Bool.not_true, Bool.and_false, Bool.false_and]
      exact storeMeta _ _

theorem fileW (uc : Bool) (key : Str) (st2 : EState) (he : st2.isError = false) :
    Pre (fun w => fileW uc key st2 w) (fun ow => fileWO uc key st2 ow) := by
  unfold Liquer.fileW fileWO
  cases uc
  · exact id
  · cases (st2.caching && !st2.volatile)
    · exact remove _
    · exact store _ he

end Twin.Pre

theorem Twin.askIf (c : Bool) (key : Str) :
    Twin none (fun w => (w, if c then w.get key else none)) (fun ow => ow.askIf c key) := by
  cases c
  · exact Twin.ret none none
  · exact Twin.ask key

/-- evaluator side of `consKO` … `lookKO` (ConcO1) -/
def consK (pv : PVal) (r : World × (List PVal ⊕ Outcome)) : World × (List PVal ⊕ Outcome) :=
  match r with
  | (w1, .inl rest) => (w1, .inl (pv :: rest))
  | other => other

def linkK (env : Env) (n : Nat) (pos : Nat) (ps : List Param) (raw parent : Str) (r : World × Outcome) :
    World × (List PVal ⊕ Outcome) :=
  match r with
  | (w1, .st v) =>
    if v.isError then (w1, .inr (.raised (some pos) (some raw)))
    else consK (.expanded v.data pos) (evalParams env n w1 ps raw parent)
  | (w1, .raised a b) => (w1, .inr (.raised a b))
  | (w1, .parseError) => (w1, .inr .parseError)
  | (w1, .unmodelled) => (w1, .inr .unmodelled)

def callK (env : Env) (n : Nat) (st : EState) (act : Action) (raw : Str) (sig : CmdSig) (extra : Extra) (uc : Bool)
    (r : World × (List PVal ⊕ Outcome)) : World × Outcome :=
  match r with
  | (w1, .inr o) => (w1, o)
  | (w1, .inl given) => evalCall env n w1 st act raw sig (applyExtra extra given) uc

def admitK (uc : Bool) (key : Str) (x : World × Outcome) : World × Outcome :=
  match x.2 with
  | .st st2 => (admitW uc key { st2 with query := key } x.1, .st { st2 with query := key })
  | other => (x.1, other)

def evalMiss (env : Env) (n : Nat) (w : World) (q : Query) (raw : Str) (extra : Extra) (input : Option Val) (uc : Bool) :
    World × Outcome :=
  if q.isRes then (w, .unmodelled) else
    evalAfter env n (evalPre env n w q raw input uc).1 (evalPre env n w q raw input uc).2 q.preParent q.preRem
      (q.encode Gen.escapeTable) raw extra uc

def lookK (env : Env) (n : Nat) (q : Query) (raw : Str) (extra : Extra) (input : Option Val) (uc : Bool)
    (a : World × Option EState) : World × Outcome :=
  match a.2 with
  | some st => (a.1, .st st)
  | none => evalMiss env n a.1 q raw extra input uc

structure TwinAt (env : Env) (n : Nat) : Prop where
  text : ∀ t ug, Twin .unmodelled (fun w => evalText env n w t ug) (fun ow => evalTextO env n ow t ug)
  q : ∀ q raw extra input uc,
    Twin .unmodelled (fun w => evalQ env n w q raw extra input uc) (fun ow => evalQO env n ow q raw extra input uc)
  act : ∀ st a raw parent extra uc, Twin .unmodelled (fun w => evalAction env n w st a raw parent extra uc)
    (fun ow => evalActionO env n ow st a raw parent extra uc)
  params : ∀ ps raw parent,
    Twin (.inr .unmodelled) (fun w => evalParams env n w ps raw parent) (fun ow => evalParamsO env n ow ps raw parent)

theorem call_twin {env : Env} {n : Nat} (ih : TwinAt env n) (st act raw sig x uc) :
    Twin .unmodelled (fun w => evalCall env n w st act raw sig x uc) (fun ow => evalCallO env n ow st act raw sig x uc) := by
  unfold evalCall evalCallO
  cases parseArgv sig.args x.1 x.2.1 with
  | unmodelled => exact Twin.ret _ _
  | fail => exact (Twin.Pre.metaIf uc raw (s "error")).ret _ _
  | ok args =>
    simp only []
    have hl := Twin.Pre.logCall st sig args
    cases cmdSem sig.ns sig.name st.data st.vars args with
    | unmodelled => exact hl.ret _ _
    | raises => exact (hl.comp (Twin.Pre.metaIf uc raw (s "error"))).ret _ _
    | subeval y qtext =>
      exact hl.run (Twin.bind (fun r => (subW uc raw r.2 r.1, subOutcome st act raw sig x.2.2 y r.2))
        (fun r => (subWO uc raw r.2 r.1, subOutcome st act raw sig x.2.2 y r.2)) (ih.text qtext true)
        (fun o => (Twin.Pre.subW uc raw o).ret _ (subOutcome st act raw sig x.2.2 y o)) (fun _ _ => rfl))
    | _ => exact (hl.comp (Twin.Pre.metaIf uc raw statusReady)).ret _ _

theorem link_twin {env : Env} {n : Nat} (ih : TwinAt env n) (lq : Query) (parent : Str) :
    Twin .unmodelled (fun w => evalLink env n w lq parent) (fun ow => evalLinkO env n ow lq parent) := by
  unfold evalLink evalLinkO
  cases (lq.absolute || parent.isEmpty || parent == ['/'])
  · simp only [Bool.false_eq_true, if_false]
    split
    · cases parse env.dec parent with
      | none => exact Twin.ret _ _
      | some pq => exact ih.text _ _
    · next hne =>
      refine Twin.congr (fO' := fun ow => (ow, .unmodelled)) (fun _ => rfl) (fun ow => ?_) (Twin.ret _ _)
      split
      · exact absurd rfl (hne _ _ _ _)
      · rfl
  · simp only [if_true]
    exact ih.q _ _ _ _ _

theorem params_twin_step {env : Env} {n : Nat} (ih : TwinAt env n) (ps : List Param) (raw parent : Str) :
    Twin (.inr .unmodelled) (fun w => evalParams env (n+1) w ps raw parent)
      (fun ow => evalParamsO env (n+1) ow ps raw parent) := by
  cases ps with
  | nil => exact Twin.ret _ _
  | cons p ps =>
    have hcons : ∀ pv x, Twin (.inr .unmodelled) (fun w => consK pv (w, x)) (fun ow => consKO pv (ow, x)) :=
      fun pv x => by cases x <;> exact Twin.ret _ _
    cases p with
    | str t pos =>
      -- `rfl`: the `match` of the EvalStep equation is `consK` (below: `linkK`, `lookK`) applied to the sub-result
      refine Twin.congr (fun w => (evalParams_str env n w t pos ps raw parent).trans rfl)
        (fun ow => evalParamsO_str env n ow t pos ps raw parent) ?_
      exact Twin.bind (consK (.text t pos)) (consKO (.text t pos)) (ih.params ps raw parent) (hcons _) (fun _ _ => rfl)
    | link lq pos =>
      refine Twin.congr (fun w => (evalParams_link env n w lq pos ps raw parent).trans rfl)
        (fun ow => evalParamsO_link env n ow lq pos ps raw parent) ?_
      refine Twin.bind (linkK env n pos ps raw parent) (linkKO env n pos ps raw parent) (link_twin ih lq parent)
        (fun o => ?_) (fun _ _ => rfl)
      cases o with
      | st v =>
        simp only [linkK, linkKO]
        cases v.isError
        · exact Twin.bind (consK (.expanded v.data pos)) (consKO (.expanded v.data pos)) (ih.params ps raw parent)
            (hcons _) (fun _ _ => rfl)
        · exact Twin.ret _ _
      | _ => exact Twin.ret _ _

theorem text_twin_step {env : Env} {n : Nat} (ih : TwinAt env n) (t : Str) (ug : Bool) :
    Twin .unmodelled (fun w => evalText env (n+1) w t ug) (fun ow => evalTextO env (n+1) ow t ug) := by
  refine Twin.congr (fun w => evalText_succ env n w t ug) (fun ow => evalTextO_succ env n ow t ug) ?_
  cases parse env.dec t with
  | none => exact Twin.ret _ _
  | some q => exact ih.q _ _ _ _ _

theorem act_twin_step {env : Env} {n : Nat} (ih : TwinAt env n) (st : EState) (a : Action) (raw parent : Str)
    (extra : Extra) (uc : Bool) :
    Twin .unmodelled (fun w => evalAction env (n+1) w st a raw parent extra uc)
      (fun ow => evalActionO env (n+1) ow st a raw parent extra uc) := by
  refine Twin.congr (fun w => evalAction_succ env n w st a raw parent extra uc)
    (fun ow => evalActionO_succ env n ow st a raw parent extra uc) ?_
  have h0 := Twin.Pre.metaIf uc raw (s "evaluation")
  cases namespacesOf st.vars with
  | none => exact h0.ret _ _
  | some nss =>
    simp only []
    cases (!(nss.getLast?.map env.reg.hasNs).getD false)
    · simp only [Bool.false_eq_true, if_false]
      cases resolve env.reg nss a.name with
      | none => exact (h0.comp (Twin.Pre.metaIf uc raw (s "error"))).ret _ _
      | some sig =>
        refine h0.run (Twin.bind (callK env n st a raw sig extra uc) (callKO env n st a raw sig extra uc)
          (ih.params a.params raw parent) (fun x => ?_) (fun _ _ => rfl))
        cases x with
        | inr o => exact Twin.ret _ _
        | inl given => exact call_twin ih _ _ _ _ _ _
    · simp only [if_true]
      exact h0.ret _ _

theorem post_twin {env : Env} {n : Nat} (ih : TwinAt env n) (st : EState) (hst : st.isError = false)
    (parent r key raw extra uc) :
    Twin .unmodelled (fun w => evalPost env n w st parent r key raw extra uc)
      (fun ow => evalPostO env n ow st parent r key raw extra uc) := by
  unfold evalPost evalPostO
  split
  · exact Twin.ret _ _
  · exact ((Twin.Pre.metaIf uc raw (s "evaluation")).comp (Twin.Pre.fileW uc key _ (by exact hst))).ret _ _
  · next hd a =>
    refine Twin.bind (admitK uc key) (admitKO uc key) (ih.act st a raw parent extra uc) (fun o => ?_) (fun _ _ => rfl)
    cases o with
    | st st2 => exact (Twin.Pre.admitW uc key _).ret _ _
    | _ => exact Twin.ret _ _
  · next h1 h2 =>
    refine Twin.congr (fO' := fun ow => (ow, .unmodelled)) (fun _ => rfl) (fun ow => ?_) (Twin.ret _ _)
    split
    · next heq => cases heq
    · next heq => cases heq; exact absurd rfl (h1 _ _)
    · next heq => cases heq; exact absurd rfl (h2 _ _)
    · rfl

theorem after_twin {env : Env} {n : Nat} (ih : TwinAt env n) (o parent r key raw extra uc) :
    Twin .unmodelled (fun w => evalAfter env n w o parent r key raw extra uc)
      (fun ow => evalAfterO env n ow o parent r key raw extra uc) := by
  unfold evalAfter evalAfterO
  cases o with
  | st st =>
    simp only []
    cases hst : st.isError
    · simp only [Bool.false_eq_true, if_false]
      exact post_twin ih st hst _ _ _ _ _ _
    · simp only [if_true]
      exact (Twin.Pre.metaIf uc raw (s "error")).ret _ _
  | _ => exact Twin.ret _ _

theorem pre_twin {env : Env} {n : Nat} (ih : TwinAt env n) (q raw input uc) :
    Twin .unmodelled (fun w => evalPre env n w q raw input uc) (fun ow => evalPreO env n ow q raw input uc) := by
  unfold evalPre evalPreO
  cases q.preQ with
  | none => exact Twin.ret _ _
  | some p => exact (Twin.Pre.metaIf uc raw (s "evaluating parent")).run (ih.q p (p.encode Gen.escapeTable) .none input uc)

theorem miss_twin {env : Env} {n : Nat} (ih : TwinAt env n) (q : Query) (raw : Str) (extra : Extra)
    (input : Option Val) (uc : Bool) :
    Twin .unmodelled (fun w => evalMiss env n w q raw extra input uc) (fun ow => evalMissO env n ow q raw extra input uc) := by
  unfold evalMiss evalMissO
  cases q.isRes
  · simp only [Bool.false_eq_true, if_false]
    exact Twin.bind (fun x => evalAfter env n x.1 x.2 q.preParent q.preRem (q.encode Gen.escapeTable) raw extra uc)
      (fun x => evalAfterO env n x.1 x.2 q.preParent q.preRem (q.encode Gen.escapeTable) raw extra uc)
      (pre_twin ih q raw input uc) (fun o => after_twin ih o _ _ _ _ _ _) (fun _ _ => rfl)
  · simp only [if_true]
    exact Twin.ret _ _

theorem q_twin_step {env : Env} {n : Nat} (ih : TwinAt env n) (q : Query) (raw : Str) (extra : Extra)
    (input : Option Val) (uc : Bool) :
    Twin .unmodelled (fun w => evalQ env (n+1) w q raw extra input uc) (fun ow => evalQO env (n+1) ow q raw extra input uc) := by
  refine Twin.congr (fun w => (evalQ_succ' env n w q raw extra input uc).trans rfl)
    (fun ow => evalQO_succ env n ow q raw extra input uc) ?_
  refine Twin.bind (lookK env n q raw extra input uc) (lookKO env n q raw extra input uc) (Twin.askIf _ _)
    (fun hit => Twin.guard ?_) (fun ow hs => if_pos hs)
  cases hit with
  | some st => exact Twin.ret _ _
  | none => exact miss_twin ih q raw extra input uc

theorem twinAt_zero (env : Env) : TwinAt env 0 where
  text := fun _ _ => Twin.ret _ _
  q := fun _ _ _ _ _ => Twin.ret _ _
  act := fun _ _ _ _ _ _ => Twin.ret _ _
  params := fun _ _ _ => Twin.ret _ _

theorem twin (env : Env) : ∀ n, TwinAt env n
  | 0 => twinAt_zero env
  | n + 1 =>
    have ih := twin env n
    { text := text_twin_step ih, q := q_twin_step ih, act := act_twin_step ih, params := params_twin_step ih }

end Liquer
