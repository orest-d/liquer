/-
Resource paths and resource segments; the follow conditions of segments.
-/
import LiquerProofs.Lemmas.ParseList

namespace Liquer
open PS

variable {dec : List UInt8 → List Char}

/-- `/a/b/c` -/
def slashed (ns : List Str) : Str := ns.flatMap (fun x => '/' :: x)

theorem slashed_cons (w : Str) (ws : List Str) : slashed (w :: ws) = '/' :: (w ++ slashed ws) := by
  simp [slashed]

theorem joinStr_cons (w : Str) (ws : List Str) : joinStr ['/'] (w :: ws) = w ++ slashed ws := by
  induction ws generalizing w with
  | nil => simp [joinStr, slashed]
  | cons v vs ih => simp only [joinStr, ih v]; simp [slashed]

/-- the text begins with a segment header (at whatever offset the parser state carries) -/
def HeaderStart (r : Str) : Prop := (∃ t, r = '-' :: t) ∧ ∀ p, notSegStart ⟨r, p⟩ = false

/-- what follows a segment: the end of the query (if the segment may be the last one; for a segment `s`
that is `adjacencyOK [s.kind]`), or `/` and the next segment, which has a header unless a header-less
segment may follow (`plainMayFollow s.kind`) -/
def Follow (mayPlain mayEnd : Bool) (rest : Str) : Prop :=
  (mayEnd = true ∧ qStop rest) ∨ ∃ r', rest = '/' :: r' ∧ (mayPlain = true ∨ HeaderStart r')

theorem Follow.dpStop {a b : Bool} {rest : Str} (h : Follow a b rest) : dpStop rest := by
  rcases h with ⟨_, h⟩ | ⟨r', rfl, _⟩
  · exact Or.inl h
  · exact Or.inr ⟨r', rfl⟩

/-- a text in front of which `resource_path` ends: it does not continue a name and does not begin
with `/` and a name -/
def ResStop (r : Str) : Prop :=
  (∀ it ∈ Gen.resourceNameRe, stopAt it.ranges r = true) ∧ ∀ t, r = '/' :: t → stopAt Inst.rnR1 t = true

theorem Follow.resStop {b : Bool} {rest : Str} (h : Follow false b rest) : ResStop rest := by
  refine ⟨stopAt_of_excl Inst.resourceName_stops h.dpStop.head, ?_⟩
  rintro t rfl
  rcases h with ⟨_, h | ⟨_, h⟩⟩ | ⟨r', h, hr⟩
  · cases h
  · cases h
  · rcases hr with hr | ⟨⟨t', rfl⟩, _⟩
    · cases hr
    · cases h
      exact stopAt_cons Inst.resourceName_first

theorem ResStop.slashed {rest : Str} (h : ResStop rest) (ns : List Str) :
    ∀ it ∈ Gen.resourceNameRe, stopAt it.ranges (slashed ns ++ rest) = true := by
  cases ns with
  | nil => exact h.1
  | cons y ys =>
    rw [slashed_cons]
    exact stopAt_of_excl Inst.resourceName_stops (HeadIn.cons (by simp))

theorem parseResPath_none {r : Str} {p : Nat} (hws : NoWs r) (h : stopAt Inst.rnR1 r = true) :
    parseResPath ⟨r, p⟩ = none := by
  simp only [parseResPath, Inst.resourceName_shape, re_fail_first hws h]

theorem resNamesMore_spec :
    ∀ (ns : List Str), ns.all (fullMatch Gen.resourceNameRe) = true →
      ∀ (rest : Str), ResStop rest → ∀ (p n : Nat), NoWs (slashed ns ++ rest) → ns.length ≤ n →
      ∃ p', parseResNamesMore n ⟨slashed ns ++ rest, p⟩ = (ns, ⟨rest, p'⟩)
  | [], _, rest, hf, p, n, hws, _ => by
    refine ⟨p, ?_⟩
    cases n with
    | zero => rfl
    | succ n =>
      simp only [slashed, List.flatMap_nil, List.nil_append] at hws ⊢
      by_cases hr : rest.head? = some '/'
      · obtain ⟨t, rfl⟩ := eq_cons_of_head? hr
        have : PS.re Gen.resourceNameRe ⟨t, p + 1⟩ = none := by
          rw [Inst.resourceName_shape]; exact re_fail_first hws.tail (hf.2 t rfl)
        simp [parseResNamesMore, lit_cons hws, this]
      · simp [parseResNamesMore, lit_ne_head hws hr]
  | x :: ns, hall, rest, hf, p, n, hws, hn => by
    simp only [List.all_cons, Bool.and_eq_true] at hall
    rw [slashed_cons] at hws ⊢
    simp only [List.cons_append, List.append_assoc] at hws ⊢
    cases n with
    | zero => cases hn
    | succ n =>
      have hre := re_append (p := p + 1) hall.1 (hf.slashed ns) hws.tail
      obtain ⟨p', hp'⟩ := resNamesMore_spec ns hall.2 rest hf (p + 1 + x.length) n hws.tail.right
        (Nat.le_of_succ_le_succ hn)
      refine ⟨p', ?_⟩
      simp only [parseResNamesMore, lit_cons hws, hre, hp']

theorem length_le_slashed : ∀ l : List Str, l.length ≤ (slashed l).length
  | [] => Nat.le_refl _
  | y :: ys => by
    rw [slashed_cons]
    simp only [List.length_cons, List.length_append]
    have := length_le_slashed ys
    omega

theorem resPath_spec (x : Str) (ns : List Str)
    (hall : (x :: ns).all (fullMatch Gen.resourceNameRe) = true)
    (rest : Str) (hf : ResStop rest) (p : Nat)
    (hws : NoWs (joinStr ['/'] (x :: ns) ++ rest)) :
    ∃ p', parseResPath ⟨joinStr ['/'] (x :: ns) ++ rest, p⟩ = some (x :: ns, ⟨rest, p'⟩) := by
  simp only [List.all_cons, Bool.and_eq_true] at hall
  rw [joinStr_cons, List.append_assoc] at hws ⊢
  have hre := re_append (p := p) hall.1 (hf.slashed ns) hws
  obtain ⟨p', hp'⟩ := resNamesMore_spec ns hall.2 rest hf (p + x.length) (slashed ns ++ rest).length
    hws.right (Nat.le_trans (length_le_slashed ns) (by simp))
  exact ⟨p', by simp only [parseResPath, hre, hp']⟩

/-- the part of a resource segment behind its header -/
def resTail (ns : List Str) : Str :=
  match ns with
  | [] => []
  | x :: ns => '/' :: joinStr ['/'] (x :: ns)

theorem dpStop_resTail (ns : List Str) {rest : Str} (h : dpStop rest) : dpStop (resTail ns ++ rest) := by
  cases ns with
  | nil => exact h
  | cons x xs => exact Or.inr ⟨_, rfl⟩

theorem fullMatch_resourceName_ne_nil {x : Str} (h : fullMatch Gen.resourceNameRe x = true) : x ≠ [] := by
  rw [Inst.resourceName_shape] at h
  obtain ⟨c, t, rfl, _⟩ := fullMatch_first h
  simp

theorem encode_resHeaded_eq {name : Str} {lvl : Nat} {ps : List Param} {ns : List Str}
    (hwf : wfSeg (.resource (some (.mk name lvl ps true)) ns) = true) :
    (Seg.resource (some (.mk name lvl ps true)) ns).encode T =
      List.replicate lvl '-' ++ ('R' :: name ++ (encodeDashParams T ps ++ resTail ns)) := by
  obtain ⟨_, hl, _, _, _, hns⟩ := wfSeg_resHeaded hwf
  rw [Seg.encode_resHeaded]
  have hh : (Header.mk name lvl ps true).encode T =
      List.replicate lvl '-' ++ ('R' :: name ++ encodeDashParams T ps) := by simp [Header.encode]
  have hne : ((Header.mk name lvl ps true).encode T).isEmpty = false := by
    rw [hh]
    cases lvl with
    | zero => omega
    | succ k => simp [List.replicate_succ]
  cases ns with
  | nil => simp [joinStr, resTail, hh]
  | cons x ns =>
    simp only [List.all_cons, Bool.and_eq_true] at hns
    have hx := fullMatch_resourceName_ne_nil hns.1
    have : (joinStr ['/'] (x :: ns)).isEmpty = false := by
      rw [joinStr_cons]
      cases x with
      | nil => exact absurd rfl hx
      | cons c t => rfl
    rw [this, hne]
    simp [resTail, hh]

theorem resSeg_spec (hd : DecOK dec) {N : Nat} (ih : LinkIH dec N) (name : Str) (lvl : Nat)
    (ps : List Param) (res : Bool) (ns : List Str)
    (hwf : wfSeg (.resource (some (.mk name lvl ps res)) ns) = true)
    (rest : Str) (b : Bool) (hf : Follow false b rest) (p n : Nat)
    (hws : NoWs ((Seg.resource (some (.mk name lvl ps res)) ns).encode T ++ rest))
    (hn : Fuel 6 ((Seg.resource (some (.mk name lvl ps res)) ns).encode T).length n N) :
    ∃ s' p', parseResSegWithHeader dec n ⟨(Seg.resource (some (.mk name lvl ps res)) ns).encode T ++ rest, p⟩ =
        some (s', ⟨rest, p'⟩) ∧ s'.erase = (Seg.resource (some (.mk name lvl ps res)) ns).erase := by
  obtain ⟨rfl, hl, hname, hps, hrp, hns⟩ := wfSeg_resHeaded hwf
  rw [encode_resHeaded_eq hwf] at hws hn ⊢
  simp only [List.append_assoc, List.cons_append] at hws ⊢
  simp only [List.length_append, List.length_cons] at hn
  obtain ⟨n, rfl⟩ := hn.pos
  have hstop2 := dpStop_resTail ns hf.dpStop
  have hid := parseResIdent_ok (p := p) hl (resIdTail_of_nameOK hname)
    (pieceStop_dashParams ps hstop2) (by simpa using hws)
  simp only [List.cons_append] at hid
  obtain ⟨ps', p2, hps', hpe⟩ := dashParams_spec hd ih true ps hps (fun _ => hrp)
    (resTail ns ++ rest) hstop2 (p + (List.replicate lvl '-' ++ 'R' :: name).length) n
    hws.right.tail.right
    (hn.sub (by omega) (by decide))
  have hw := hws.right.tail.right.right
  cases ns with
  | nil =>
    simp only [resTail, List.nil_append] at hps' hw hid ⊢
    refine ⟨.resource (some (.mk name lvl ps' true)) [], p2, ?_, by simp [Seg.erase, Header.erase, hpe]⟩
    by_cases hr : rest.head? = some '/'
    · obtain ⟨t, rfl⟩ := eq_cons_of_head? hr
      simp only [parseResSegWithHeader, hid, hps', lit_cons hw,
        parseResPath_none hw.tail (hf.resStop.2 t rfl)]
    · simp only [parseResSegWithHeader, hid, hps', lit_ne_head hw hr]
  | cons x xs =>
    simp only [resTail, List.cons_append] at hps' hw hid ⊢
    obtain ⟨p3, hp3⟩ := resPath_spec x xs hns rest hf.resStop (p2 + 1) hw.tail
    refine ⟨.resource (some (.mk name lvl ps' true)) (x :: xs), p3, ?_,
      by simp [Seg.erase, Header.erase, hpe]⟩
    simp only [parseResSegWithHeader, hid, hps', lit_cons hw, hp3]

end Liquer
