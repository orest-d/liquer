/-
C03 helper lemmas: URL-path safety of `encodeToken`, and `split` / `join` of the list-of-lists form.
-/
import LiquerProofs.Lemmas.Token
import LiquerProofs.Lemmas.TokenDefs

namespace Liquer

theorem sepCovered_spec {tbl : EscTable} (hs : sepCovered tbl = true) {a : Char}
    (ha : a = '/' ∨ a = '-' ∨ a = ' ') :
    (∃ r ∈ tbl, r.1 = [a]) ∧ ∀ r ∈ tbl, a ∉ r.2 := by
  have := List.all_eq_true.mp hs a (by simpa using ha)
  simpa only [Bool.and_eq_true, List.any_eq_true, beq_iff_eq, List.all_eq_true, Bool.not_eq_true',
    List.contains_eq_mem, decide_eq_false_iff_not] using this

/-- a character that no code contains is gone after the stage whose pattern it is, and stays away -/
theorem not_mem_fold (a : Char) : ∀ (tbl : EscTable), (∀ r ∈ tbl, a ∉ r.2) →
    ∀ s : List Char, (a ∉ s ∨ ∃ r ∈ tbl, r.1 = [a]) →
      a ∉ tbl.foldl (fun t pe => replaceAll pe.1 pe.2 t) s := by
  intro tbl
  induction tbl with
  | nil => exact fun _ s h => h.elim id fun ⟨_, hr, _⟩ => nomatch hr
  | cons pe tbl ih =>
    intro hc s h
    have hpe := hc pe List.mem_cons_self
    refine ih (fun r hr => hc r (List.mem_cons_of_mem _ hr)) _ ?_
    rcases h with h | ⟨r, hr, hra⟩
    · exact Or.inl fun hm => (mem_replaceAll hm).elim h hpe
    · rcases List.mem_cons.mp hr with rfl | hr
      · left
        show a ∉ replaceAll r.1 r.2 s
        rw [hra, replaceAll_single, List.mem_flatMap]
        rintro ⟨c, _, hm⟩
        split at hm
        · exact hpe hm
        · next hca => exact hca (List.mem_singleton.mp hm).symm
      · exact Or.inr ⟨r, hr, hra⟩

theorem sep_not_mem_applyTable {tbl : EscTable} (hs : sepCovered tbl = true) {a : Char}
    (ha : a = '/' ∨ a = '-' ∨ a = ' ') (s : List Char) : a ∉ applyTable tbl s :=
  have ⟨h1, h2⟩ := sepCovered_spec hs ha
  not_mem_fold a tbl h2 s (Or.inr h1)

theorem tokSafe_iff (c : Char) : tokSafe c = true ↔
    ((65 ≤ c.toNat ∧ c.toNat ≤ 90) ∨ (97 ≤ c.toNat ∧ c.toNat ≤ 122) ∨
      (48 ≤ c.toNat ∧ c.toNat ≤ 57) ∨
      c.toNat = 95 ∨ c.toNat = 46 ∨ c.toNat = 126 ∨ c.toNat = 37) := by
  simp only [tokSafe, Bool.or_eq_true, Bool.and_eq_true, decide_eq_true_eq, beq_iff_eq,
    char_le_iff, char_eq_iff, or_assoc]
  exact Iff.rfl

theorem tokSafe_of_quoteSafe {c : Char} (h : quoteSafe c = true) (h1 : c ≠ '/') (h2 : c ≠ '-') :
    tokSafe c = true := by
  rw [quoteSafe, beq_false_of_ne h1, beq_false_of_ne h2, Bool.or_false, Bool.or_false] at h
  rw [tokSafe, h]; rfl

theorem tokSafe_hexDigitUpper {n : Nat} (h : n < 16) : tokSafe (hexDigitUpper n) = true :=
  tokSafe_of_quoteSafe (hexDigitUpper_quoteSafe h) (hexDigitUpper_ne h rfl) (hexDigitUpper_ne h rfl)

theorem tokSafe_of_mem_applyTable {tbl : EscTable} (hs : sepCovered tbl = true) {s : List Char}
    {c : Char} (hc : c ∈ applyTable tbl s) (hq : quoteSafe c = true) : tokSafe c = true := by
  apply tokSafe_of_quoteSafe hq
  · rintro rfl; exact sep_not_mem_applyTable hs (Or.inl rfl) s hc
  · rintro rfl; exact sep_not_mem_applyTable hs (Or.inr (Or.inl rfl)) s hc

theorem encodeToken_safe' (tbl : EscTable) (hs : sepCovered tbl = true) (s : List Char) :
    ∀ c ∈ encodeToken tbl s, tokSafe c = true := by
  intro c hc
  rw [encodeToken_eq_quote] at hc
  rcases mem_quote hc with ⟨h1, h2⟩ | rfl | ⟨n, hn, rfl⟩
  · exact tokSafe_of_mem_applyTable hs h1 h2
  · rfl
  · exact tokSafe_hexDigitUpper hn

theorem splitOnChar_noSep (sep : Char) (w : List Char) (h : sep ∉ w) :
    splitOnChar sep w = [w] := by
  induction w with
  | nil => rfl
  | cons c w ih =>
    rw [splitOnChar, beq_false_of_ne (List.ne_of_not_mem_cons h).symm,
      ih (List.not_mem_of_not_mem_cons h)]
    rfl

theorem splitOnChar_append (sep : Char) (w rest : List Char) (h : sep ∉ w) :
    splitOnChar sep (w ++ sep :: rest) = w :: splitOnChar sep rest := by
  induction w with
  | nil => rw [List.nil_append, splitOnChar, beq_self_eq_true]; rfl
  | cons c w ih =>
    rw [List.cons_append, splitOnChar, beq_false_of_ne (List.ne_of_not_mem_cons h).symm,
      ih (List.not_mem_of_not_mem_cons h)]
    rfl

theorem splitOnChar_joinWith (sep : Char) : ∀ (ws : List (List Char)), ws ≠ [] →
    (∀ w ∈ ws, sep ∉ w) → splitOnChar sep (joinWith sep ws) = ws
  | [w], _, h => splitOnChar_noSep sep w (h w List.mem_cons_self)
  | w :: w' :: ws, _, h => by
    show splitOnChar sep (w ++ sep :: joinWith sep (w' :: ws)) = _
    rw [splitOnChar_append sep w _ (h w List.mem_cons_self),
      splitOnChar_joinWith sep (w' :: ws) (List.cons_ne_nil _ _)
        (fun v hv => h v (List.mem_cons_of_mem _ hv))]

theorem mem_joinWith {sep c : Char} : ∀ {ws : List (List Char)}, c ∈ joinWith sep ws →
    c = sep ∨ ∃ w ∈ ws, c ∈ w
  | [w], h => Or.inr ⟨w, List.mem_cons_self, h⟩
  | w :: w' :: ws, h => by
    replace h : c ∈ w ++ sep :: joinWith sep (w' :: ws) := h
    rw [List.mem_append, List.mem_cons] at h
    rcases h with h | h | h
    · exact Or.inr ⟨w, List.mem_cons_self, h⟩
    · exact Or.inl h
    · exact (mem_joinWith h).imp_right fun ⟨v, hv, hc⟩ => ⟨v, List.mem_cons_of_mem _ hv, hc⟩

theorem map_split_join (sep : Char) {α} (f : α → List Char) (g : List Char → α) (xs : List α)
    (hne : xs ≠ []) (h : ∀ x ∈ xs, sep ∉ f x ∧ g (f x) = x) :
    (splitOnChar sep (joinWith sep (xs.map f))).map g = xs := by
  rw [splitOnChar_joinWith sep _ (by simpa using hne)
    (fun w hw => by obtain ⟨x, hx, rfl⟩ := List.mem_map.mp hw; exact (h x hx).1), List.map_map]
  exact (List.map_congr_left fun x hx => (h x hx).2).trans (List.map_id _)

end Liquer
