/-
One-level facts about the cache traffic of `evalQ`: a hit returns the entry and touches nothing; after a
cacheable evaluation the key is present; a failed / volatile / cache-disabled last step leaves no data under the key.
-/
import LiquerProofs.Lemmas.EvalFrame

namespace Liquer

theorem evalQ_hit (env : Env) (n : Nat) (w : World) (q : Query) (raw : Str) (extra : Extra) (input : Option Val)
    (st : EState) (h : w.get (q.encode Gen.escapeTable) = some st) (he : extra.isEmpty = true) (hi : input = none) :
    evalQ env (n+1) w q raw extra input true = (w, .st st) := by
  subst hi
  rw [evalQ_succ']
  simp [h, he]

theorem Query.hasStep_preRem {q : Query} (h : q.hasStep = true) : ∃ r, q.preRem = some r ∧ q.isRes = false := by
  unfold Query.hasStep at h
  split at h
  · next p r hp => exact ⟨r, by simp [Query.preRem, hp], Query.predecessor_not_isRes hp⟩
  · simp at h

theorem evalPre_enabled (env : Env) (n : Nat) (w : World) (q raw input uc) :
    (evalPre env n w q raw input uc).1.enabled = w.enabled := by
  unfold evalPre
  split
  · rfl
  · rw [((frame env n).q _ _ _ _ _ _).1]; simp

/-- where an evaluation on the global cache that is not served from it and returns a state leaves the result: the
predecessor failed and the error is filed under the as-typed text; or there is no step; or the admission test of a
file name (`fileW`) or of an action (`admitW`) decides.  `X` is the world just before that last cache operation. -/
theorem evalQ_filed (env : Env) (n : Nat) (w w' : World) (q : Query) (raw : Str) (extra : Extra) (input : Option Val)
    (st : EState)
    (hmiss : (if (extra.isEmpty && input.isNone && true) = true then w.get (q.encode Gen.escapeTable) else none) = none)
    (h : evalQ env (n+1) w q raw extra input true = (w', .st st)) :
    ∃ X : World, X.enabled = w.enabled ∧ st.query = q.encode Gen.escapeTable ∧
      (st.isError = true ∧ w' = X.storeMeta raw (s "error") ∨
       st.isError = false ∧ q.preRem = none ∧ w' = X ∨
       st.isError = false ∧ w' = fileW true (q.encode Gen.escapeTable) st X ∨
       w' = admitW true (q.encode Gen.escapeTable) st X) := by
  rw [evalQ_succ', hmiss] at h
  dsimp only at h
  split at h
  · nomatch h
  have hen1 := evalPre_enabled env n w q raw input true
  generalize evalPre env n w q raw input true = x at h hen1
  obtain ⟨w1, o⟩ := x
  dsimp only at h hen1
  unfold evalAfter at h
  cases o with
  | st st0 =>
    dsimp only at h
    split at h
    · cases h
      exact ⟨_, hen1, rfl, .inl ⟨by assumption, rfl⟩⟩
    next hs0 =>
    unfold evalPost at h
    split at h
    · next hr => cases h; exact ⟨_, hen1, rfl, .inr (.inl ⟨Bool.eq_false_iff.mpr hs0, hr, rfl⟩)⟩
    · cases h
      exact ⟨_, by simpa using hen1, rfl, .inr (.inr (.inl ⟨Bool.eq_false_iff.mpr hs0, rfl⟩))⟩
    · next a _ =>
      have hen2 := ((frame env n).act w1 st0 a raw q.preParent extra true).1
      split at h
      · cases h; exact ⟨_, hen2.trans hen1, rfl, .inr (.inr (.inr rfl))⟩
      · next hne => exact absurd (congrArg Prod.snd h) (hne st)
    · nomatch h
  | _ => nomatch h

/-- C09, "present after": a cacheable result reached through an action or a file name is in the cache afterwards
(as returned, or with status `ready` when it was just stored) -/
theorem present_after (env : Env) (n : Nat) (w w' : World) (q : Query) (raw : Str) (st : EState)
    (hen : w.enabled = true)
    (h : evalQ env (n+1) w q raw .none none true = (w', .st st))
    (hc : st.caching = true) (he : st.isError = false) (hv : st.volatile = false) (hstep : q.hasStep = true) :
    w'.get (q.encode Gen.escapeTable) = some st ∨
      w'.get (q.encode Gen.escapeTable) = some { st with status := statusReady } := by
  cases hg : w.get (q.encode Gen.escapeTable) with
  | some st0 =>
    rw [evalQ_hit env n w q raw .none none st0 hg rfl rfl] at h
    cases h
    exact .inl hg
  | none =>
    obtain ⟨r, hrem, _⟩ := Query.hasStep_preRem hstep
    obtain ⟨X, henX, hq, ⟨hn, _⟩ | ⟨_, hn, _⟩ | ⟨_, rfl⟩ | rfl⟩ := evalQ_filed env n w w' q raw .none none st (by simp [hg]) h
    · cases he.symm.trans hn
    · cases hrem.symm.trans hn
    · rw [show fileW true _ st X = X.store st by simp [fileW, hc, hv], ← hq]
      exact .inr (World.get_store_self _ (henX.trans hen) _)
    · rw [show admitW true _ st X = X.store st by simp [admitW, hc, hv, he], ← hq]
      exact .inr (World.get_store_self _ (henX.trans hen) _)

/-- C09, "second run silent": immediately re-evaluating returns the cached state and changes nothing — in
particular no command is executed -/
theorem second_run_silent (env : Env) (n : Nat) (w w' : World) (q : Query) (raw : Str) (st : EState)
    (hen : w.enabled = true)
    (h : evalQ env (n+1) w q raw .none none true = (w', .st st))
    (hc : st.caching = true) (he : st.isError = false) (hv : st.volatile = false) (hstep : q.hasStep = true) :
    ∃ s, s.core = st.core ∧ w'.get (q.encode Gen.escapeTable) = some s ∧
      ∀ m raw', evalQ env (m+1) w' q raw' .none none true = (w', .st s) := by
  rcases present_after env n w w' q raw st hen h hc he hv hstep with hg | hg
  · exact ⟨st, rfl, hg, fun m raw' => evalQ_hit env m w' q raw' .none none st hg rfl rfl⟩
  · exact ⟨{ st with status := statusReady }, rfl, hg, fun m raw' => evalQ_hit env m w' q raw' .none none _ hg rfl rfl⟩

/-- C05, "not admitted": when the last step of a (non-hit) evaluation ends failed, volatile or with caching
switched off, no data is retrievable under the key afterwards.  (A failure inherited from the predecessor only
rewrites the metadata under the as-typed text; hence the side condition for error states.) -/
theorem not_admitted (env : Env) (n : Nat) (w w' : World) (q : Query) (raw : Str) (extra : Extra) (input : Option Val)
    (st : EState) (hen : w.enabled = true)
    (hmiss : extra.isEmpty = false ∨ input.isNone = false ∨ w.get (q.encode Gen.escapeTable) = none)
    (h : evalQ env (n+1) w q raw extra input true = (w', .st st))
    (hstep : q.hasStep = true)
    (hraw : st.isError = true → raw = q.encode Gen.escapeTable)
    (hbad : st.isError = true ∨ st.volatile = true ∨ st.caching = false) :
    w'.get (q.encode Gen.escapeTable) = none := by
  obtain ⟨r, hrem, _⟩ := Query.hasStep_preRem hstep
  have hm : (if (extra.isEmpty && input.isNone && true) = true then w.get (q.encode Gen.escapeTable) else none) = none := by
    rcases hmiss with h1 | h1 | h1 <;> simp [h1]
  obtain ⟨X, henX, hq, ⟨he, rfl⟩ | ⟨_, hn, _⟩ | ⟨he, rfl⟩ | rfl⟩ := evalQ_filed env n w w' q raw extra input st hm h
  · rw [hraw he]
    exact World.get_storeMeta_self_of_ne _ (henX.trans hen) _ _ (by decide)
  · cases hrem.symm.trans hn
  · have : (st.caching && !st.volatile) = false := by
      rcases hbad with hb | hb | hb
      · cases he.symm.trans hb
      · simp [hb]
      · simp [hb]
    simp only [fileW, Bool.not_true, Bool.false_eq_true, if_false, this]
    exact World.get_remove_self _ _
  · have : (st.caching && !st.isError && !st.volatile) = false := by
      rcases hbad with hb | hb | hb <;> simp [hb]
    simp only [admitW, Bool.not_true, Bool.false_eq_true, if_false, this]
    split
    · exact World.get_storeMeta_self_of_ne _ (henX.trans hen) _ _ (by decide)
    · exact World.get_remove_self _ _

end Liquer
