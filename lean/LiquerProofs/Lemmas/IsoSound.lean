/-
C10: soundness of the cache with respect to the value-level meaning.  `EntryOK d P h e`: the entry `e` is ready and agrees
with the meaning (under defaults `d`) of a chain of the class `P` whose key it carries, which is non-volatile and cacheable.
`SoundW d P w`: every entry is `EntryOK`, the configured defaults abstract to `d` and have distinct names.  Every stage of
an evaluation step keeps `SoundW`.
-/
import LiquerProofs.Lemmas.IsoCmdSim
import LiquerProofs.Lemmas.IsoSep

namespace Liquer.Iso

/-- the class of chains is closed under predecessors and link arguments -/
structure Closed (P : List Act → Prop) : Prop where
  pre : ∀ acts, P acts → acts.dropLast.isEmpty = false → P acts.dropLast
  link : ∀ acts act q, P acts → acts.getLast? = some act → Arg.link q ∈ act.args → P q

/-- cache keys determine the meaning (what C02/C03 establish for the canonical text of real queries) -/
def KeyOK (d : List (Str × Val)) (P : List Act → Prop) : Prop :=
  ∀ a b acts acts', P acts → P acts' → keyOf a acts = keyOf b acts' → ∀ m, refChain d m acts = refChain d m acts'

/-- `getvar` and `cvapp` are never applied to a volatile state (a volatile state is not cloned before a command: the
variable's object that `getvar` hands out as data would be mutated by later steps of the same chain; the context's variable
that `cvapp` appends to is the variable of the very state the command returns) -/
def Safe (d : List (Str × Val)) (P : List Act → Prop) : Prop :=
  ∀ acts act, P acts → acts.getLast? = some act →
    (String.ofList act.name = "getvar" ∨ String.ofList act.name = "cvapp") →
    ∀ m r, predRef d m acts = some r → r.volatile = false

def EntryOK (d : List (Str × Val)) (P : List Act → Prop) (h : Heap) (e : Str × HState) : Prop :=
  ∃ absolute acts m r, P acts ∧ keyOf absolute acts = e.1 ∧ refChain d m acts = some r ∧ Agrees h e.2 r ∧
    r.volatile = false ∧ r.caching = true ∧ (h.metaAt e.2.md).status = statusReady

theorem EntryOK.congr {d : List (Str × Val)} {P : List Act → Prop} {h h' : Heap} {e : Str × HState} (ok : EntryOK d P h e)
    (eq : ∀ x ∈ cellsState h e.2, h'.cells x = h.cells x) : EntryOK d P h' e := by
  obtain ⟨absolute, acts, m, r, h1, h2, h3, h4, h5, h6, h7⟩ := ok
  exact ⟨absolute, acts, m, r, h1, h2, h3, h4.congr eq, h5, h6, Heap.metaAt_congr (eq _ (md_mem_cellsState _ _)) ▸ h7⟩

structure SoundW (d : List (Str × Val)) (P : List Act → Prop) (w : World) : Prop where
  entries : ∀ e ∈ w.cache, EntryOK d P w.heap e
  dflt : absVars w.heap w.defaults = d
  dkeys : (w.defaults.map Prod.fst).Nodup

section
variable {d : List (Str × Val)} {P : List Act → Prop}

theorem SoundW.calls {w : World} (s : SoundW d P w) (c : List Str) : SoundW d P { w with calls := c } :=
  ⟨s.entries, s.dflt, s.dkeys⟩

theorem SoundW.mod {w w' : World} {lo : Nat} {L : List Addr} (s : SoundW d P w) (i : Inv w) (o : Own w lo L)
    (m : Mod L w w') (hc : ∀ e ∈ w'.cache, e ∈ w.cache ∨ EntryOK d P w'.heap e) : SoundW d P w' := by
  refine ⟨fun e he => (hc e he).elim (fun h => ?_) id, ?_, m.dflt ▸ s.dkeys⟩
  · exact (s.entries e h).congr (fun x hx => m.frame x (i.cacheLt e h x hx) (fun hL => o.cache e h x hx hL))
  · rw [m.dflt, ← s.dflt]
    exact absVars_congr (fun x hx => m.frame x (i.dfltLt x hx)
      (fun hL => Nat.lt_irrefl x (Nat.lt_of_lt_of_le (o.dflt x hx) (o.rng x hL).1)))

theorem SoundW.stage {w w' : World} {lo : Nat} {L L' : List Addr} (s : SoundW d P w) (i : Inv w) (o : Own w lo L)
    (st : Stage lo w L w' L') (hc : ∀ e ∈ w'.cache, e ∈ w.cache) : SoundW d P w' :=
  s.mod i o st.mod (fun e he => Or.inl (hc e he))

theorem Agrees.freshState {h : Heap} {m : MetaRec} {vs : List (Str × HV)} {v : HV} {r : RState} (hd : absHV h v = r.data)
    (hv : absVars h vs = r.vars) (hvol : m.volatile = r.volatile) (hc : m.caching = r.caching)
    (hk : (vs.map Prod.fst).Nodup) (lv : ∀ a ∈ cellsVars vs, a < h.next) (ld : ∀ a ∈ cellsHV v, a < h.next) :
    Agrees (freshState h m vs v).1 (freshState h m vs v).2 r := by
  have hm := freshState_metaAt h m vs v
  obtain ⟨e1, e2⟩ := freshState_abs h m vs v lv ld
  exact ⟨e1.trans hd, by rw [hm]; exact e2.trans hv, by rw [hm]; exact hvol, by rw [hm]; exact hc,
    by rw [hm]; exact (copyVars_keys vs h).symm ▸ hk⟩

theorem Agrees.clone {h : Heap} {st : HState} {r : RState} (a : Agrees h st r) (lt : ∀ x ∈ cellsState h st, x < h.next) :
    Agrees (cloneState h st).1 (cloneState h st).2 r :=
  Agrees.freshState a.data a.vars a.volatile a.caching a.keys (fun x hx => lt x (vars_mem_cellsState hx))
    (fun x hx => lt x (data_mem_cellsState hx))

theorem initialState_agrees {w : World} (sw : SoundW d P w) (i : Inv w) :
    Agrees (initialState w).1.heap (initialState w).2 { vars := d } :=
  Agrees.freshState (m := {}) (v := .imm .none) (r := { vars := d }) rfl sw.dflt rfl rfl sw.dkeys i.dfltLt
    (fun _ h => nomatch h)

theorem Agrees.write_md {h : Heap} {st : HState} {r r' : RState} {m : MetaRec} (a : Agrees h st r)
    (nd : st.md ∉ cellsHV st.data ∧ st.md ∉ cellsVars (h.metaAt st.md).vars) (hv : m.vars = (h.metaAt st.md).vars)
    (e1 : r'.data = r.data) (e2 : r'.vars = r.vars) (e3 : m.volatile = r'.volatile) (e4 : m.caching = r'.caching) :
    Agrees (h.write st.md (.md m)) st r' := by
  have hm := Heap.metaAt_write_same h st.md m
  exact ⟨(absHV_write_notin nd.1 _).trans (a.data.trans e1.symm),
    by rw [hm, hv, absVars_write_notin nd.2, e2]; exact a.vars, by rw [hm]; exact e3, by rw [hm]; exact e4,
    by rw [hm, hv]; exact a.keys⟩

theorem lookup_sound {w w' : World} {k : Str} {r : Option HState} (sw : SoundW d P w) (i : Inv w)
    (h : lookup w k = (w', r)) : SoundW d P w' :=
  sw.stage i (Own.nil i) (lookup_stage h i (Own.nil i)) (fun _ he => lookup_cache h ▸ he)

theorem initRes_sound {w : World} {lo : Nat} {L : List Addr} (sw : SoundW d P w) (i : Inv w) (o : Own w lo L) :
    SoundW d P (initRes w).1 :=
  sw.stage i o (initRes_stage i o) (fun _ he => he)

theorem prep_sound {w : World} {lo : Nat} {pred : HState} (sw : SoundW d P w) (i : Inv w)
    (o : Own w lo (cellsState w.heap pred)) : SoundW d P (prep w pred).1 :=
  sw.stage i o (prep_stage i o) (fun _ he => prep_cache w pred ▸ he)

theorem prep_agrees {w : World} {pred : HState} {rp : RState} (ag : Agrees w.heap pred rp)
    (lt : ∀ x ∈ cellsState w.heap pred, x < w.heap.next) (nd : rp.volatile = true → (cellsState w.heap pred).Nodup) :
    Agrees (prep w pred).1.heap (prep w pred).2 rp ∧ (cellsState (prep w pred).1.heap (prep w pred).2).Nodup := by
  unfold prep
  split
  · next hv => exact ⟨ag, nd (ag.volatile ▸ hv)⟩
  · exact ⟨ag.clone lt, (cloneState_fresh _ _).nodup⟩

theorem store_sound {w : World} {lo : Nat} {k : Str} {st : HState} {r : RState} (sw : SoundW d P w) (i : Inv w)
    (o : Own w lo (cellsState w.heap st)) (ag : Agrees w.heap st r)
    (nd : st.md ∉ cellsHV st.data ∧ st.md ∉ cellsVars (w.heap.metaAt st.md).vars)
    (hk : ∃ absolute acts m, P acts ∧ keyOf absolute acts = k ∧ refChain d m acts = some r)
    (hvol : r.volatile = false) (hcch : r.caching = true) :
    SoundW d P (w.store k st) ∧ Agrees (w.store k st).heap st r := by
  have s := (store_stage (k := k) i o).1
  cases hon : w.cacheOn with
  | false =>
    rw [store_off hon]
    exact ⟨sw, ag⟩
  | true =>
    rw [store_eq hon] at s ⊢
    -- `h0`: the caller's state marked ready, before the clone is taken
    have ag0 := ag.write_md (m := { w.heap.metaAt st.md with status := statusReady }) nd rfl rfl rfl ag.volatile ag.caching
    have hc0 := cellsState_write_md (h := w.heap) (st := st) (m := { w.heap.metaAt st.md with status := statusReady }) rfl
    have hs0 := congrArg MetaRec.status (Heap.metaAt_write_same w.heap st.md { w.heap.metaAt st.md with status := statusReady })
    have hn0 : (w.heap.write st.md (.md { w.heap.metaAt st.md with status := statusReady })).next = w.heap.next := rfl
    generalize w.heap.write st.md (.md { w.heap.metaAt st.md with status := statusReady }) = h0 at s ag0 hc0 hs0 hn0 ⊢
    have lt0 : ∀ x ∈ cellsState h0 st, x < h0.next := fun x hx => hn0 ▸ (o.rng x (hc0 ▸ hx)).2
    refine ⟨sw.mod i o s.mod (fun e he => ?_), ag0.congr (fun x hx => (cloneState_fresh h0 st).ext.frame x (lt0 x hx))⟩
    rcases List.mem_cons.1 he with rfl | he
    · obtain ⟨absolute, acts, m, h1, h2, h3⟩ := hk
      exact Or.inr ⟨absolute, acts, m, r, h1, h2, h3, ag0.clone lt0, hvol, hcch,
        (congrArg MetaRec.status (freshState_metaAt h0 _ _ _)).trans hs0⟩
    · exact Or.inl (List.mem_filter.1 he).1

theorem admit_sound {w : World} {lo : Nat} {k : Str} {st : HState} {r : RState} {ok : Bool} (sw : SoundW d P w) (i : Inv w)
    (o : Own w lo (cellsState w.heap st)) (ag : Agrees w.heap st r)
    (nd : st.md ∉ cellsHV st.data ∧ st.md ∉ cellsVars (w.heap.metaAt st.md).vars)
    (hk : ∃ absolute acts m, P acts ∧ keyOf absolute acts = k ∧ refChain d m acts = some r)
    (hok : ok = true → r.volatile = false ∧ r.caching = true) :
    SoundW d P (admitTo w k st ok) ∧ Agrees (admitTo w k st ok).heap st r := by
  unfold admitTo
  split
  · next h => exact store_sound sw i o ag nd hk (hok h).1 (hok h).2
  · exact ⟨sw.stage i o (Stage.filter i o _) (fun e he => (List.mem_filter.1 he).1), ag⟩

/-- the command, the metadata update and the admission keep the cache sound and return a state that agrees with the command on
values.  `ag`, `nd`: the input state `old` agrees with `rp` and owns distinct cells; `dj`: which the arguments do not share;
`hctx`, `cj`: the context's variables mean `rp.vars` and, unless `rp` is volatile, are not cells of `old`; `hk`: the value-level
result is the meaning of a chain of the class with key `key`; `hsafe`: `getvar`/`cvapp` only after a non-volatile state -/
theorem finish_sound {key : Str} {pvol : Bool} {ctx : List (Str × HV)} {w3 : World} {old : HState} {name : Str}
    {args : List HV} {lo : Nat}
    {rp : RState} (sw : SoundW d P w3) (i : Inv w3) (o : Own w3 lo (cmdFoot w3.heap old ctx args))
    (ag : Agrees w3.heap old rp) (hpv : pvol = rp.volatile) (nd : (cellsState w3.heap old).Nodup)
    (dj : ∀ a ∈ cellsState w3.heap old, ∀ v ∈ args, a ∉ cellsHV v)
    (hctx : absVars w3.heap ctx = rp.vars)
    (cj : rp.volatile = false → ∀ a ∈ cellsVars ctx, a ∉ cellsState w3.heap old)
    (hk : ∀ r', cmdV rp (String.ofList name) (args.map (absHV w3.heap)) = some r' →
      ∃ absolute acts m, P acts ∧ keyOf absolute acts = key ∧ refChain d m acts = some r')
    (hsafe : String.ofList name = "getvar" ∨ String.ofList name = "cvapp" → rp.volatile = false) :
    SoundW d P (finish key pvol ctx w3 old name args).1 ∧
      ∀ st, (finish key pvol ctx w3 old name args).2 = .st st →
        ∃ r', cmdV rp (String.ofList name) (args.map (absHV w3.heap)) = some r' ∧
          Agrees (finish key pvol ctx w3 old name args).1.heap st r' ∧
          (r'.volatile = true → (cellsState (finish key pvol ctx w3 old name args).1.heap st).Nodup) := by
  unfold finish
  split
  · exact ⟨sw.calls _, fun st h => nomatch h⟩
  · next h4 data vol caching hc =>
    have s5 := cmd_stage (m' := resultMeta key pvol vol caching (h4.metaAt old.md))
      (i.calls (logCall w3 old name args).calls) (o.calls _) hc rfl
    have sw5 := (sw.calls _).stage (i.calls _) (o.calls _) s5 (fun e he => he)
    obtain ⟨r', hr', sim⟩ := cmdH_sim hc (fun a ha => (o.rng a (mem_cmdFoot.2 (Or.inl ha))).2) ag nd dj hctx
      (fun e => cj (hsafe (Or.inr e)))
    -- the state after the command agrees with the value-level result, once its metadata carries the new flags
    have ag4 : Agrees h4 ⟨data, old.md⟩ { r' with volatile := (h4.metaAt old.md).volatile, caching := (h4.metaAt old.md).caching } :=
      ⟨sim.hdata, sim.hvars, rfl, rfl, sim.keys⟩
    have ag5 : Agrees (h4.write old.md (.md (resultMeta key pvol vol caching (h4.metaAt old.md)))) ⟨data, old.md⟩ r' :=
      ag4.write_md (st := ⟨data, old.md⟩) sim.mdfree rfl rfl rfl (by rw [sim.hvol, hpv]; rfl)
        (by rw [sim.hcach, ← ag.caching, ← sim.mcach]; rfl)
    have free5 : old.md ∉ cellsHV data ∧ old.md ∉ cellsVars
        ((h4.write old.md (.md (resultMeta key pvol vol caching (h4.metaAt old.md)))).metaAt old.md).vars :=
      ⟨sim.mdfree.1, (Heap.metaAt_write_same _ _ _).symm ▸ sim.mdfree.2⟩
    obtain ⟨sw6, ag6⟩ := admit_sound (k := key) (ok := (h4.metaAt old.md).caching && caching && !(pvol || vol)) sw5 s5.inv
      s5.own ag5 free5 (hk r' hr') (fun hok => by
        rw [Bool.and_eq_true, Bool.not_eq_eq_eq_not, Bool.not_true] at hok
        exact ⟨sim.hvol.trans (hpv ▸ hok.2), by rw [sim.hcach, ← ag.caching, ← sim.mcach]; exact hok.1⟩)
    refine ⟨sw6, fun st hst => ?_⟩
    cases hst
    refine ⟨r', hr', ag6, fun hvt => ?_⟩
    -- a volatile result is not that of `getvar`: its cells are distinct
    have hne : String.ofList name ≠ "getvar" := fun e => by
      have h2 := cmdV_volatile hr' (e ▸ by decide)
      rw [hsafe (Or.inl e), hvt] at h2
      cases h2
    exact (congrArg List.Nodup
      ((admit_stage (k := key) (ok := (h4.metaAt old.md).caching && caching && !(pvol || vol)) s5.inv s5.own).2.trans
        (cellsState_write_md (st := ⟨data, old.md⟩) rfl))).mpr (sim.nodup hne)

end

end Liquer.Iso
