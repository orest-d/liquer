/-
Link-free, `sub`-free (`plain`) queries and actions.  On `NoCache` (`useCache = false`: injected input value,
`evaluate_on`) such an evaluation is exactly the reference interpretation and leaves the global cache literally
unchanged (`evalQ_plain_nocache`; the "never stored" half of C05: no entry gains a state, visible or hidden).
With a cache a plain action still returns the reference outcome and executes the reference calls (`act_plain`,
used for C09).  (Links and `sub` evaluate other queries through the global cache; what they add is covered by `Sound`.)
-/
import LiquerProofs.Lemmas.EvalRef

namespace Liquer

/-- no entry gains data -/
def Keeps (w w' : World) : Prop := ∀ k s, w'.dataAt k = some s → w.dataAt k = some s

theorem Keeps.trans {a b c : World} (h1 : Keeps a b) (h2 : Keeps b c) : Keeps a c := fun k s h => h1 k s (h2 k s h)
theorem Keeps.storeMeta (w : World) (k st : Str) : Keeps w (w.storeMeta k st) := fun _ _ h => World.dataAt_storeMeta h
theorem Keeps.logCall (w : World) (st sig args) : Keeps w (w.logCall st sig args) := by
  unfold World.logCall; split <;> exact fun _ _ h => h

theorem Keeps.get {w w' : World} (h : Keeps w w') {k : Str} {s : EState} (hg : w'.get k = some s) :
    w.dataAt k = some s := h k s (World.dataAt_of_get hg)

theorem ite_ne_of {α : Type} {c : Prop} [Decidable c] {a b v : α} (ha : c → a ≠ v) (hb : b ≠ v) :
    (if c then a else b) ≠ v := by
  split
  · exact ha ‹_›
  · exact hb

/-- walks down the chain of `if`s of `cmdSem`: every command but `sub` returns another constructor than
`subeval`, at once or after a `match` on its arguments -/
theorem cmdSem_ne_subeval {ns name : Str} {input : Val} {vars : Vars} {args : List Val} {x : Val} {qt : Str}
    (hn : name ≠ s "sub") : cmdSem ns name input vars args ≠ .subeval x qt := by
  unfold cmdSem
  repeat' refine ite_ne_of (fun hc => ?_) ?_
  all_goals first
    | (intro h; cases h; done)
    | (repeat' split) <;> (intro h; cases h; done)
    | exact absurd (by simpa using hc : _ ∧ name = s "sub").2 hn

theorem resolve_name {reg : Registry} {nss : List Str} {name : Str} {sig : CmdSig}
    (h : resolve reg nss name = some sig) : sig.name = name := by
  unfold resolve at h
  obtain ⟨ns, _, hns⟩ := List.exists_of_findSome?_eq_some h
  split at hns
  · unfold Registry.find at hns
    have := List.find?_some hns
    simp only [Bool.and_eq_true, beq_iff_eq] at this
    exact this.2
  · simp at hns

theorem Query.plain_pred {q p : Query} {r : Option Seg} (hq : q.plain = true) (hp : q.predecessor = some (p, r)) :
    p.plain = true ∧ ∀ h a, r = some (.transform h [a] none) → a.plain = true := by
  rcases q with ⟨segs, ab⟩
  simp only [Query.plain, Query.segments, List.all_eq_true] at hq
  simp only [Query.predecessor] at hp
  split at hp
  · next hd as f front hrev =>
    have hsegs : segs = front.reverse ++ [.transform hd as (some f)] := List.reverse_eq_cons_iff.mp hrev
    have hfront : ∀ x ∈ front.reverse, x.plain = true := fun x hx => hq x (by rw [hsegs]; simp [List.mem_reverse.mp hx])
    have hlast : (Seg.transform hd as (some f)).plain = true := hq _ (by rw [hsegs]; simp)
    split at hp
    · simp only [Option.some.injEq, Prod.mk.injEq] at hp
      obtain ⟨rfl, rfl⟩ := hp
      refine ⟨by simpa [Query.plain, Query.segments, List.all_eq_true] using hfront, ?_⟩
      intro h a he; simp at he
    · simp only [Option.some.injEq, Prod.mk.injEq] at hp
      obtain ⟨rfl, rfl⟩ := hp
      refine ⟨?_, ?_⟩
      · simp only [Query.plain, Query.segments, List.all_append, Bool.and_eq_true, List.all_eq_true]
        exact ⟨hfront, by simpa [Seg.plain] using hlast⟩
      · intro h a he; simp at he
  · next hd as front hrev =>
    have hsegs : segs = front.reverse ++ [.transform hd as none] := List.reverse_eq_cons_iff.mp hrev
    have hfront : ∀ x ∈ front.reverse, x.plain = true := fun x hx => hq x (by rw [hsegs]; simp [List.mem_reverse.mp hx])
    have hlast : (Seg.transform hd as none).plain = true := hq _ (by rw [hsegs]; simp)
    simp only [Seg.plain, List.all_eq_true] at hlast
    split at hp
    · next last init has =>
      have has' : as = init.reverse ++ [last] := List.reverse_eq_cons_iff.mp has
      have hinit : ∀ x ∈ init.reverse, x.plain = true := fun x hx => hlast x (by rw [has']; simp [List.mem_reverse.mp hx])
      have hl : last.plain = true := hlast last (by rw [has']; simp)
      split at hp
      · simp only [Option.some.injEq, Prod.mk.injEq] at hp
        obtain ⟨rfl, rfl⟩ := hp
        refine ⟨by simpa [Query.plain, Query.segments, List.all_eq_true] using hfront, ?_⟩
        intro h a he
        simp only [Option.some.injEq, Seg.transform.injEq, List.cons.injEq, and_true] at he
        rw [← he.2]; exact hl
      · simp only [Option.some.injEq, Prod.mk.injEq] at hp
        obtain ⟨rfl, rfl⟩ := hp
        refine ⟨?_, ?_⟩
        · simp only [Query.plain, Query.segments, List.all_append, Bool.and_eq_true, List.all_eq_true]
          refine ⟨hfront, ?_⟩
          intro x hx
          simp only [List.mem_singleton] at hx
          subst hx
          simpa [Seg.plain] using hinit
        · intro h a he
          simp only [Option.some.injEq, Seg.transform.injEq, List.cons.injEq, and_true] at he
          rw [← he.2]; exact hl
    · simp only [Option.some.injEq, Prod.mk.injEq] at hp
      obtain ⟨rfl, rfl⟩ := hp
      refine ⟨by simpa [Query.plain, Query.segments, List.all_eq_true] using hfront, ?_⟩
      intro h a he; simp at he
  · simp at hp

/-- the world with some calls appended to the log, everything else as it was -/
def World.logs (w : World) (c : List Str) : World := { w with calls := w.calls ++ c }

@[simp] theorem World.logs_nil (w : World) : w.logs [] = w := by cases w; simp [World.logs]
@[simp] theorem World.logs_logs (w : World) (a b : List Str) : (w.logs a).logs b = w.logs (a ++ b) := by
  simp [World.logs, List.append_assoc]
@[simp] theorem World.cache_logs (w : World) (c : List Str) : (w.logs c).cache = w.cache := rfl
@[simp] theorem World.calls_logs (w : World) (c : List Str) : (w.logs c).calls = w.calls ++ c := rfl
@[simp] theorem World.dataAt_logs (w : World) (c k) : (w.logs c).dataAt k = w.dataAt k := rfl
@[simp] theorem World.get_logs (w : World) (c k) : (w.logs c).get k = w.get k := rfl

theorem World.logCall_eq_logs (w : World) (st sig args) : w.logCall st sig args = w.logs (callOf st sig args) := by
  unfold World.logCall callOf; split
  · simp
  · rfl

theorem evalParams_plain_exact (env : Env) : ∀ n (w : World) (ps : List Param) (raw parent : Str),
    ps.all Param.isStr = true →
      evalParams env n w ps raw parent = (w, (refParams env n ps raw parent).1) ∧ (refParams env n ps raw parent).2 = []
  | 0, w, ps, raw, parent, _ => by rw [evalParams_zero, refParams_zero]; exact ⟨rfl, rfl⟩
  | n + 1, w, [], raw, parent, _ => by rw [evalParams_nil, refParams_nil]; exact ⟨rfl, rfl⟩
  | n + 1, w, .str t pos :: ps, raw, parent, h => by
    rw [evalParams_str, refParams_str]
    obtain ⟨h1, h2⟩ := evalParams_plain_exact env n w ps raw parent (by simpa [Param.isStr] using h)
    rw [h1]
    generalize refParams env n ps raw parent = x at h2 ⊢
    rcases x with ⟨r, c⟩
    simp only at h2; subst h2
    cases r <;> exact ⟨rfl, rfl⟩
  | n + 1, w, .link lq pos :: ps, raw, parent, h => by simp [Param.isStr] at h

/-- the final progress metadata of an action: the status of the state it returns -/
def finW (uc : Bool) (raw : Str) (o : Outcome) (w : World) : World :=
  match o with
  | .st s => w.metaIf uc raw s.status
  | _ => w

theorem call_plain (env : Env) (n : Nat) (w1 : World) (st act raw sig x uc) (hns : sig.name ≠ s "sub") :
    evalCall env n w1 st act raw sig x uc =
      (finW uc raw (refCall env n st act raw sig x).1 (w1.logs (refCall env n st act raw sig x).2),
        (refCall env n st act raw sig x).1) := by
  unfold evalCall refCall
  generalize parseArgv sig.args x.1 x.2.1 = pa
  cases pa with
  | ok args =>
    dsimp only
    generalize hc : cmdSem sig.ns sig.name st.data st.vars args = ce
    cases ce with
    | subeval y qt => exact absurd hc (cmdSem_ne_subeval hns)
    | _ => simp [World.logCall_eq_logs, finW, failSt, doneSt]
  | _ => simp [finW, failSt]

/-- a link-free, `sub`-free action, with or without a cache: the reference outcome and calls; the world gets the
calls and the two progress records -/
theorem act_plain (env : Env) (n : Nat) (w : World) (st : EState) (a : Action) (raw parent : Str)
    (extra : Extra) (uc : Bool) (ha : a.plain = true) :
    evalAction env (n+1) w st a raw parent extra uc =
      (finW uc raw (refAction env (n+1) st a raw parent extra).1
          ((w.metaIf uc raw (s "evaluation")).logs (refAction env (n+1) st a raw parent extra).2),
        (refAction env (n+1) st a raw parent extra).1) := by
  simp only [Action.plain, Bool.and_eq_true, bne_iff_ne, ne_eq] at ha
  rw [evalAction_succ, refAction_succ]
  cases namespacesOf st.vars with
  | none => simp [finW]
  | some nss =>
    dsimp only
    split
    · simp [finW]
    · cases hr : resolve env.reg nss a.name with
      | none => simp [finW, failSt]
      | some sig =>
        dsimp only
        obtain ⟨h1, h2⟩ := evalParams_plain_exact env n (w.metaIf uc raw (s "evaluation")) a.params raw parent ha.2
        have h3 := refParams_inr_not_st env n a.params raw parent
        rw [h1]
        generalize refParams env n a.params raw parent = x at h2 h3 ⊢
        obtain ⟨r, c⟩ := x
        subst h2
        cases r with
        | inr o =>
          cases o with
          | st e => exact absurd rfl (h3 e)
          | _ => simp [finW]
        | inl g =>
          dsimp only
          rw [call_plain env n _ st a raw sig _ uc (by rw [resolve_name hr]; exact ha.1)]
          simp

theorem act_plain_nocache (env : Env) (n : Nat) (w : World) (st : EState) (a : Action) (raw parent : Str)
    (extra : Extra) (ha : a.plain = true) :
    evalAction env n w st a raw parent extra false =
      (w.logs (refAction env n st a raw parent extra).2, (refAction env n st a raw parent extra).1) := by
  cases n with
  | zero => rw [evalAction_zero, refAction_zero]; simp
  | succ n =>
    rw [act_plain env n w st a raw parent extra false ha]
    cases (refAction env (n+1) st a raw parent extra).1 <;> rfl

theorem after_plain_nocache (env : Env) (n : Nat) (w1 : World) (o : Outcome) (parent : Str) (r : Option Seg)
    (key raw : Str) (extra : Extra) (hr : ∀ h a, r = some (.transform h [a] none) → a.plain = true) :
    evalAfter env n w1 o parent r key raw extra false =
      (w1.logs (refAfter env n o parent r key raw extra).2, (refAfter env n o parent r key raw extra).1) := by
  unfold evalAfter refAfter
  cases o with
  | st st =>
    dsimp only
    split
    · simp
    · rcases post_cases r with rfl | ⟨h, f, rfl⟩ | ⟨h, a, rfl⟩ | ⟨he, hr'⟩
      · simp [evalPost, refPost]
      · simp [evalPost, refPost, fileW]
      · unfold evalPost refPost
        dsimp only
        rw [act_plain_nocache env n w1 _ a raw parent extra (hr h a rfl)]
        cases (refAction env n st a raw parent extra).1 <;> simp [admitW]
      · rw [he, hr']; simp
  | _ => simp

/-- C05/C01, `nocache_chain_frame`: with `useCache = false` (injected input value, `evaluate_on`) the evaluation
of a link-free, `sub`-free query is exactly the reference interpretation — same outcome, same calls, same
fuel — and the global cache is literally unchanged: not even progress metadata is written. -/
theorem evalQ_plain_nocache (env : Env) : ∀ n (w : World) (q : Query) (raw : Str) (extra : Extra) (input : Option Val),
    q.plain = true →
      evalQ env n w q raw extra input false =
        (w.logs (refQ env n q raw extra input).2, (refQ env n q raw extra input).1)
  | 0, w, q, raw, extra, input, _ => by rw [evalQ_zero, refQ_zero]; simp
  | n + 1, w, q, raw, extra, input, hq => by
    rw [evalQ_succ', refQ_succ']
    simp only [Bool.and_false, Bool.false_eq_true, if_false]
    split
    · simp
    · have hpre : evalPre env n w q raw input false = (w.logs (refPre env n q input).2, (refPre env n q input).1) := by
        unfold evalPre refPre
        cases hp : q.preQ with
        | none => simp
        | some p =>
          obtain ⟨r, hpr, _⟩ := Query.preQ_some hp
          exact evalQ_plain_nocache env n w p _ .none input (Query.plain_pred hq hpr).1
      have hrem : ∀ h a, q.preRem = some (.transform h [a] none) → a.plain = true := by
        intro h a hr
        obtain ⟨p0, hp0⟩ := Query.preRem_some hr
        exact (Query.plain_pred hq hp0).2 h a rfl
      rw [hpre]
      simp only
      rw [after_plain_nocache env n _ _ _ _ _ _ _ hrem]
      simp

theorem evalQ_plain_keeps (env : Env) (n : Nat) (w : World) (q : Query) (raw : Str) (extra : Extra)
    (input : Option Val) (hq : q.plain = true) : Keeps w (evalQ env n w q raw extra input false).1 := by
  rw [evalQ_plain_nocache env n w q raw extra input hq]
  exact fun k s h => h

end Liquer
