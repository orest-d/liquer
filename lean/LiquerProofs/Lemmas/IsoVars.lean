/-
C10: variable dictionaries as association lists.  `setVar`/`getVar` (heap side) and `setVarV`/`getVarV` (value side) are the same
functions `setKV`/`getKV`, and `absVars` is a map over the values, so it commutes with both.
-/
import LiquerProofs.Lemmas.IsoHeap

namespace Liquer.Iso

def setKV {α : Type} (vars : List (Str × α)) (k : Str) (v : α) : List (Str × α) :=
  if vars.any (fun e => e.1 == k) then vars.map (fun e => if e.1 == k then (k, v) else e) else vars ++ [(k, v)]

def getKV {α : Type} (vars : List (Str × α)) (k : Str) : Option α := (vars.find? (fun e => e.1 == k)).map (·.2)

theorem setVar_eq (vars : List (Str × HV)) (k : Str) (v : HV) : setVar vars k v = setKV vars k v := rfl
theorem setVarV_eq (vars : List (Str × Val)) (k : Str) (v : Val) : setVarV vars k v = setKV vars k v := rfl
theorem getVarV_eq (vars : List (Str × Val)) (k : Str) : getVarV vars k = getKV vars k := rfl

section kv
variable {α β : Type}

def mapKV (f : α → β) (vars : List (Str × α)) : List (Str × β) := vars.map (fun kv => (kv.1, f kv.2))

theorem mapKV_keys (f : α → β) (vars : List (Str × α)) : (mapKV f vars).map Prod.fst = vars.map Prod.fst := by
  rw [mapKV, List.map_map]; rfl

theorem any_key_iff (vars : List (Str × α)) (k : Str) : (vars.any (fun e => e.1 == k)) = true ↔ k ∈ vars.map Prod.fst := by
  simp only [List.any_eq_true, beq_iff_eq, List.mem_map]

/-- look-up by key (`getVar`, `getVarV`, `World.entry`) finds a member -/
theorem getKV_mem {vars : List (Str × α)} {k : Str} {v : α} (e : getKV vars k = some v) : (k, v) ∈ vars := by
  obtain ⟨y, hy, rfl⟩ := Option.map_eq_some_iff.1 e
  have hk : y.1 = k := by simpa using List.find?_some hy
  exact hk ▸ List.mem_of_find?_eq_some hy

theorem mem_setKV {vars : List (Str × α)} {k : Str} {v : α} {e : Str × α} (he : e ∈ setKV vars k v) :
    e ∈ vars ∨ e = (k, v) := by
  unfold setKV at he
  split at he
  · obtain ⟨e', he', rfl⟩ := List.mem_map.1 he
    split
    · exact Or.inr rfl
    · exact Or.inl he'
  · exact (List.mem_append.1 he).imp_right List.mem_singleton.1

theorem getKV_cons_ne {e : Str × α} {k : Str} (ne : e.1 ≠ k) (l : List (Str × α)) : getKV (e :: l) k = getKV l k := by
  rw [getKV, List.find?_cons_of_neg (by simpa using ne)]; rfl

theorem getKV_cons_eq {e : Str × α} {k : Str} (eq : e.1 = k) (l : List (Str × α)) : getKV (e :: l) k = some e.2 := by
  rw [getKV, List.find?_cons_of_pos (by simpa using eq)]; rfl

theorem getKV_none {vars : List (Str × α)} {k : Str} (h : getKV vars k = none) : k ∉ vars.map Prod.fst := by
  intro hk
  obtain ⟨e, he, hek⟩ := List.mem_map.1 hk
  exact (List.find?_eq_none.1 (Option.map_eq_none_iff.1 h)) e he (by simpa using hek)

theorem getKV_split {vars : List (Str × α)} {k : Str} {v₀ : α} (h : getKV vars k = some v₀) :
    ∃ l₁ l₂, vars = l₁ ++ (k, v₀) :: l₂ ∧ k ∉ l₁.map Prod.fst := by
  induction vars with
  | nil => cases h
  | cons e rest ih =>
    by_cases he : e.1 = k
    · rw [getKV_cons_eq he] at h
      exact ⟨[], rest, by rw [← he, ← Option.some.inj h]; rfl, fun h => nomatch h⟩
    · rw [getKV_cons_ne he] at h
      obtain ⟨l₁, l₂, rfl, hk⟩ := ih h
      exact ⟨e :: l₁, l₂, rfl, fun h => (List.mem_cons.1 h).elim (fun x => he x.symm) hk⟩

theorem getKV_mid {l₁ l₂ : List (Str × α)} {k : Str} {v₀ : α} (h₁ : k ∉ l₁.map Prod.fst) :
    getKV (l₁ ++ (k, v₀) :: l₂) k = some v₀ := by
  induction l₁ with
  | nil => exact getKV_cons_eq rfl l₂
  | cons e rest ih =>
    rw [List.map_cons, List.mem_cons, not_or] at h₁
    rw [List.cons_append, getKV_cons_ne (fun x => h₁.1 x.symm), ih h₁.2]

theorem getKV_map (f : α → β) (vars : List (Str × α)) (k : Str) : getKV (mapKV f vars) k = (getKV vars k).map f := by
  rw [getKV, getKV, mapKV, List.find?_map, Option.map_map, Option.map_map]; rfl

theorem setKV_absent {vars : List (Str × α)} {k : Str} (h : k ∉ vars.map Prod.fst) (v : α) :
    setKV vars k v = vars ++ [(k, v)] :=
  if_neg (fun e => h ((any_key_iff vars k).1 e))

theorem map_upd_absent {vars : List (Str × α)} {k : Str} (h : k ∉ vars.map Prod.fst) (v : α) :
    vars.map (fun e => if e.1 == k then (k, v) else e) = vars := by
  conv => rhs; rw [← List.map_id vars]
  refine List.map_congr_left (fun e he => if_neg (fun x => h ?_))
  exact List.mem_map.2 ⟨e, he, beq_iff_eq.1 x⟩

theorem any_key_mid (l₁ l₂ : List (Str × α)) (k : Str) (v₀ : α) :
    ((l₁ ++ (k, v₀) :: l₂).any (fun e => e.1 == k)) = true :=
  (any_key_iff _ k).2 (List.mem_map.2 ⟨(k, v₀), List.mem_append_right _ List.mem_cons_self, rfl⟩)

theorem setKV_present {l₁ l₂ : List (Str × α)} {k : Str} {v₀ : α} (h₁ : k ∉ l₁.map Prod.fst) (h₂ : k ∉ l₂.map Prod.fst)
    (v : α) : setKV (l₁ ++ (k, v₀) :: l₂) k v = l₁ ++ (k, v) :: l₂ := by
  rw [setKV, if_pos (any_key_mid l₁ l₂ k v₀), List.map_append, List.map_cons, map_upd_absent h₁, map_upd_absent h₂,
    if_pos (beq_self_eq_true k)]

theorem setKV_map (f : α → β) (vars : List (Str × α)) (k : Str) (v : α) :
    mapKV f (setKV vars k v) = setKV (mapKV f vars) k (f v) := by
  by_cases hk : k ∈ vars.map Prod.fst
  · rw [setKV, setKV, if_pos ((any_key_iff vars k).2 hk), if_pos ((any_key_iff _ k).2 (mapKV_keys f vars ▸ hk)), mapKV, mapKV,
      List.map_map, List.map_map]
    refine List.map_congr_left (fun e _ => ?_)
    by_cases he : e.1 = k <;> simp [he]
  · rw [setKV_absent hk, setKV_absent (mapKV_keys f vars ▸ hk), mapKV, List.map_append]; rfl

theorem setKV_keys_nodup {vars : List (Str × α)} (nd : (vars.map Prod.fst).Nodup) (k : Str) (v : α) :
    ((setKV vars k v).map Prod.fst).Nodup := by
  by_cases hk : k ∈ vars.map Prod.fst
  · have : (setKV vars k v).map Prod.fst = vars.map Prod.fst := by
      rw [setKV, if_pos ((any_key_iff vars k).2 hk), List.map_map]
      refine List.map_congr_left (fun e _ => ?_)
      by_cases he : e.1 = k <;> simp [he]
    rw [this]; exact nd
  · rw [setKV_absent hk, List.map_append]
    exact List.nodup_append.2 ⟨nd, List.pairwise_singleton _ _, fun a ha b hb e => hk ((show b = k from List.mem_singleton.1 hb) ▸ e ▸ ha)⟩

theorem getKV_split_nodup {vars : List (Str × α)} {k : Str} {v₀ : α} (nd : (vars.map Prod.fst).Nodup)
    (h : getKV vars k = some v₀) :
    ∃ l₁ l₂, vars = l₁ ++ (k, v₀) :: l₂ ∧ k ∉ l₁.map Prod.fst ∧ k ∉ l₂.map Prod.fst := by
  obtain ⟨l₁, l₂, rfl, h₁⟩ := getKV_split h
  rw [List.map_append, List.map_cons, List.nodup_append, List.nodup_cons] at nd
  exact ⟨l₁, l₂, rfl, h₁, nd.2.1.1⟩

theorem getKV_setKV_self (vars : List (Str × α)) (k : Str) (v : α) : getKV (setKV vars k v) k = some v := by
  cases hg : getKV vars k with
  | none => rw [setKV_absent (getKV_none hg)]; exact getKV_mid (l₂ := []) (getKV_none hg)
  | some v₀ =>
    obtain ⟨l₁, l₂, rfl, h₁⟩ := getKV_split hg
    rw [setKV, if_pos (any_key_mid l₁ l₂ k v₀), List.map_append, List.map_cons, map_upd_absent h₁,
      if_pos (beq_self_eq_true k)]
    exact getKV_mid h₁

theorem getKV_map_upd_ne (vars : List (Str × α)) {k k' : Str} (v : α) (ne : k' ≠ k) :
    getKV (vars.map (fun e => if e.1 == k' then (k', v) else e)) k = getKV vars k := by
  induction vars with
  | nil => rfl
  | cons e rest ih =>
    rw [List.map_cons]
    by_cases h2 : e.1 = k
    · have h1 : ¬ (e.1 == k') = true := fun x => ne ((beq_iff_eq.1 x).symm.trans h2)
      rw [if_neg h1, getKV_cons_eq h2, getKV_cons_eq h2]
    · rw [getKV_cons_ne h2, ← ih]
      split
      · exact getKV_cons_ne (e := (k', v)) ne _
      · exact getKV_cons_ne h2 _

theorem getKV_append_ne (vars : List (Str × α)) {k k' : Str} (v : α) (ne : k' ≠ k) :
    getKV (vars ++ [(k', v)]) k = getKV vars k := by
  induction vars with
  | nil => exact getKV_cons_ne (e := (k', v)) ne []
  | cons e rest ih =>
    rw [List.cons_append]
    by_cases h2 : e.1 = k
    · rw [getKV_cons_eq h2, getKV_cons_eq h2]
    · rw [getKV_cons_ne h2, getKV_cons_ne h2, ih]

theorem getKV_setKV_ne (vars : List (Str × α)) {k k' : Str} (v : α) (ne : k' ≠ k) :
    getKV (setKV vars k' v) k = getKV vars k := by
  unfold setKV
  split
  · exact getKV_map_upd_ne vars v ne
  · exact getKV_append_ne vars v ne

end kv

theorem mem_cellsHV_getVar {vars : List (Str × HV)} {k : Str} {a : Addr}
    (ha : a ∈ cellsHV ((getVar vars k).getD (.imm .none))) : a ∈ cellsVars vars := by
  cases e : getVar vars k with
  | none => rw [e] at ha; cases ha
  | some v => exact mem_cellsVars.2 ⟨k, mem_cellsHV.1 (e ▸ ha) ▸ getKV_mem e⟩

theorem mem_cellsVars_setVar {vars : List (Str × HV)} {k : Str} {v : HV} {a : Addr}
    (ha : a ∈ cellsVars (setVar vars k v)) : a ∈ cellsVars vars ∨ a ∈ cellsHV v := by
  obtain ⟨k', hk⟩ := mem_cellsVars.1 ha
  rcases mem_setKV hk with h | h
  · exact Or.inl (mem_cellsVars.2 ⟨k', h⟩)
  · exact Or.inr (mem_cellsHV.2 (Prod.mk.inj h).2.symm)

theorem getVarV_abs (h : Heap) (vs : List (Str × HV)) (k : Str) :
    getVarV (absVars h vs) k = (getVar vs k).map (absHV h) := getKV_map _ _ _

theorem setVarV_abs (h : Heap) (vs : List (Str × HV)) (k : Str) (v : HV) :
    absVars h (setVar vs k v) = setVarV (absVars h vs) k (absHV h v) := setKV_map _ _ _ _

theorem absVars_keys (h : Heap) (vs : List (Str × HV)) : (absVars h vs).map Prod.fst = vs.map Prod.fst := mapKV_keys _ _

/-- in-place update of the object of variable `k` is assignment of the new value to `k` -/
theorem absVars_write_var {h : Heap} {vs : List (Str × HV)} {k : Str} {a : Addr} (x : Val)
    (kn : (vs.map Prod.fst).Nodup) (cn : (cellsVars vs).Nodup) (hg : getVar vs k = some (.ref a)) :
    absVars (h.write a (.val x)) vs = setVarV (absVars h vs) k x := by
  obtain ⟨l₁, l₂, rfl, h₁, h₂⟩ := getKV_split_nodup kn hg
  rw [cellsVars_append, cellsVars_cons, List.nodup_append, List.nodup_append] at cn
  have n1 : a ∉ cellsVars l₁ := fun hx => cn.2.2 a hx a (List.mem_append_left _ (mem_cellsHV.2 rfl)) rfl
  have n2 : a ∉ cellsVars l₂ := fun hx => cn.2.1.2.2 a (mem_cellsHV.2 rfl) a hx rfl
  rw [setVarV_eq, absVars_append, absVars_cons, absVars_append, absVars_cons,
    setKV_present (absVars_keys h l₁ ▸ h₁) (absVars_keys h l₂ ▸ h₂), absVars_write_notin n1, absVars_write_notin n2]
  exact congrArg (fun y => absVars h l₁ ++ (k, y) :: absVars h l₂) (Heap.valAt_write_same h a x)

theorem cellsVars_setVar_nodup {vs : List (Str × HV)} {k : Str} {v : HV} (kn : (vs.map Prod.fst).Nodup)
    (cn : (cellsVars vs).Nodup) (dv : ∀ a ∈ cellsHV v, a ∉ cellsVars vs) : (cellsVars (setVar vs k v)).Nodup := by
  rw [setVar_eq]
  cases hg : getKV vs k with
  | none =>
    rw [setKV_absent (getKV_none hg), cellsVars_append, cellsVars_cons, cellsVars_nil, List.append_nil]
    exact List.nodup_append.2 ⟨cn, nodup_cellsHV v, fun a ha b hb e => dv b hb (e ▸ ha)⟩
  | some v₀ =>
    obtain ⟨l₁, l₂, rfl, h₁, h₂⟩ := getKV_split_nodup kn hg
    rw [setKV_present h₁ h₂]
    rw [cellsVars_append, cellsVars_cons, List.nodup_append, List.nodup_append] at cn ⊢
    obtain ⟨c1, ⟨-, c2, -⟩, c3⟩ := cn
    simp only [cellsVars_append, cellsVars_cons, List.mem_append] at dv
    refine ⟨c1, ⟨nodup_cellsHV v, c2, fun a ha b hb e => dv a ha (Or.inr (Or.inr (e ▸ hb)))⟩, fun a ha b hb e => ?_⟩
    rcases List.mem_append.1 hb with hb | hb
    · exact dv b hb (Or.inl (e ▸ ha))
    · exact c3 a ha b (List.mem_append_right _ hb) e

end Liquer.Iso
