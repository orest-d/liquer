/-
C10: the frame of an evaluation.  One step is cut into named stages (`lookup`, `initRes`, `predEval`, `prep`, `finish`,
`admitTo`), each with its `Stage` specification.  `Good w w' L`: from the well-formed `w` the evaluation reached the
well-formed `w'`, wrote no cell of `w`, its new cache entries are new cells, and it owns the new cells `L`, which no cache
entry owns.  `eval_frame`: by induction on the fuel, through the phases `lookup_good` … `foot_good` of a step.
-/
import LiquerProofs.Lemmas.IsoCmd

namespace Liquer.Iso

variable {w w' : World} {lo : Nat} {L : List Addr}

def lookup (w : World) (key : Str) : World × Option HState := if w.cacheOn then w.get key else (w, none)

def initRes (w : World) : World × Res := ((initialState w).1, .st (initialState w).2)

def prep (w1 : World) (pred : HState) : World × HState :=
  if (w1.heap.metaAt pred.md).volatile then (w1, pred)
  else ({ w1 with heap := (cloneState w1.heap pred).1 }, (cloneState w1.heap pred).2)

def admitTo (w5 : World) (key : Str) (st : HState) (ok : Bool) : World :=
  if ok then w5.store key st else w5.remove key

def resultMeta (key : Str) (pvol vol caching : Bool) (m : MetaRec) : MetaRec :=
  { m with query := key, status := statusReady, isError := false, volatile := pvol || vol, caching := m.caching && caching }

def logCall (w3 : World) (old : HState) (name : Str) (args : List HV) : World :=
  { w3 with calls := w3.calls ++ [callText name (absHV w3.heap old.data) (args.map (absHV w3.heap))] }

def finish (key : Str) (pvol : Bool) (ctx : List (Str × HV)) (w3 : World) (old : HState) (name : Str) (args : List HV) :
    World × Res :=
  match cmdH w3.heap old ctx (String.ofList name) args with
  | .fail => (logCall w3 old name args, .fail)
  | .ok h4 data vol caching =>
    let m' := resultMeta key pvol vol caching (h4.metaAt old.md)
    let st : HState := { data := data, md := old.md }
    (admitTo { logCall w3 old name args with heap := h4.write old.md (.md m') } key st (m'.caching && !m'.volatile), .st st)

def predEval (n : Nat) (w : World) (absolute : Bool) (acts : List Act) : World × Res :=
  if acts.dropLast.isEmpty then initRes w else evalChain n w absolute acts.dropLast

theorem evalChain_hit {n : Nat} {absolute : Bool} {acts : List Act} {st : HState}
    (h : lookup w (keyOf absolute acts) = (w', some st)) : evalChain (n + 1) w absolute acts = (w', .st st) := by
  rw [evalChain]; unfold lookup at h; rw [h]

theorem evalChain_nil {n : Nat} {absolute : Bool} {acts : List Act}
    (h : lookup w (keyOf absolute acts) = (w', none)) (hl : acts.getLast? = none) :
    evalChain (n + 1) w absolute acts = initRes w' := by
  rw [evalChain]; unfold lookup at h; rw [h, hl]; rfl

/-- `prep` is the model's `if` distributed over the pair of heap and state -/
theorem prep_eq (w1 : World) (pred : HState) :
    prep w1 pred =
      ({ w1 with heap := (if (w1.heap.metaAt pred.md).volatile then (w1.heap, pred) else cloneState w1.heap pred).1 },
        (if (w1.heap.metaAt pred.md).volatile then (w1.heap, pred) else cloneState w1.heap pred).2) := by
  unfold prep; split <;> rfl

theorem evalChain_some {n : Nat} {absolute : Bool} {acts : List Act} {act : Act}
    (h : lookup w (keyOf absolute acts) = (w', none)) (hl : acts.getLast? = some act) :
    evalChain (n + 1) w absolute acts =
      match predEval n w' absolute acts with
      | (w1, .fail) => (w1, .fail)
      | (w1, .st pred) =>
        match evalArgs n (prep w1 pred).1 act.args with
        | (w3, none) => (w3, .fail)
        | (w3, some args) =>
          finish (keyOf absolute acts) (w1.heap.metaAt pred.md).volatile (w1.heap.metaAt pred.md).vars w3 (prep w1 pred).2
            act.name args := by
  rw [evalChain]; unfold lookup at h; rw [h, hl]
  dsimp only [predEval, initRes]
  generalize (if acts.dropLast.isEmpty = true then ((initialState w').fst, Res.st (initialState w').snd)
    else evalChain n w' absolute acts.dropLast) = p
  obtain ⟨w1, pred | _⟩ := p
  · simp only [prep_eq]; rfl
  · rfl

theorem evalArgs_zero (w : World) (args : List Arg) : evalArgs 0 w args = (w, none) := by
  rw [evalArgs]

theorem evalArgs_nil (n : Nat) (w : World) : evalArgs (n + 1) w [] = (w, some []) := by
  rw [evalArgs]

theorem evalArgs_text (n : Nat) (w : World) (t : Str) (rest : List Arg) :
    evalArgs (n + 1) w (.text t :: rest) =
      ((evalArgs n w rest).1, (evalArgs n w rest).2.map (fun vs => .imm (.str t) :: vs)) := by
  rw [evalArgs]
  generalize evalArgs n w rest = r
  obtain ⟨w1, _ | vs⟩ := r <;> rfl

theorem evalArgs_link (n : Nat) (w : World) (q : List Act) (rest : List Arg) :
    evalArgs (n + 1) w (.link q :: rest) =
      match evalChain n w true q with
      | (w1, .fail) => (w1, none)
      | (w1, .st v) => ((evalArgs n w1 rest).1, (evalArgs n w1 rest).2.map (fun vs => v.data :: vs)) := by
  rw [evalArgs]
  generalize evalChain n w true q = r
  obtain ⟨w1, v | _⟩ := r
  · dsimp only
    generalize evalArgs n w1 rest = r
    obtain ⟨w2, _ | vs⟩ := r <;> rfl
  · rfl

def resCells (h : Heap) : Res → List Addr
  | .st s => cellsState h s
  | .fail => []

def argCells : Option (List HV) → List Addr
  | some vs => vs.flatMap cellsHV
  | none => []

def optCells (h : Heap) : Option HState → List Addr
  | some s => cellsState h s
  | none => []

theorem entry_mem {k : Str} {e : HState} (h : w.entry k = some e) : (k, e) ∈ w.cache := getKV_mem h

theorem lookup_cases {k : Str} {r : Option HState} (h : lookup w k = (w', r)) :
    (w' = w ∧ r = none) ∨
      ∃ e, (k, e) ∈ w.cache ∧ w' = { w with heap := (cloneState w.heap e).1 } ∧ r = some (cloneState w.heap e).2 := by
  unfold lookup at h
  split at h
  · unfold World.get at h
    split at h
    · cases h; exact Or.inl ⟨rfl, rfl⟩
    · next e he =>
      dsimp only at h
      split at h
      · exact Or.inr ⟨e, entry_mem he, (congrArg Prod.fst h).symm, (congrArg Prod.snd h).symm⟩
      · cases h; exact Or.inl ⟨rfl, rfl⟩
  · cases h; exact Or.inl ⟨rfl, rfl⟩

theorem lookup_cache {k : Str} {r : Option HState} (h : lookup w k = (w', r)) : w'.cache = w.cache := by
  rcases lookup_cases h with ⟨rfl, -⟩ | ⟨e, -, rfl, -⟩ <;> rfl

theorem lookup_stage {k : Str} {r : Option HState}
    (h : lookup w k = (w', r)) (i : Inv w) (o : Own w lo L) :
    Stage lo w L w' (L ++ optCells w'.heap r) := by
  rcases lookup_cases h with ⟨rfl, rfl⟩ | ⟨e, -, rfl, rfl⟩
  · exact (Stage.refl i o).sub_right (fun a ha => (List.append_nil L ▸ ha :))
  · exact Stage.fresh i o (cloneState_fresh w.heap e)

theorem initRes_stage (i : Inv w) (o : Own w lo L) :
    Stage lo w L (initRes w).1 (L ++ resCells (initRes w).1.heap (initRes w).2) :=
  Stage.fresh i o (initialState_fresh w)

/-- the predecessor state stays owned (the context's variables are its objects), the input state of the command is owned -/
theorem prep_stage {pred : HState} (i : Inv w) (o : Own w lo (cellsState w.heap pred)) :
    Stage lo w (cellsState w.heap pred) (prep w pred).1
      (cellsState w.heap pred ++ cellsState (prep w pred).1.heap (prep w pred).2) := by
  unfold prep
  split
  · exact (Stage.refl i o).sub_right (fun a ha => (List.mem_append.1 ha).elim id id)
  · exact Stage.fresh i o (cloneState_fresh w.heap pred)

theorem prep_nodup {w : World} {pred : HState} (hv : (w.heap.metaAt pred.md).volatile = false) :
    (cellsState (prep w pred).1.heap (prep w pred).2).Nodup := by
  rw [prep, hv]
  exact (cloneState_fresh _ _).nodup

theorem prep_cache (w : World) (pred : HState) : (prep w pred).1.cache = w.cache := by
  unfold prep; split <;> rfl

theorem prep_ext (w : World) (pred : HState) : HExt w.heap (prep w pred).1.heap := by
  unfold prep
  split
  · exact HExt.refl _
  · exact (cloneState_fresh w.heap pred).ext

theorem prep_fresh {pred : HState} (hv : (w.heap.metaAt pred.md).volatile = false) :
    ∀ a ∈ cellsState (prep w pred).1.heap (prep w pred).2, w.heap.next ≤ a := by
  rw [prep, hv]
  exact fun a ha => ((cloneState_fresh w.heap pred).rng a ha).1

theorem Stage.filter {w : World} {lo : Nat} {L : List Addr} (i : Inv w) (o : Own w lo L) (p : Str × HState → Bool) :
    Stage lo w L { w with cache := w.cache.filter p } L := by
  have sub : ∀ e ∈ w.cache.filter p, e ∈ w.cache := fun e he => (List.mem_filter.1 he).1
  exact ⟨⟨i.wf, fun e he => i.cacheLt e (sub e he), i.dfltLt, i.cacheSep.sublist List.filter_sublist,
      fun e he => i.cacheDflt e (sub e he)⟩,
    ⟨fun _ _ _ => rfl, Nat.le_refl _, rfl, rfl, fun e he => Or.inl (sub e he)⟩,
    ⟨o.le, o.dflt, o.rng, fun e he => o.cache e (sub e he)⟩, fun _ h _ => h⟩

theorem Stage.freshEntry (i : Inv w) (o : Own w lo L) {h' : Heap} {st' : HState} (f : Fresh w.heap h' (cellsState h' st'))
    (k : Str) : Stage lo w L { w with heap := h', cache := (k, st') :: w.cache } L := by
  have s1 := Stage.fresh i o f
  have above : ∀ {K : List Addr}, (∀ a ∈ K, a < w.heap.next) → Disj (cellsState h' st') K :=
    fun lt => (Disj.of_lt_le lt (fun a ha => (f.rng a ha).1)).symm
  refine ⟨⟨s1.inv.wf, ?_, s1.inv.dfltLt, ?_, ?_⟩, ⟨s1.mod.frame, s1.mod.mono, rfl, rfl, ?_⟩,
    ⟨s1.own.le, s1.own.dflt, fun a ha => s1.own.rng a (List.mem_append_left _ ha), ?_⟩, fun _ h _ => h⟩
  · exact List.forall_mem_cons.2 ⟨fun a ha => (f.rng a ha).2, s1.inv.cacheLt⟩
  · exact List.pairwise_cons.2 ⟨fun e hm a h1 h2 => s1.own.cache e hm a h2 (List.mem_append_right _ h1), s1.inv.cacheSep⟩
  · exact List.forall_mem_cons.2 ⟨above i.dfltLt, s1.inv.cacheDflt⟩
  · exact List.forall_mem_cons.2 ⟨Or.inr (fun a ha => (f.rng a ha).1), fun e hm => Or.inl hm⟩
  · exact List.forall_mem_cons.2 ⟨above (fun a ha => (o.rng a ha).2),
      fun e hm a h1 h2 => s1.own.cache e hm a h1 (List.mem_append_left _ h2)⟩

/-- `cache.store` with the cache on: the caller's state is marked ready, a clone of it replaces the entry under `k` -/
theorem store_eq (hon : w.cacheOn = true) (k : Str) (st : HState) :
    w.store k st =
      { w with heap := (cloneState (w.heap.write st.md (.md { w.heap.metaAt st.md with status := statusReady })) st).1,
               cache := (k, (cloneState (w.heap.write st.md (.md { w.heap.metaAt st.md with status := statusReady })) st).2)
                 :: w.cache.filter (fun e => e.1 != k) } := by
  rw [World.store, hon]; rfl

theorem store_off {w : World} (hon : w.cacheOn = false) (k : Str) (st : HState) : w.store k st = w := by
  rw [World.store, hon]; rfl

theorem store_stage {k : Str} {st : HState} (i : Inv w) (o : Own w lo (cellsState w.heap st)) :
    Stage lo w (cellsState w.heap st) (w.store k st) (cellsState w.heap st) ∧
      cellsState (w.store k st).heap st = cellsState w.heap st := by
  cases hon : w.cacheOn with
  | false =>
    rw [store_off hon]
    exact ⟨Stage.refl i o, rfl⟩
  | true =>
    rw [store_eq hon]
    have mdin := md_mem_cellsState w.heap st
    have lt := (o.rng _ mdin).2
    have hc := cellsState_write_md (h := w.heap) (st := st) (m := { w.heap.metaAt st.md with status := statusReady }) rfl
    have s0 := Stage.heap i o (HMod.write mdin lt (.md { w.heap.metaAt st.md with status := statusReady }))
      (fun a ha => Or.inl (hc ▸ ha))
    have s1 := Stage.filter s0.inv s0.own (fun e => e.1 != k)
    have s2 := Stage.freshEntry s1.inv s1.own (cloneState_fresh _ st) k
    exact ⟨((s0.trans s1).trans s2).sub_right (fun a ha => hc ▸ ha),
      (cellsState_congr ((cloneState_fresh (w.heap.write st.md _) st).ext.frame _ lt)).trans hc⟩

theorem admit_stage {k : Str} {st : HState} {ok : Bool} (i : Inv w)
    (o : Own w lo (cellsState w.heap st)) :
    Stage lo w (cellsState w.heap st) (admitTo w k st ok) (cellsState w.heap st) ∧
      cellsState (admitTo w k st ok).heap st = cellsState w.heap st := by
  unfold admitTo
  split
  · exact store_stage i o
  · exact ⟨Stage.filter i o _, rfl⟩

theorem Stage.admitted {w5 : World} {st : HState} (s : Stage lo w L w5 (cellsState w5.heap st)) (k : Str) (ok : Bool) :
    Stage lo w L (admitTo w5 k st ok) (cellsState (admitTo w5 k st ok).heap st) := by
  obtain ⟨s6, e⟩ := admit_stage (k := k) (ok := ok) s.inv s.own
  exact s.trans (e ▸ s6)

/-- the command and the update of the returned state's metadata, as one stage -/
theorem cmd_stage {old : HState} {ctx : List (Str × HV)} {name : String} {args : List HV} {h4 : Heap}
    {data : HV} {vol caching : Bool} (i : Inv w) (o : Own w lo (cmdFoot w.heap old ctx args))
    (hc : cmdH w.heap old ctx name args = .ok h4 data vol caching) {m' : MetaRec} (hv : m'.vars = (h4.metaAt old.md).vars) :
    Stage lo w (cmdFoot w.heap old ctx args) { w with heap := h4.write old.md (.md m') }
      (cellsState (h4.write old.md (.md m')) ⟨data, old.md⟩) := by
  obtain ⟨hm, hcells⟩ := cmdH_frame hc (fun a ha => (o.rng a ha).2)
  have s4 := Stage.heap i o hm hcells
  have mdin := md_mem_cellsState h4 ⟨data, old.md⟩
  have hc5 : cellsState (h4.write old.md (.md m')) ⟨data, old.md⟩ = cellsState h4 ⟨data, old.md⟩ :=
    cellsState_write_md (st := ⟨data, old.md⟩) hv
  rw [hc5]
  exact s4.trans (Stage.heap s4.inv s4.own (HMod.write mdin (s4.own.rng _ mdin).2 (.md m')) (fun a ha => Or.inl ha))

theorem finish_stage {key : Str} {pvol : Bool} {ctx : List (Str × HV)} {w3 : World} {old : HState} {name : Str}
    {args : List HV} (i : Inv w3) (o : Own w3 lo (cmdFoot w3.heap old ctx args)) :
    Stage lo w3 (cmdFoot w3.heap old ctx args) (finish key pvol ctx w3 old name args).1
      (resCells (finish key pvol ctx w3 old name args).1.heap (finish key pvol ctx w3 old name args).2) := by
  unfold finish
  split
  · exact ((Stage.refl i o).calls _).sub_right (fun a ha => nomatch ha)
  · next h4 data vol caching hc =>
    exact ((cmd_stage (m' := resultMeta key pvol vol caching (h4.metaAt old.md))
      (i.calls (logCall w3 old name args).calls) (o.calls _) hc rfl).calls_left _).admitted key _

structure Good (w w' : World) (L : List Addr) : Prop where
  inv : Inv w'
  post : Post w.heap.next w w'
  own : Own w' w.heap.next L

theorem Good.refl (i : Inv w) : Good w w [] := ⟨i, Post.refl i, Own.nil i⟩

theorem Good.step {w w₁ w₂ : World} {L L' : List Addr} (g : Good w w₁ L) (s : Stage w.heap.next w₁ L w₂ L') :
    Good w w₂ L' := ⟨s.inv, g.post.step g.inv g.own s, s.own⟩

theorem Good.sub_right {L L' : List Addr} (g : Good w w' L) (sub : ∀ a ∈ L', a ∈ L) : Good w w' L' :=
  ⟨g.inv, g.post, g.own.sub sub⟩

theorem Good.seq {w w₁ w₂ : World} {L L₂ : List Addr} (g : Good w w₁ L) (g₂ : Good w₁ w₂ L₂) : Good w w₂ (L ++ L₂) := by
  have s : Stage w.heap.next w₁ [] w₂ L₂ := g₂.post.toStage g₂.inv g₂.own g.own.toNil
  exact ⟨g₂.inv, g.post.step g.inv g.own.toNil s, (Own.keep g.inv g.own s.mod (fun _ _ h => nomatch h)).append s.own⟩

/-- what existed before the evaluation shares nothing with the cells the evaluation owns -/
theorem Good.old_disj {w₁ w₂ : World} {L K : List Addr} (g : Good w₁ w₂ L) (lt : ∀ a ∈ K, a < w₁.heap.next) : Disj K L :=
  Disj.of_lt_le lt (fun a ha => (g.own.rng a ha).1)

theorem Good.cells_eq {w₁ w₂ : World} (g : Good w₁ w₂ L) {st : HState} (lt : st.md < w₁.heap.next) :
    cellsState w₂.heap st = cellsState w₁.heap st := g.post.cells_eq lt

theorem argCells_map_imm (r : Option (List HV)) (v : Val) : argCells (r.map (fun vs => .imm v :: vs)) = argCells r := by
  cases r <;> rfl

theorem mem_argCells_map {r : Option (List HV)} {d : HV} {a : Addr} (h : a ∈ argCells (r.map (fun vs => d :: vs))) :
    a ∈ cellsHV d ∨ a ∈ argCells r := by
  cases r with
  | none => cases h
  | some vs => exact List.mem_append.1 h

def FrameAt (n : Nat) : Prop :=
  (∀ w absolute acts, Inv w → ∀ w' r, evalChain n w absolute acts = (w', r) → Good w w' (resCells w'.heap r)) ∧
  (∀ w args, Inv w → ∀ w' r, evalArgs n w args = (w', r) → Good w w' (argCells r))

section phases
variable {n : Nat} {w wL w1 w3 : World} {absolute : Bool} {acts : List Act}

theorem lookup_good {k : Str} {rL : Option HState} (i : Inv w) (hL : lookup w k = (wL, rL)) :
    Good w wL (optCells wL.heap rL) :=
  ((Good.refl i).step (lookup_stage hL i (Own.nil i))).sub_right (fun _ h => List.mem_append_right _ h)

theorem predEval_good {pre : Res} (fr : FrameAt n) (gL : Good w wL []) (hp : predEval n wL absolute acts = (w1, pre)) :
    Good w w1 (resCells w1.heap pre) := by
  unfold predEval at hp
  split at hp
  · obtain ⟨rfl, rfl⟩ := Prod.mk.inj hp
    exact (gL.step (initRes_stage gL.inv gL.own)).sub_right (fun _ h => List.mem_append_right _ h)
  · exact (gL.seq (fr.1 wL absolute _ gL.inv w1 pre hp)).sub_right (fun _ h => List.mem_append_right _ h)

theorem args_good {pred : HState} {args : List Arg} {ra : Option (List HV)} (fr : FrameAt n)
    (g1 : Good w w1 (cellsState w1.heap pred)) (ha : evalArgs n (prep w1 pred).1 args = (w3, ra)) :
    Good w (prep w1 pred).1 (cellsState w1.heap pred ++ cellsState (prep w1 pred).1.heap (prep w1 pred).2) ∧
      Good (prep w1 pred).1 w3 (argCells ra) ∧
      Good w w3 ((cellsState w1.heap pred ++ cellsState (prep w1 pred).1.heap (prep w1 pred).2) ++ argCells ra) ∧
      cellsState w3.heap (prep w1 pred).2 = cellsState (prep w1 pred).1.heap (prep w1 pred).2 := by
  have g2 := g1.step (prep_stage g1.inv g1.own)
  have gA := fr.2 _ args g2.inv w3 ra ha
  exact ⟨g2, gA, g2.seq gA,
    gA.cells_eq (g2.own.rng _ (List.mem_append_right _ (md_mem_cellsState _ (prep w1 pred).2))).2⟩

theorem foot_good {pred old : HState} {vs : List HV} {K : List Addr}
    (g3 : Good w w3 ((cellsState w1.heap pred ++ K) ++ argCells (some vs))) (hce : cellsState w3.heap old = K) :
    Good w w3 (cmdFoot w3.heap old (w1.heap.metaAt pred.md).vars vs) :=
  g3.sub_right (fun a ha => by
    rcases mem_cmdFoot.1 ha with h1 | ⟨v, hv, h1⟩ | h1
    · exact List.mem_append_left _ (List.mem_append_right _ (hce ▸ h1))
    · exact List.mem_append_right _ (List.mem_flatMap.2 ⟨v, hv, h1⟩)
    · exact List.mem_append_left _ (List.mem_append_left _ (vars_mem_cellsState h1)))

end phases

theorem eval_frame (n : Nat) :
    (∀ w absolute acts, Inv w → ∀ w' r, evalChain n w absolute acts = (w', r) → Good w w' (resCells w'.heap r)) ∧
    (∀ w args, Inv w → ∀ w' r, evalArgs n w args = (w', r) → Good w w' (argCells r)) := by
  induction n with
  | zero =>
    refine ⟨fun w absolute acts i w' r h => ?_, fun w args i w' r h => ?_⟩
    · rw [evalChain] at h
      cases h
      exact Good.refl i
    · rw [evalArgs_zero] at h
      cases h
      exact Good.refl i
  | succ n ih =>
    refine ⟨fun w absolute acts i w' r h => ?_, fun w args i w' r h => ?_⟩
    · -- evalChain
      rcases hL : lookup w (keyOf absolute acts) with ⟨wL, rL⟩
      have gL := lookup_good i hL
      cases rL with
      | some st =>
        rw [evalChain_hit hL] at h
        cases h
        exact gL
      | none =>
        cases hl : acts.getLast? with
        | none =>
          rw [evalChain_nil hL hl] at h
          obtain ⟨rfl, rfl⟩ := Prod.mk.inj h
          exact (gL.step (initRes_stage gL.inv gL.own)).sub_right (fun _ h => List.mem_append_right _ h)
        | some act =>
          rw [evalChain_some hL hl] at h
          rcases hp : predEval n wL absolute acts with ⟨w1, pre⟩
          have g1 := predEval_good ih gL hp
          cases pre with
          | fail =>
            simp only [hp] at h
            cases h
            exact g1
          | st pred =>
            rcases ha : evalArgs n (prep w1 pred).1 act.args with ⟨w3, ra⟩
            obtain ⟨-, -, g3, hce⟩ := args_good ih g1 ha
            cases ra with
            | none =>
              simp only [hp, ha] at h
              cases h
              exact g3.sub_right (fun a ha => nomatch ha)
            | some args =>
              simp only [hp, ha] at h
              have g3' := foot_good g3 hce
              have g4 := g3'.step (finish_stage (key := keyOf absolute acts) (pvol := (w1.heap.metaAt pred.md).volatile)
                (name := act.name) g3'.inv g3'.own)
              rw [h] at g4
              exact g4
    · -- evalArgs
      cases args with
      | nil =>
        rw [evalArgs_nil] at h
        cases h
        exact Good.refl i
      | cons arg rest =>
        cases arg with
        | text t =>
          rw [evalArgs_text] at h
          cases h
          rw [argCells_map_imm]
          exact ih.2 w rest i _ _ rfl
        | link q =>
          rw [evalArgs_link] at h
          rcases hq : evalChain n w true q with ⟨w1, rq⟩
          have g1 := ih.1 w true q i w1 rq hq
          cases rq with
          | fail =>
            simp only [hq] at h
            cases h
            exact g1
          | st v =>
            simp only [hq] at h
            cases h
            refine (g1.seq (ih.2 w1 rest g1.inv _ _ rfl)).sub_right (fun a ha => ?_)
            exact (mem_argCells_map ha).elim (fun h1 => List.mem_append_left _ (data_mem_cellsState h1))
              (List.mem_append_right _)

end Liquer.Iso
