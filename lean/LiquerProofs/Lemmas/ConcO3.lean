/-
The refinement theorem for the oracle evaluator (the analogue of R-eval, Lemmas/EvalRefine.lean): if every answer the evaluation
consumed was good for the key it was asked for (`GoodPairs`), then every `store` of its trace writes the good value of its key
(`StoresGood`) and a modelled outcome is similar to the reference interpretation.  Same induction on the fuel; instead of a
`Sound` world the statements thread the accounting `WFO A0 w` and `w.starved = false`.
-/
import LiquerProofs.Lemmas.ConcO2
import LiquerProofs.Lemmas.ConcW
import LiquerProofs.Lemmas.EvalRefine

namespace Liquer

/-- the `i`-th answer is good for the key of the `i`-th `get` of the trace (as far as both exist) -/
def GoodPairs (env : Env) (tr : List COp) (A : List (Option EState)) : Prop :=
  ∀ (i : Nat) k a, (gets tr)[i]? = some k → A[i]? = some a → GoodAns env k a

theorem GoodPairs.mono {env : Env} {tr tr' : List COp} {A : List (Option EState)} (h : GoodPairs env tr' A)
    (hp : tr <+: tr') : GoodPairs env tr A := by
  intro i k a hk ha
  refine h i k a ?_ ha
  obtain ⟨c, hc⟩ := gets_prefix hp
  have hi : i < (gets tr).length := (List.getElem?_eq_some_iff.1 hk).1
  rw [← hc, List.getElem?_append_left hi]; exact hk

/-- `pre ++ [k]` are the first keys of the old trace `tr`, `pre` those already answered by `A`: the next answer is for `k` -/
theorem GoodPairs.snoc {env : Env} {tr tr' : List COp} {A : List (Option EState)} {pre : List Str} {k : Str}
    {a : Option EState} (h : GoodPairs env tr A) (hp : tr <+: tr') (hk : pre ++ [k] <+: gets tr)
    (hl : pre.length = A.length) (ha : GoodAns env k a) : GoodPairs env tr' (A ++ [a]) := by
  intro i ki ai hki hai
  obtain ⟨c0, hc0⟩ := hk
  obtain ⟨c, rfl⟩ := hp
  rw [gets_append, ← hc0, List.append_assoc, List.append_assoc] at hki
  rcases Nat.lt_or_ge i A.length with hia | hia
  · rw [List.getElem?_append_left hia] at hai
    rw [List.getElem?_append_left (hl ▸ hia)] at hki
    exact h i ki ai (by rw [← hc0, List.append_assoc, List.getElem?_append_left (hl ▸ hia)]; exact hki) hai
  · rw [List.getElem?_append_right hia] at hai
    rw [List.getElem?_append_right (hl ▸ hia), hl] at hki
    cases hd : i - A.length with
    | zero => rw [hd] at hki hai; cases hki; cases hai; exact ha
    | succ m => rw [hd] at hai; cases hai

theorem GoodPairs.nil_answers (env : Env) (tr : List COp) : GoodPairs env tr [] := by
  intro i k a _ ha; simp at ha

theorem GoodPairs.ask {env : Env} {A0 : List (Option EState)} {w : OW} {k : Str} {a : Option EState}
    {rest : List (Option EState)} (hW : WFO A0 w) (hs : w.starved = false) (ha : w.answers = a :: rest)
    (hG : GoodPairs env (w.trace ++ [.get k]) A0) : GoodAns env k a := by
  obtain ⟨pre, h1, h2⟩ := hW.2 hs
  refine hG pre.length k a ?_ ?_
  · simp [h2]
  · simp [h1, ha]

def StoresGood (env : Env) (tr : List COp) : Prop := ∀ op ∈ tr, OpGood env op

def SG (env : Env) (w : OW) : Prop := StoresGood env w.trace

theorem SG.emit {env : Env} {w : OW} (h : SG env w) {op : COp} (hop : w.starved = false → OpGood env op) : SG env (w.emit op) := by
  unfold OW.emit
  split
  · exact h
  · next hs =>
    intro o ho
    simp only [List.mem_append, List.mem_singleton] at ho
    rcases ho with ho | rfl
    · exact h o ho
    · exact hop (by simpa using hs)

theorem SG.storeMeta {env : Env} {w : OW} (h : SG env w) (k x : Str) : SG env (w.storeMeta k x) := h.emit (fun _ => trivial)
theorem SG.remove {env : Env} {w : OW} (h : SG env w) (k : Str) : SG env (w.remove k) := h.emit (fun _ => trivial)
theorem SG.store {env : Env} {w : OW} (h : SG env w) (st : EState) (hst : GoodAt env st.query st) : SG env (w.store st) :=
  h.emit (fun _ => hst)
theorem SG.log {env : Env} {w : OW} (h : SG env w) (c : Str) : SG env (w.log c) := by
  unfold OW.log; split <;> exact h
theorem SG.metaIf {env : Env} {w : OW} (h : SG env w) (uc : Bool) (k x : Str) : SG env (w.metaIf uc k x) := by
  cases uc
  · exact h
  · exact h.storeMeta k x
theorem SG.logCall {env : Env} {w : OW} (h : SG env w) (st sig args) : SG env (w.logCall st sig args) := by
  unfold OW.logCall; split
  · exact h
  · exact h.log _
theorem SG.subWO {env : Env} {w : OW} (h : SG env w) (uc raw o) : SG env (subWO uc raw o w) := by
  unfold Liquer.subWO; split
  · exact h.metaIf _ _ _
  · exact h.metaIf _ _ _
  · exact h

theorem SG.admitWO {env : Env} {w : OW} (h : SG env w) (uc : Bool) (key : Str) (st3 : EState)
    (hstore : uc = true → st3.isError = false → st3.volatile = false → st3.caching = true → GoodAt env st3.query st3) :
    SG env (admitWO uc key st3 w) := by
  unfold Liquer.admitWO
  split
  · exact h
  · next huc =>
    split
    · next hadm =>
      simp only [Bool.and_eq_true, Bool.not_eq_eq_eq_not, Bool.not_true] at hadm huc
      exact h.store st3 (hstore (by simpa using huc) hadm.1.2 hadm.2 hadm.1.1)
    · split
      · exact h.storeMeta _ _
      · exact h.remove _

theorem SG.fileWO {env : Env} {w : OW} (h : SG env w) (uc : Bool) (key : Str) (st2 : EState)
    (hstore : uc = true → st2.volatile = false → st2.caching = true → GoodAt env st2.query st2) :
    SG env (fileWO uc key st2 w) := by
  unfold Liquer.fileWO
  split
  · exact h
  · next huc =>
    split
    · next hadm =>
      simp only [Bool.and_eq_true, Bool.not_eq_eq_eq_not, Bool.not_true] at hadm huc
      exact h.store st2 (hstore (by simpa using huc) hadm.2 hadm.1)
    · exact h.remove _

theorem SG.ask {env : Env} {w : OW} (h : SG env w) (k : Str) : SG env (w.ask k).1 := by
  intro o ho
  simp only [OW.ask_trace, List.mem_append, List.mem_singleton] at ho
  rcases ho with ho | rfl
  · exact h o ho
  · trivial

theorem SG.askIf {env : Env} {w : OW} (h : SG env w) (c : Bool) (k : Str) : SG env (w.askIf c k).1 := by
  unfold OW.askIf; split
  · exact h.ask k
  · exact h

theorem askIf_hit {env : Env} {A0 : List (Option EState)} {w : OW} {c : Bool} {k : Str} {st : EState} (hW : WFO A0 w)
    (hs : w.starved = false) (h2 : (w.askIf c k).2 = some st) (hG : GoodPairs env (w.askIf c k).1.trace A0) :
    c = true ∧ GoodAt env k st := by
  cases c with
  | false => simp [OW.askIf] at h2
  | true =>
    refine ⟨rfl, ?_⟩
    simp only [OW.askIf, if_true, OW.ask_trace] at h2 hG
    cases ha : w.answers with
    | nil => simp [OW.ask, ha] at h2
    | cons a rest =>
      have : a = some st := by simpa [OW.ask, ha] using h2
      exact GoodPairs.ask hW hs ha hG st this

/-- the result `r` of an oracle evaluation started in `w` refines the reference computation `f`, provided the answers it
consumed were good -/
def RefO (env : Env) (A0 : List (Option EState)) (w : OW) (r : OW × Outcome) (f : Nat → Outcome × List Str) : Prop :=
  GoodPairs env r.1.trace A0 → SG env w → SG env r.1 ∧ (r.2 ≠ .unmodelled → ∃ m, Outcome.sim r.2 (f m).1)

def RefOP (env : Env) (A0 : List (Option EState)) (w : OW) (r : OW × (List PVal ⊕ Outcome))
    (f : Nat → (List PVal ⊕ Outcome) × List Str) : Prop :=
  GoodPairs env r.1.trace A0 → SG env w → SG env r.1 ∧ (r.2 ≠ .inr .unmodelled → ∃ m, (f m).1 = r.2)

structure RefAtO (env : Env) (C : Query → Prop) (T : Str → Prop) (A0 : List (Option EState)) (n : Nat) : Prop where
  text : ∀ w t ug, WFO A0 w → w.starved = false → T t →
    RefO env A0 w (evalTextO env n w t ug) (fun m => refText env m t)
  q : ∀ w q raw extra input uc, WFO A0 w → w.starved = false → C q → (uc = true → input = none) →
    RefO env A0 w (evalQO env n w q raw extra input uc) (fun m => refQ env m q raw extra input)
  act : ∀ w st a raw parent extra uc, WFO A0 w → w.starved = false → LinksIn env C T parent a.params → SubIn env T a →
    RefO env A0 w (evalActionO env n w st a raw parent extra uc) (fun m => refAction env m st a raw parent extra)
  params : ∀ w ps raw parent, WFO A0 w → w.starved = false → LinksIn env C T parent ps →
    RefOP env A0 w (evalParamsO env n w ps raw parent) (fun m => refParams env m ps raw parent)

theorem RefO.ret {env : Env} {A0 : List (Option EState)} (w : OW) (f) : RefO env A0 w (w, .unmodelled) f :=
  fun _ h => ⟨h, by simp⟩

theorem RefO.congr {env : Env} {A0 : List (Option EState)} {w : OW} {r : OW × Outcome} {f g : Nat → Outcome × List Str}
    (hfg : ∀ m, f m = g m) (h : RefO env A0 w r g) : RefO env A0 w r f := by
  have : f = g := funext hfg
  rw [this]; exact h

theorem call_refO {env : Env} {C : Query → Prop} {T : Str → Prop} {A0 : List (Option EState)} {n : Nat}
    (ih : RefAtO env C T A0 n) (w1 : OW) (st act raw sig x) (uc : Bool) (hW : WFO A0 w1) (hs : w1.starved = false)
    (hsub : ∀ args y qt, cmdSem sig.ns sig.name st.data st.vars args = .subeval y qt → T qt) :
    RefO env A0 w1 (evalCallO env n w1 st act raw sig x uc) (fun m => refCall env m st act raw sig x) := by
  unfold evalCallO
  split
  · exact RefO.ret _ _
  · next hpa =>
    exact fun _ hSG => ⟨hSG.metaIf _ _ _, fun _ => ⟨0, by simp [refCall, hpa]⟩⟩
  · next args hpa =>
    split
    case h_1 => exact fun _ hSG => ⟨hSG.logCall _ _ _, by simp⟩
    case h_6 y qtext hc =>
      have hq := Quiet.logCall w1 st sig args
      have h3 := ih.text (w1.logCall st sig args) qtext true (hq.wfo hW) (by rw [hq.starved]; exact hs) (hsub _ _ _ hc)
      intro hG hSG
      obtain ⟨hSG3, hw⟩ := h3 (hG.mono (Quiet.subWO _ _ _ _).prefix) (hSG.logCall _ _ _)
      refine ⟨hSG3.subWO _ _ _, fun hne => ?_⟩
      obtain ⟨m, hsim⟩ := hw (subOutcome_ne_unmodelled hne)
      refine ⟨m, ?_⟩
      simp only [refCall, hpa, hc]; rw [subOutcome_sim hsim]; exact Outcome.sim_refl _
    all_goals next hc =>
      exact fun _ hSG => ⟨(hSG.logCall _ _ _).metaIf _ _ _, fun _ => ⟨0, by simp [refCall, hpa, hc]⟩⟩

theorem link_refO {env : Env} {C : Query → Prop} {T : Str → Prop} {A0 : List (Option EState)} {n : Nat}
    (ih : RefAtO env C T A0 n) (w : OW) (lq : Query) (parent : Str) (hW : WFO A0 w) (hs : w.starved = false)
    (hC : (lq.absolute || parent.isEmpty || parent == ['/']) = true → C lq)
    (hT : (lq.absolute || parent.isEmpty || parent == ['/']) = false →
      ∀ h as f ab pq, lq = .mk [.transform h as f] ab → parse env.dec parent = some pq →
      T ((Query.mk (pq.segments ++ [.transform h as f]) pq.absolute).encode Gen.escapeTable)) :
    RefO env A0 w (evalLinkO env n w lq parent) (fun m => refLink env m lq parent) := by
  unfold evalLinkO
  split
  · next hc =>
    exact RefO.congr (fun m => by simp only [refLink, hc, if_true]) (ih.q w lq _ .none none true hW hs (hC hc) (fun _ => rfl))
  · next hc =>
    have hc' : (lq.absolute || parent.isEmpty || parent == ['/']) = false := by simpa using hc
    split
    · split
      · exact RefO.ret _ _
      · next pq hpq =>
        exact RefO.congr (fun m => by simp only [refLink, hc', Bool.false_eq_true, if_false, hpq])
          (ih.text w _ true hW hs (hT hc' _ _ _ _ _ rfl hpq))
    · exact RefO.ret _ _

theorem params_stepO {env : Env} {C : Query → Prop} {T : Str → Prop} {A0 : List (Option EState)} {n : Nat}
    (ih : RefAtO env C T A0 n) (w : OW) (ps : List Param) (raw parent : Str) (hW : WFO A0 w) (hs : w.starved = false)
    (hL : LinksIn env C T parent ps) :
    RefOP env A0 w (evalParamsO env (n+1) w ps raw parent) (fun m => refParams env m ps raw parent) := by
  cases ps with
  | nil =>
    rw [evalParamsO_nil]
    exact fun _ hSG => ⟨hSG, fun _ => ⟨1, by simp [refParams_nil]⟩⟩
  | cons p ps =>
    have hL' : LinksIn env C T parent ps := hL.tail
    cases p with
    | str t pos =>
      rw [evalParamsO_str]; unfold consKO
      have h1 := ih.params w ps raw parent hW hs hL'
      rcases hp : evalParamsO env n w ps raw parent with ⟨w1, r⟩
      rw [hp] at h1
      cases r <;> (
        intro hG hSG
        obtain ⟨hSG1, hw⟩ := h1 hG hSG
        refine ⟨hSG1, fun hne => ?_⟩
        obtain ⟨m, h3⟩ := hw (by first | exact Sum.inl_ne_inr | exact hne)
        exact ⟨m+1, by simp only [refParams_str]; rw [(Prod.ext h3 rfl : refParams env m ps raw parent = (_, (refParams env m ps raw parent).2))]⟩)
    | link lq pos =>
      rw [evalParamsO_link]; unfold linkKO consKO
      have hl1 := link_refO ih w lq parent hW hs (hL lq pos (List.mem_cons_self ..)).1
        (hL lq pos (List.mem_cons_self ..)).2
      have fl := (link_twin (twin env n) lq parent).frame w
      rcases hl : evalLinkO env n w lq parent with ⟨w1, o⟩
      rw [hl] at hl1 fl
      cases o with
      | unmodelled => exact fun hG hSG => ⟨(hl1 hG hSG).1, by simp⟩
      | st v =>
        simp only
        cases hv : v.isError
        · simp only [Bool.false_eq_true, if_false]
          have hW1 := fl.wfo hW
          have hs1 := fl.ns hs (by simp)
          have h2 := ih.params w1 ps raw parent hW1 hs1 hL'
          have f2 := (frameO env n).params w1 ps raw parent
          rcases hp : evalParamsO env n w1 ps raw parent with ⟨w2, r⟩
          rw [hp] at h2 f2
          cases r <;> (
            intro hG hSG
            obtain ⟨hSG1, hw⟩ := hl1 (hG.mono f2.prefix) hSG
            obtain ⟨hSG2, hw2⟩ := h2 hG hSG1
            refine ⟨hSG2, fun hne => ?_⟩
            obtain ⟨m, h3⟩ := hw (by simp)
            rcases hr : refLink env m lq parent with ⟨o', c1⟩
            simp only [hr] at h3
            obtain ⟨v', rfl, hcore⟩ := Outcome.sim_st_left h3
            have hve : v'.isError = false := by rw [← EState.core_isError hcore]; exact hv
            have hvd := EState.core_data hcore
            obtain ⟨m2, g3⟩ := hw2 (by first | exact Sum.inl_ne_inr | exact hne)
            rcases hr2 : refParams env m2 ps raw parent with ⟨r2, c2⟩
            simp only [hr2] at g3
            subst g3
            have hlM : refLink env (max m m2) lq parent = (.st v', c1) := by
              rw [refLink_mono_le env (Nat.le_max_left m m2) lq parent (by rw [hr]; simp), hr]
            have hpM := refParams_mono_le env (Nat.le_max_right m m2) ps raw parent
                (by rw [hr2]; first | exact Sum.inl_ne_inr | exact hne)
            rw [hr2] at hpM
            refine ⟨max m m2 + 1, ?_⟩
            simp only [refParams_link, hlM, hve, Bool.false_eq_true, if_false, hpM, hvd])
        · simp only [if_true]
          intro hG hSG
          obtain ⟨hSG1, hw⟩ := hl1 hG hSG
          refine ⟨hSG1, fun _ => ?_⟩
          obtain ⟨m, h3⟩ := hw (by simp)
          rcases hr : refLink env m lq parent with ⟨o', c1⟩
          simp only [hr] at h3
          obtain ⟨v', rfl, hcore⟩ := Outcome.sim_st_left h3
          have hve : v'.isError = true := by rw [← EState.core_isError hcore]; exact hv
          exact ⟨m+1, by simp only [refParams_link, hr, hve, if_true]⟩
      | _ =>
        intro hG hSG
        obtain ⟨hSG1, hw⟩ := hl1 hG hSG
        refine ⟨hSG1, fun _ => ?_⟩
        obtain ⟨m, h3⟩ := hw (by simp)
        rcases hr : refLink env m lq parent with ⟨o', c1⟩
        simp only [hr, Outcome.sim_raised, Outcome.sim_parseError] at h3
        subst h3
        exact ⟨m+1, by simp only [refParams_link, hr]⟩

theorem act_stepO {env : Env} {C : Query → Prop} {T : Str → Prop} {A0 : List (Option EState)} {n : Nat}
    (ih : RefAtO env C T A0 n) (w : OW) (st : EState) (a : Action) (raw parent : Str) (extra : Extra) (uc : Bool)
    (hW : WFO A0 w) (hs : w.starved = false) (hL : LinksIn env C T parent a.params) (hSub : SubIn env T a) :
    RefO env A0 w (evalActionO env (n+1) w st a raw parent extra uc) (fun m => refAction env m st a raw parent extra) := by
  rw [evalActionO_succ]; unfold callKO
  have hq0 := Quiet.metaIf w uc raw (s "evaluation")
  have hW0 := hq0.wfo hW
  have hs0 : (w.metaIf uc raw (s "evaluation")).starved = false := by rw [hq0.starved]; exact hs
  split
  · exact fun _ hSG => ⟨hSG.metaIf _ _ _, by simp⟩
  · next nss hns =>
    split
    · exact fun _ hSG => ⟨hSG.metaIf _ _ _, by simp⟩
    · next hl =>
      split
      · next hr =>
        refine fun _ hSG => ⟨(hSG.metaIf _ _ _).metaIf _ _ _, fun _ => ⟨1, ?_⟩⟩
        simp only [refAction_succ, hns, hl, hr]; exact Outcome.sim_refl _
      · next sig hr =>
        have h1 := ih.params (w.metaIf uc raw (s "evaluation")) a.params raw parent hW0 hs0 hL
        have f1 := (frameO env n).params (w.metaIf uc raw (s "evaluation")) a.params raw parent
        rcases hp : evalParamsO env n (w.metaIf uc raw (s "evaluation")) a.params raw parent with ⟨w1, r⟩
        rw [hp] at h1 f1
        cases r with
        | inr o =>
          intro hG hSG
          obtain ⟨hSG1, hw⟩ := h1 hG (hSG.metaIf _ _ _)
          refine ⟨hSG1, fun hne => ?_⟩
          obtain ⟨m, h3⟩ := hw (fun hu => hne (by simpa using hu))
          rcases hr1 : refParams env m a.params raw parent with ⟨r', c1⟩
          simp only [hr1] at h3
          subst h3
          refine ⟨m+1, ?_⟩
          simp only [refAction_succ, hns, hl, hr, hr1]; exact Outcome.sim_refl _
        | inl given =>
          have hW1 := f1.wfo hW0
          have hs1 := f1.ns hs0 (by simp)
          have h2 := call_refO ih w1 st a raw sig (applyExtra extra given) uc hW1 hs1
            (fun args y qt hc => hSub nss sig hr _ _ _ _ _ hc)
          have f2 := (call_twin (twin env n) st a raw sig (applyExtra extra given) uc).frame w1
          intro hG hSG
          obtain ⟨hSG1, hw⟩ := h1 (hG.mono f2.prefix) (hSG.metaIf _ _ _)
          obtain ⟨hSG2, hw2⟩ := h2 hG hSG1
          refine ⟨hSG2, fun hne => ?_⟩
          obtain ⟨m, h3⟩ := hw (by simp)
          obtain ⟨m2, g3⟩ := hw2 hne
          rcases hr1 : refParams env m a.params raw parent with ⟨r', c1⟩
          simp only [hr1] at h3
          subst h3
          have hpM := refParams_mono_le env (Nat.le_max_left m m2) a.params raw parent (by rw [hr1]; simp)
          rw [hr1] at hpM
          have hcM := refCall_mono_le env (Nat.le_max_right m m2) st a raw sig (applyExtra extra given)
            (Outcome.sim_ne_unmodelled g3 hne)
          refine ⟨max m m2 + 1, ?_⟩
          simp only [refAction_succ, hns, hl, hr, hpM, hcM]; exact g3

theorem text_stepO {env : Env} {C : Query → Prop} {T : Str → Prop} {A0 : List (Option EState)} {n : Nat}
    (hC : Closed env C T) (ih : RefAtO env C T A0 n) (w : OW) (t : Str) (ug : Bool) (hW : WFO A0 w)
    (hs : w.starved = false) (hT : T t) :
    RefO env A0 w (evalTextO env (n+1) w t ug) (fun m => refText env m t) := by
  rw [evalTextO_succ]
  split
  · next hp =>
    refine fun _ hSG => ⟨hSG, fun _ => ⟨1, ?_⟩⟩
    simp only [refText_succ, hp]; exact Outcome.sim_refl _
  · next q hp =>
    have h1 := ih.q w q t .none none ug hW hs (hC.text t q hT hp) (fun _ => rfl)
    intro hG hSG
    obtain ⟨hSG1, hw⟩ := h1 hG hSG
    refine ⟨hSG1, fun hne => ?_⟩
    obtain ⟨m, h3⟩ := hw hne
    exact ⟨m+1, by simp only [refText_succ, hp]; exact h3⟩

theorem pre_refO {env : Env} {C : Query → Prop} {T : Str → Prop} {A0 : List (Option EState)} {n : Nat}
    (hC : Closed env C T) (ih : RefAtO env C T A0 n) (w : OW) (q : Query) (raw : Str) (input : Option Val) (uc : Bool)
    (hW : WFO A0 w) (hs : w.starved = false) (hCq : C q) (huc : uc = true → input = none) :
    RefO env A0 w (evalPreO env n w q raw input uc) (fun m => refPre env m q input) := by
  unfold evalPreO
  split
  · next hp =>
    exact fun _ hSG => ⟨hSG, fun _ => ⟨0, by simp only [refPre, hp]; exact Outcome.sim_refl _⟩⟩
  · next p hp =>
    obtain ⟨r, hpr, hpe⟩ := Query.preQ_some hp
    have hq := Quiet.metaIf w uc raw (s "evaluating parent")
    have h1 := ih.q (w.metaIf uc raw (s "evaluating parent")) p (p.encode Gen.escapeTable) .none input uc (hq.wfo hW)
      (by rw [hq.starved]; exact hs) (hC.pred q p r hCq hpr hpe) huc
    refine RefO.congr (g := fun m => refQ env m p (p.encode Gen.escapeTable) .none input)
      (fun m => by simp only [refPre, hp]) ?_
    exact fun hG hSG => h1 hG (hSG.metaIf _ _ _)

theorem after_refO {env : Env} {C : Query → Prop} {T : Str → Prop} {A0 : List (Option EState)} {n : Nat}
    (hC : Closed env C T) (hcanon : ∀ q, C q → CanonOK env q) (ih : RefAtO env C T A0 n) (w1 : OW) (o : Outcome)
    (q : Query) (raw : Str) (extra : Extra) (input : Option Val) (uc : Bool) (hW1 : WFO A0 w1) (hs1 : w1.starved = false)
    (hCq : C q) (huc : uc = true → input = none) (hres : q.isRes = false)
    (hw : o ≠ .unmodelled → ∃ m1, Outcome.sim o (refPre env m1 q input).1) :
    RefO env A0 w1 (evalAfterO env n w1 o q.preParent q.preRem (q.encode Gen.escapeTable) raw extra uc)
      (fun m => refQ env m q raw extra input) := by
  unfold evalAfterO
  have up : ∀ {m1 o'} (h : (refPre env m1 q input).1 = o'), refQ env (m1+1) q raw extra input =
      ((refAfter env m1 o' q.preParent q.preRem (q.encode Gen.escapeTable) raw extra).1,
        (refPre env m1 q input).2 ++ (refAfter env m1 o' q.preParent q.preRem (q.encode Gen.escapeTable) raw extra).2) :=
    fun h => refQ_succ_of_pre hres (Prod.ext h rfl)
  cases o with
  | unmodelled => exact RefO.ret _ _
  | st st =>
    obtain ⟨m1, h3⟩ := hw (by simp)
    obtain ⟨st', hr1, hcore⟩ := Outcome.sim_st_left h3
    have hse := EState.core_isError hcore
    simp only
    rcases Bool.eq_false_or_eq_true st.isError with hserr | hserr
    rotate_left
    · -- successful predecessor: the last step
      have hserr' : st'.isError = false := by rw [← hse]; exact hserr
      rw [if_neg (by rw [hserr]; simp)]
      unfold evalPostO admitKO
      generalize hrem : q.preRem = r
      have up1 : (refQ env (m1+1) q raw extra input).1 =
          (refPost env m1 st' q.preParent r (q.encode Gen.escapeTable) raw extra).1 := by
        rw [up hr1, hrem]; simp only [refAfter, hserr', Bool.false_eq_true, if_false]
      split
      · -- no step
        exact fun _ hSG => ⟨hSG, fun _ => ⟨m1+1, by rw [up1]; exact core_setQuery hcore _⟩⟩
      · -- file name
        next hd f =>
        have hcore2 := core_file hcore f (q.encode Gen.escapeTable)
        refine fun _ hSG => ⟨(hSG.metaIf _ _ _).fileWO _ _ _ ?_, fun _ => ⟨m1+1, by rw [up1]; exact hcore2⟩⟩
        intro hu hv hc
        have hin := huc hu; subst hin
        exact store_ok (hcanon q hCq).2 up1 _ hcore2 hserr hv hc rfl
      · -- action
        next hd a =>
        obtain ⟨p0, hp0⟩ := Query.preRem_some hrem
        obtain ⟨hL, hSub⟩ := hC.act q p0 hd a hCq hp0
        have h2 := ih.act w1 st a raw q.preParent extra uc hW1 hs1 hL hSub
        generalize evalActionO env n w1 st a raw q.preParent extra uc = x at h2 ⊢
        rcases x with ⟨w2, o2⟩
        dsimp only
        -- the reference value one level above the action's, at the larger of the two fuels
        have key : ∀ m2, Outcome.sim o2 (refAction env m2 st a raw q.preParent extra).1 → o2 ≠ .unmodelled →
            ∃ M o2', Outcome.sim o2 o2' ∧ (refQ env (M+1) q raw extra input).1 = match o2' with
              | .st st2' => .st { st2' with query := q.encode Gen.escapeTable }
              | other => other := by
          intro m2 g3 hne
          simp only [refAction_core env m2 hcore] at g3
          refine ⟨max m1 m2, (refAction env m2 st' a raw q.preParent extra).1, g3, ?_⟩
          have hpM : (refPre env (max m1 m2) q input).1 = .st st' := by
            rw [refPre_mono_le env (Nat.le_max_left m1 m2) q input (by rw [hr1]; simp), hr1]
          rw [up hpM, hrem]
          simp only [refAfter, hserr', Bool.false_eq_true, if_false, refPost]
          rw [refAction_mono_le env (Nat.le_max_right m1 m2) st' a raw q.preParent extra (Outcome.sim_ne_unmodelled g3 hne)]
          cases (refAction env m2 st' a raw q.preParent extra).1 <;> rfl
        cases o2 with
        | unmodelled => exact fun hG hSG => ⟨(h2 hG hSG).1, by simp⟩
        | st st2 =>
          intro hG hSG
          obtain ⟨hSG2, hw2⟩ := h2 (hG.mono (Quiet.admitWO _ _ _ _).prefix) hSG
          obtain ⟨m2, g3⟩ := hw2 (by simp)
          obtain ⟨M, o2', g3, href⟩ := key m2 g3 (by simp)
          obtain ⟨st2', rfl, hcore2⟩ := Outcome.sim_st_left g3
          have hcore3 := core_setQuery hcore2 (q.encode Gen.escapeTable)
          refine ⟨hSG2.admitWO _ _ _ ?_, fun _ => ⟨M+1, by rw [href]; exact hcore3⟩⟩
          intro hu he hv hc
          have hin := huc hu; subst hin
          exact store_ok (hcanon q hCq).2 href _ hcore3 he hv hc rfl
        | _ =>
          intro hG hSG
          obtain ⟨hSG2, hw2⟩ := h2 hG hSG
          refine ⟨hSG2, fun _ => ?_⟩
          obtain ⟨m2, g3⟩ := hw2 (by simp)
          obtain ⟨M, o2', g3, href⟩ := key m2 g3 (by simp)
          simp only [Outcome.sim_raised, Outcome.sim_parseError] at g3
          rw [g3] at href
          exact ⟨M+1, by rw [href]; exact Outcome.sim_refl _⟩
      · exact RefO.ret _ _
    · -- failed predecessor: propagated
      have hserr' : st'.isError = true := by rw [← hse]; exact hserr
      rw [if_pos hserr]
      refine fun _ hSG => ⟨hSG.metaIf _ _ _, fun _ => ⟨m1+1, ?_⟩⟩
      show Outcome.sim _ (refQ env (m1+1) q raw extra input).1
      rw [up hr1]; simp only [refAfter]; rw [if_pos hserr']; exact core_propagate hcore _
  | _ =>
    refine fun _ hSG => ⟨hSG, fun _ => ?_⟩
    obtain ⟨m1, h3⟩ := hw (by simp)
    simp only [Outcome.sim_raised, Outcome.sim_parseError] at h3
    exact ⟨m1+1, by show Outcome.sim _ (refQ env (m1+1) q raw extra input).1; rw [up h3]; exact Outcome.sim_refl _⟩

theorem miss_refO {env : Env} {C : Query → Prop} {T : Str → Prop} {A0 : List (Option EState)} {n : Nat}
    (hC : Closed env C T) (hcanon : ∀ q, C q → CanonOK env q) (ih : RefAtO env C T A0 n) (w : OW) (q : Query)
    (raw : Str) (extra : Extra) (input : Option Val) (uc : Bool) (hW : WFO A0 w) (hs : w.starved = false) (hCq : C q)
    (huc : uc = true → input = none) :
    RefO env A0 w (evalMissO env n w q raw extra input uc) (fun m => refQ env m q raw extra input) := by
  unfold evalMissO
  split
  · exact RefO.ret _ _
  · next hres =>
    have hres : q.isRes = false := by simpa using hres
    have h1 := pre_refO hC ih w q raw input uc hW hs hCq huc
    have f1 := (pre_twin (twin env n) q raw input uc).frame w
    rcases hpre : evalPreO env n w q raw input uc with ⟨w1, o⟩
    rw [hpre] at h1 f1
    simp only
    by_cases ho : o = .unmodelled
    · subst ho
      exact fun hG hSG => ⟨(h1 hG hSG).1, by simp [evalAfterO]⟩
    · have f2 := (after_twin (twin env n) o q.preParent q.preRem (q.encode Gen.escapeTable) raw extra uc).frame w1
      intro hG hSG
      obtain ⟨hSG1, hw⟩ := h1 (hG.mono f2.prefix) hSG
      exact after_refO hC hcanon ih w1 o q raw extra input uc (f1.wfo hW) (f1.ns hs ho) hCq huc hres
        (fun hne => hw hne) hG hSG1

theorem q_stepO {env : Env} {C : Query → Prop} {T : Str → Prop} {A0 : List (Option EState)} {n : Nat}
    (hC : Closed env C T) (hcanon : ∀ q, C q → CanonOK env q) (ih : RefAtO env C T A0 n) (w : OW) (q : Query)
    (raw : Str) (extra : Extra) (input : Option Val) (uc : Bool) (hW : WFO A0 w) (hs : w.starved = false) (hCq : C q)
    (huc : uc = true → input = none) :
    RefO env A0 w (evalQO env (n+1) w q raw extra input uc) (fun m => refQ env m q raw extra input) := by
  rw [evalQO_succ]; unfold lookKO
  have hwa := ((Twin.askIf (extra.isEmpty && input.isNone && uc) (q.encode Gen.escapeTable)).frame w).wfo hW
  have hsg := fun (h : SG env w) => h.askIf (extra.isEmpty && input.isNone && uc) (q.encode Gen.escapeTable)
  have hhit := fun st => askIf_hit (env := env) (c := extra.isEmpty && input.isNone && uc) (k := q.encode Gen.escapeTable)
    (st := st) hW hs
  generalize w.askIf (extra.isEmpty && input.isNone && uc) (q.encode Gen.escapeTable) = a at hwa hsg hhit ⊢
  split
  · exact fun _ hSG => ⟨hsg hSG, by simp⟩
  · next hsa =>
    have hsa : a.1.starved = false := by simpa using hsa
    split
    · next st hst =>
      -- cache hit: the answer is good for the key, `CanonHit` gives the reference value of the query
      intro hG hSG
      refine ⟨hsg hSG, fun _ => ?_⟩
      obtain ⟨hcond, fuel, st', c, hrt, he, hv, hc, hcore⟩ := hhit st hst hG
      simp only [Bool.and_eq_true] at hcond
      obtain ⟨⟨hxe, hin⟩, _⟩ := hcond
      have hin : input = none := by cases input <;> simp_all
      subst hin
      obtain ⟨fuel', st'', c', hrq, hcore'⟩ := (hcanon q hCq).1 fuel st' c hrt he
      have he'' : st''.isError = false := by rw [← EState.core_isError hcore']; exact he
      have := refQ_good_indep' env raw fuel' q _ extra none st'' (by rw [hrq]) he'' hxe
      refine ⟨fuel', ?_⟩
      simp only [this, hrq]; exact hcore.trans hcore'
    · intro hG hSG
      exact miss_refO hC hcanon ih a.1 q raw extra input uc hwa hsa hCq huc hG (hsg hSG)

theorem refAtO_zero (env : Env) (C : Query → Prop) (T : Str → Prop) (A0 : List (Option EState)) : RefAtO env C T A0 0 where
  text := fun w t ug _ _ _ => by rw [evalTextO_zero]; exact RefO.ret _ _
  q := fun w q raw extra input uc _ _ _ _ => by rw [evalQO_zero]; exact RefO.ret _ _
  act := fun w st a raw parent extra uc _ _ _ _ => by rw [evalActionO_zero]; exact RefO.ret _ _
  params := fun w ps raw parent _ _ _ => by rw [evalParamsO_zero]; exact fun _ h => ⟨h, by simp⟩

/-- R-eval for the oracle evaluator: for every fuel, all four functions refine their reference counterparts as long as the
answers they consume are good -/
theorem refinesO {env : Env} {C : Query → Prop} {T : Str → Prop} (hC : Closed env C T)
    (hcanon : ∀ q, C q → CanonOK env q) (A0 : List (Option EState)) :
    ∀ n, RefAtO env C T A0 n
  | 0 => refAtO_zero env C T A0
  | n + 1 =>
    have ih := refinesO hC hcanon A0 n
    { text := fun w t ug hW hs hT => text_stepO hC ih w t ug hW hs hT
      q := fun w q raw extra input uc hW hs hCq huc => q_stepO hC hcanon ih w q raw extra input uc hW hs hCq huc
      act := fun w st a raw parent extra uc hW hs hL hSub => act_stepO ih w st a raw parent extra uc hW hs hL hSub
      params := fun w ps raw parent hW hs hL => params_stepO ih w ps raw parent hW hs hL }

/-- the query-level statement, from a fresh oracle world: if the answers consumed are good for the keys asked, every
operation of the trace is harmless, and a modelled outcome of a run that did not starve is similar to the reference
interpretation -/
theorem evalQO_refines {env : Env} {C : Query → Prop} {T : Str → Prop} (hC : Closed env C T)
    (hcanon : ∀ q, C q → CanonOK env q) (n : Nat) (A : List (Option EState)) (q : Query) (raw : Str) (hCq : C q)
    (hG : GoodPairs env (evalQO env n { answers := A } q raw .none none true).1.trace A) :
    StoresGood env (evalQO env n { answers := A } q raw .none none true).1.trace ∧
    ((evalQO env n { answers := A } q raw .none none true).2 ≠ .unmodelled →
      ∃ m, Outcome.sim (evalQO env n { answers := A } q raw .none none true).2 (refQ env m q raw .none none).1) :=
  (refinesO hC hcanon A n).q { answers := A } q raw .none none true (WFO.init A) rfl hCq (fun _ => rfl) hG
    (fun _ h => by simp at h)

end Liquer
