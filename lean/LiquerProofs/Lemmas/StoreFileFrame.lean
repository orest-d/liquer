/-
State-level containment for the `FileStore` model: whatever an operation of `fileOps root` does to the
POSIX tree, every path that is not strictly below the root directory keeps its node — provided the root
and its ancestors exist as directories (`rootReady`), which the operations preserve.
-/
import LiquerProofs.Lemmas.StoreFilePrim

namespace Liquer

def strictlyBelow (root p : Path) : Prop := root <+: p ∧ p ≠ root

def Frame (root : Path) (fs fs' : PFS) : Prop := ∀ p, ¬ strictlyBelow root p → fs'.get p = fs.get p

def rootReady (root : Path) (fs : PFS) : Prop := ∀ a, a <+: root → fs.get a = some .dir

variable {root : Path}

theorem Frame.refl (root : Path) (fs : PFS) : Frame root fs fs := fun _ _ => rfl

theorem Frame.trans {a b c : PFS} (h1 : Frame root a b) (h2 : Frame root b c) : Frame root a c :=
  fun p hp => (h2 p hp).trans (h1 p hp)

theorem Frame.ready {fs fs' : PFS} (h : Frame root fs fs') (hr : rootReady root fs) : rootReady root fs' := by
  intro a ha
  rw [h a]
  · exact hr a ha
  · rintro ⟨h1, h2⟩
    exact h2 (ha.eq_of_length_le h1.length_le)

/-- what the property is about: a path outside the root is never changed -/
theorem Frame.outside {root : Path} {fs fs' : PFS} (h : Frame root fs fs') (p : Path) (hp : within root p = false) :
    fs'.get p = fs.get p := by
  apply h
  rintro ⟨h1, _⟩
  unfold within at hp
  rw [← Bool.not_eq_true, List.isPrefixOf_iff_prefix] at hp
  exact hp h1

theorem frame_set (fs : PFS) {p : Path} (n : PNode) (hp : strictlyBelow root p) : Frame root fs (fs.set p n) := by
  intro q hq
  apply PFS.get_set_ne
  intro e; subst e; exact hq hp

theorem frame_erase (fs : PFS) {p : Path} (hp : strictlyBelow root p) : Frame root fs (fs.erase p) := by
  intro q hq
  apply PFS.get_erase_ne
  intro e; subst e; exact hq hp

/-- the primitives write and remove only what is no directory: with the root and its ancestors in place, that is
strictly below the root -/
theorem strictlyBelow_of_not_dir {fs : PFS} {p : Path} (hr : rootReady root fs)
    (hc : root <+: p ∨ p <+: root) (hnd : fs.get p ≠ some .dir) : strictlyBelow root p := by
  have hnot : ¬ p <+: root := fun hx => hnd (hr p hx)
  exact ⟨hc.resolve_right hnot, fun e => hnot (e ▸ List.prefix_refl _)⟩

theorem frame_mkdirP {fs fs' : PFS} {p : Path} (hr : rootReady root fs) (hcmp : root <+: p ∨ p <+: root)
    (h : fs.mkdirP p = .ok fs') : Frame root fs fs' := by
  intro q hq
  rw [(PFS.mkdirP_get h).2]
  split
  · next c =>
    refine absurd (strictlyBelow_of_not_dir hr ?_ (by rw [c.2]; nofun)) hq
    rcases hcmp with h1 | h1
    · exact (List.prefix_or_prefix_of_prefix c.1 h1).symm
    · exact Or.inr (c.1.trans h1)
  · rfl

theorem frame_write {fs fs' : PFS} {p : Path} {n : PNode} (hr : rootReady root fs) (hp : root <+: p)
    (h : fs.write p n = .ok fs') : Frame root fs fs' := by
  obtain ⟨_, hnd, rfl⟩ := PFS.write_inv h
  exact frame_set fs n (strictlyBelow_of_not_dir hr (Or.inl hp) hnd)

theorem frame_unlinkMissingOk {fs fs' : PFS} {p : Path} (hr : rootReady root fs) (hp : root <+: p)
    (h : fs.unlinkMissingOk p = .ok fs') : Frame root fs fs' := by
  unfold PFS.unlinkMissingOk PFS.unlink at h
  cases hg : PFS.get fs p with
  | none =>
    by_cases hw : fs.fileOnWay p = true
    · simp [hg, hw] at h
    · simp only [hg, hw, Bool.false_eq_true, ↓reduceIte] at h
      cases h; exact Frame.refl _ _
  | some n =>
    rw [hg] at h
    have hsb := strictlyBelow_of_not_dir hr (Or.inl hp)
    cases n with
    | dir => cases h
    | dfile d => cases h; exact frame_erase fs (hsb (by rw [hg]; nofun))
    | mfile m => cases h; exact frame_erase fs (hsb (by rw [hg]; nofun))

theorem frame_rmdir {fs fs' : PFS} {p : Path} (hp : strictlyBelow root p)
    (h : fs.rmdir p = .ok fs') : Frame root fs fs' := by
  unfold PFS.rmdir at h
  split at h
  · cases h
  · split at h
    · split at h
      · cases h; exact frame_erase fs hp
      · cases h
    · cases h

theorem File.path_eq {k : Key} {p : Path} (h : File.path root k = .ok p) : p = root ++ compsParts k := by
  unfold File.path at h
  cases hok : compsOK k with
  | false => rw [hok] at h; cases h
  | true =>
    rw [hok] at h
    simp only [Bool.not_true, Bool.false_eq_true, ↓reduceIte] at h
    split at h
    · next hk =>
      rw [List.isEmpty_iff.mp hk]
      cases h; exact (List.append_nil _).symm
    · split at h
      · cases h
      · cases h; exact pathOfC_ok root hok

theorem File.metaPath_eq {k : Key} {mp : Path} (h : File.metaPath root k = .ok mp) :
    compsParts k ≠ [] ∧ ∃ nm, mp = root ++ ((compsParts k).dropLast ++ [metaDirName, nm]) := by
  unfold File.metaPath at h
  cases hok : compsMetaOK k with
  | false => rw [hok] at h; cases h
  | true =>
    rw [hok] at h
    simp only [Bool.not_true, Bool.false_eq_true, ↓reduceIte] at h
    split at h
    · cases h
    · cases h
      refine ⟨?_, _, metaPathOfC_ok root hok⟩
      unfold compsMetaOK at hok
      rw [Bool.and_eq_true] at hok
      simpa using hok.2

theorem strictlyBelow_append (root : Path) {t : List Str} (ht : t ≠ []) : strictlyBelow root (root ++ t) := by
  refine ⟨List.prefix_append _ _, ?_⟩
  intro e
  have := congrArg List.length e
  simp at this
  exact ht this

theorem frame_storeMeta {fs fs' : PFS} {k : Key} {m : UMeta} (hr : rootReady root fs)
    (h : File.storeMeta root fs k m = .ok fs') : Frame root fs fs' := by
  unfold File.storeMeta at h
  obtain ⟨mp, hmp, h⟩ := Except.bind_ok h
  obtain ⟨fs1, h1, h⟩ := Except.bind_ok h
  obtain ⟨_, nm, rfl⟩ := File.metaPath_eq hmp
  have f1 : Frame root fs fs1 := by
    apply frame_mkdirP hr _ h1
    left
    rw [← List.append_assoc, List.dropLast_append_of_ne_nil (by simp), List.append_assoc]
    exact List.prefix_append _ _
  exact f1.trans (frame_write (f1.ready hr) (List.prefix_append _ _) h)

theorem frame_store {fs fs' : PFS} {k : Key} {d : Data} {m : UMeta} (hr : rootReady root fs)
    (h : File.store root fs k d m = .ok fs') : Frame root fs fs' := by
  unfold File.store at h
  obtain ⟨p, hp, h⟩ := Except.bind_ok h
  obtain ⟨_, _, h⟩ := Except.bind_ok h
  obtain ⟨fs1, h1, h⟩ := Except.bind_ok h
  obtain ⟨fs2, h2, h⟩ := Except.bind_ok h
  have hpe := File.path_eq hp
  have f1 : Frame root fs fs1 := by
    apply frame_mkdirP hr _ h1
    by_cases e : compsParts k = []
    · right; rw [e, List.append_nil]; exact List.dropLast_prefix _
    · left; rw [List.dropLast_append_of_ne_nil e]; exact List.prefix_append _ _
  have f2 : Frame root fs1 fs2 := frame_write (f1.ready hr) (hpe ▸ List.prefix_append _ _) h2
  exact (f1.trans f2).trans (frame_storeMeta ((f1.trans f2).ready hr) h)

theorem frame_remove {fs fs' : PFS} {k : Key} (hr : rootReady root fs)
    (h : File.remove root fs k = .ok fs') : Frame root fs fs' := by
  unfold File.remove at h
  obtain ⟨p, hp, h⟩ := Except.bind_ok h
  obtain ⟨fs1, h1, h⟩ := Except.bind_ok h
  obtain ⟨mp, hmp, h⟩ := Except.bind_ok h
  have hpe := File.path_eq hp
  obtain ⟨_, nm, rfl⟩ := File.metaPath_eq hmp
  have f1 : Frame root fs fs1 := frame_unlinkMissingOk hr (hpe ▸ List.prefix_append _ _) h1
  exact f1.trans (frame_unlinkMissingOk (f1.ready hr) (List.prefix_append _ _) h)

theorem frame_makedir {fs fs' : PFS} {k : Key} (hr : rootReady root fs)
    (h : File.makedir root fs k = .ok fs') : Frame root fs fs' := by
  unfold File.makedir at h
  obtain ⟨p, hp, h⟩ := Except.bind_ok h
  obtain ⟨fs1, h1, h⟩ := Except.bind_ok h
  have hpe := File.path_eq hp
  have hrp : root <+: p := hpe ▸ List.prefix_append _ _
  have f1 : Frame root fs fs1 := frame_mkdirP hr (Or.inl hrp) h1
  exact f1.trans (frame_mkdirP (f1.ready hr) (Or.inl (hrp.trans (List.prefix_append _ _))) h)

theorem frame_foldlM {α : Type} (step : PFS → α → Except StoreErr PFS)
    (hstep : ∀ st a st', rootReady root st → step st a = .ok st' → Frame root st st') :
    ∀ (l : List α) (fs fs' : PFS), rootReady root fs → l.foldlM step fs = .ok fs' → Frame root fs fs' := by
  intro l
  induction l with
  | nil =>
    intro fs fs' _ h
    simp only [List.foldlM_nil, pure, Except.pure] at h
    cases h; exact Frame.refl _ _
  | cons a l ih =>
    intro fs fs' hr h
    rw [List.foldlM_cons] at h
    obtain ⟨st, h1, h⟩ := Except.bind_ok h
    have f1 := hstep fs a st hr h1
    exact f1.trans (ih st fs' (f1.ready hr) h)

theorem frame_removedirFuel (n : Nat) :
    ∀ (fs fs' : PFS) (k : Key) (r : Bool), rootReady root fs → File.removedirFuel root n fs k r = .ok fs' → Frame root fs fs' := by
  induction n with
  | zero => intro fs fs' k r _ h; simp [File.removedirFuel] at h
  | succ n ih =>
    intro fs fs' k r hr h
    unfold File.removedirFuel at h
    by_cases hk : k.isEmpty = true
    · simp only [hk, ↓reduceIte] at h
      cases h; exact Frame.refl _ _
    · simp only [hk, Bool.false_eq_true, ↓reduceIte] at h
      obtain ⟨fs1, h1, h⟩ := Except.bind_ok h
      have f1 : Frame root fs fs1 := by
        cases r with
        | false =>
          simp only [Bool.false_eq_true, ↓reduceIte, pure, Except.pure] at h1
          cases h1; exact Frame.refl _ _
        | true =>
          simp only [↓reduceIte] at h1
          obtain ⟨l, hl, h1⟩ := Except.bind_ok h1
          cases l with
          | none => simp at h1
          | some names =>
            simp only at h1
            refine frame_foldlM _ ?_ names fs fs1 hr h1
            intro st nm st' hst hs
            obtain ⟨b, hb, hs⟩ := Except.bind_ok hs
            cases b with
            | true => simp only [↓reduceIte] at hs; exact ih st st' _ true hst hs
            | false => simp only [Bool.false_eq_true, ↓reduceIte] at hs; exact frame_remove hst hs
      obtain ⟨mp, hmp, h⟩ := Except.bind_ok h
      obtain ⟨fs2, h2, h⟩ := Except.bind_ok h
      obtain ⟨p, hp, h⟩ := Except.bind_ok h
      obtain ⟨fs3, h3, h⟩ := Except.bind_ok h
      have hpe := File.path_eq hp
      obtain ⟨hne, nm, hmpe⟩ := File.metaPath_eq hmp
      have hps : strictlyBelow root p := hpe ▸ strictlyBelow_append root hne
      have f2 : Frame root fs1 fs2 := frame_unlinkMissingOk (f1.ready hr) (hmpe ▸ List.prefix_append _ _) h2
      have f3 : Frame root fs2 fs3 := by
        split at h3
        · apply frame_rmdir _ h3
          rw [hpe, List.append_assoc]
          exact strictlyBelow_append root (by simp)
        · simp only [pure, Except.pure] at h3
          cases h3; exact Frame.refl _ _
      exact ((f1.trans f2).trans f3).trans (frame_rmdir hps h)

/-- **state-level containment**: a successful operation of the `FileStore` model changes no path outside the
store's root directory (nor the root directory node itself) -/
theorem frame_apply {fs fs' : PFS} (op : StoreOp) (hr : rootReady root fs)
    (h : (fileOps root).apply fs op = .ok fs') : Frame root fs fs' := by
  cases op with
  | store k d m => exact frame_store hr h
  | storeMeta k m => exact frame_storeMeta hr h
  | remove k => exact frame_remove hr h
  | removedir k r => exact frame_removedirFuel _ fs fs' k r hr h
  | makedir k => exact frame_makedir hr h

theorem frame_step (fs : PFS) (op : StoreOp) (hr : rootReady root fs) :
    Frame root fs ((fileOps root).step fs op) := by
  unfold StoreOps.step
  cases h : (fileOps root).apply fs op with
  | ok fs' => exact frame_apply op hr h
  | error e => exact Frame.refl _ _

theorem frame_run (fs : PFS) (hist : List StoreOp) (hr : rootReady root fs) :
    Frame root fs ((fileOps root).run fs hist) := by
  induction hist generalizing fs with
  | nil => exact Frame.refl _ _
  | cons op rest ih =>
    simp only [StoreOps.run, List.foldl_cons]
    have f1 := frame_step fs op hr
    exact f1.trans (ih _ (f1.ready hr))

end Liquer
