/-
`SQLCache` / `SQLStringCache` (as fixed, `delete_before_insert = True`, `store_metadata_enabled = True`)
refine the given specification `kvOps` (a metadata-only write replaces the row: the data is dropped).
-/
import LiquerProofs.Lemmas.CacheKV
import LiquerModel.CacheSql

namespace Liquer

structure SqlOK (c : SqlCfg) : Prop where
  dbi : c.deleteBeforeInsert = true
  metaOn : c.metaEnabled = true
  dec_enc : ∀ b, c.dec (c.enc b) = some b
  deM_serM : ∀ m, c.deM (c.serM m) = some m
  deD_serD : ∀ t v, c.deD t (c.serD t v) = some v

def rowOf (c : SqlCfg) (k : Str) (e : CMeta × Option Str) : SqlRow :=
  { query := k, metadata := c.serM e.1, data := e.2.map (fun v => c.enc (c.serD e.1.typeId (some v))) }

/-- the first row of a query is the row of the key's binding (`NULL` data for a binding without data), the queries of the rows
are the keys up to order, and the memo is empty or current -/
structure RS (c : SqlCfg) (s : SqlState) (kv : KV) : Prop where
  rowOK : ∀ k, SqlC.fetchone s k = (kv.get k).map (rowOf c k)
  keysOK : (s.rows.map (·.query)).Perm (kv.map (·.1))
  memoOK : s.memo = none ∨ s.memo = some (s.rows.map (·.query))

theorem find_filter_query (rows : List SqlRow) (q k : Str) :
    (rows.filter (fun x => x.query != q)).find? (fun r => r.query == k) =
      if k == q then none else rows.find? (fun r => r.query == k) := by
  -- the table is an association list from query to row, `DELETE … WHERE query=?` its `erase`
  have hget : ∀ l : List SqlRow, l.find? (fun r => r.query == k) = AL.get (l.map fun r => (r.query, r)) k := fun l => by
    rw [AL.get, List.find?_map, Option.map_map]
    exact Option.map_id'.symm
  rw [hget, hget, ← AL.get_erase, AL.erase, List.filter_map]
  rfl

theorem map_query_filter (rows : List SqlRow) (q : Str) :
    (rows.filter (fun x => x.query != q)).map (·.query) = (rows.map (·.query)).filter (· != q) := by
  rw [List.filter_map]; rfl

theorem RS_remove (c : SqlCfg) (s : SqlState) (kv : KV) (R : RS c s kv) (q : Str) :
    RS c { rows := s.rows.filter (fun x => x.query != q), memo := none } (kv.erase q) := by
  refine ⟨fun k => ?_, ?_, Or.inl rfl⟩
  · rw [SqlC.fetchone, find_filter_query, KV.get_erase]
    split
    · rfl
    · exact R.rowOK k
  · rw [KV.erase_eq, AL.keys_erase, map_query_filter]
    exact R.keysOK.filter _

/-- `DELETE` then `INSERT`: the new row is the only one of its query -/
theorem RS_insert (c : SqlCfg) (ok : SqlOK c) (s : SqlState) (kv : KV) (R : RS c s kv) (q : Str) (e : CMeta × Option Str) :
    RS c (SqlC.insert c s (rowOf c q e)) (kv.set q e.1 e.2) := by
  have hdel := RS_remove c s kv R q
  have hins : (SqlC.insert c s (rowOf c q e)).rows = s.rows.filter (fun x => x.query != q) ++ [rowOf c q e] := by
    rw [SqlC.insert, ok.dbi]; rfl
  refine ⟨fun k => ?_, ?_, Or.inl rfl⟩
  · have := hdel.rowOK k
    rw [SqlC.fetchone, KV.get_erase] at this
    rw [SqlC.fetchone, hins, List.find?_append, this, KV.get_set]
    by_cases h : k = q
    · subst h; simp [rowOf]
    · have h' : ¬ q = k := fun x => h x.symm
      simp [h, h', rowOf]
  · rw [hins, List.map_append, KV.set_eq, AL.keys_set, ← AL.keys_erase]
    exact (List.perm_append_singleton q _).trans (hdel.keysOK.cons _)

theorem RS_availableKeys {c : SqlCfg} {s : SqlState} {kv : KV} (R : RS c s kv) :
    RS c (SqlC.availableKeys s).1 kv ∧ (SqlC.availableKeys s).2 = s.rows.map (·.query) := by
  unfold SqlC.availableKeys
  rcases R.memoOK with h | h <;> rw [h]
  · exact ⟨⟨R.rowOK, R.keysOK, Or.inr rfl⟩, rfl⟩
  · exact ⟨R, rfl⟩

theorem RS_init (c : SqlCfg) : RS c {} [] := ⟨fun _ => rfl, .nil, Or.inl rfl⟩

theorem sql_sim (c : SqlCfg) (ok : SqlOK c) : CSim (sqlCOps c) (kvOpsC kvCfgDrop) (RS c) (fun _ op => op.hasData = true) := by
  intro s kv op R hdata
  cases op with
  | get k =>
    refine ⟨R, outEq_of_eq (congrArg CacheOut.state ?_)⟩
    simp only [SqlC.get, R.rowOK k]
    cases h : kv.get k with
    | none => rfl
    | some e =>
      obtain ⟨m, d⟩ := e
      cases d with
      | none => by_cases hr : m.status = ready <;> simp [rowOf, ok.deM_serM, hr]
      | some d => by_cases hr : m.status = ready <;> simp [rowOf, ok.deM_serM, hr, ok.dec_enc, ok.deD_serD]
  | getMeta k =>
    refine ⟨R, outEq_of_eq (congrArg CacheOut.metadata ?_)⟩
    simp only [R.rowOK k]
    cases h : kv.get k with
    | none => rfl
    | some e => simp [rowOf, ok.deM_serM]
  | contains k =>
    obtain ⟨R', hk⟩ := RS_availableKeys R
    refine ⟨R', outEq_of_eq (congrArg CacheOut.bool ?_)⟩
    -- a key is listed iff it is bound
    show (SqlC.availableKeys s).2.contains k = (kv.get k).isSome
    rw [hk, Bool.eq_iff_iff, List.contains_iff_mem, R.keysOK.mem_iff, Option.isSome_iff_exists]
    exact ⟨AL.get_isSome_of_mem_keys, fun ⟨_, hv⟩ => AL.mem_keys_of_get hv⟩
  | keys =>
    obtain ⟨R', hk⟩ := RS_availableKeys R
    exact ⟨R', outEq_keys.2 (hk.symm ▸ R.keysOK)⟩
  | clean => exact ⟨⟨fun _ => rfl, .nil, Or.inr rfl⟩, outEq_refl _⟩
  | remove k => exact ⟨RS_remove c s kv R k, outEq_refl _⟩
  | storeMeta m =>
    simp only [CacheOps.step, kvOpsC_storeMeta_drop, sqlCOps, ok.metaOn, if_true]
    exact ⟨RS_insert c ok s kv R m.query (m, none), outEq_refl _⟩
  | store st =>
    obtain ⟨d, hd⟩ := CacheOp.data_of_hasData hdata
    exact sim_store _ rfl R fun _ => hd ▸ RS_insert c ok s kv R st.metadata.query ({ st.metadata with status := ready }, some d)

end Liquer
