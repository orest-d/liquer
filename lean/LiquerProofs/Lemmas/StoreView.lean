/-
Function-level view of the specification file system: a store's content as a lookup function `Look`, the
specification's operations as functions on lookups (`stepF`), the tree invariant `TreeF`, its preservation by
well-formed operations, and `spec_step_get`: `specOps` computes `stepF`.  The overlay's refinement proof (C15) is stated
against these.
-/
import LiquerProofs.Lemmas.StoreSpec

namespace Liquer.SV
open Liquer

abbrev Look := Key → Option Node

-- for the `decide` of the concrete examples in C14 / C15 / C17, whose statements compare `Except` values
deriving instance DecidableEq for Except

def opKey : StoreOp → Key
  | .store k _ _ => k
  | .storeMeta k _ => k
  | .remove k => k
  | .removedir k _ => k
  | .makedir k => k

theorem get_nil (x : Key) : FS.get [] x = none := rfl

def Anc (a k : Key) : Prop := a ≠ [] ∧ a <+: k ∧ a ≠ k

theorem anc_iff (a k : Key) : Anc a k ↔ a ∈ ancestors k := (mem_ancestors a k).symm

theorem anc_trans {a b c : Key} (h1 : Anc a b) (h2 : b <+: c) : Anc a c := by
  refine ⟨h1.1, h1.2.1.trans h2, ?_⟩
  intro e
  subst e
  exact h1.2.2 (h1.2.1.eq_of_length (Nat.le_antisymm h1.2.1.length_le h2.length_le))

theorem anc_child {k : Key} (hk : k ≠ []) (nm : Str) : Anc k (k ++ [nm]) :=
  ⟨hk, List.prefix_append _ _, fun e => by simpa using congrArg List.length e⟩

def TreeF (g : Look) : Prop := ∀ k n, g k = some n → k ≠ [] ∧ ∀ a, Anc a k → g a = some .dir

def TreeP (fs : FS) : Prop := TreeF fs.get

theorem treeP_of_tree (fs : FS) (h : fs.tree = true) : TreeP fs := by
  have ht := (FS.tree_iff fs).mp h
  intro k n hk
  have hs : (fs.get k).isSome = true := by rw [hk]; rfl
  exact ⟨ht.nonroot k hs, fun a ha => ht.anc k hs a ((anc_iff a k).mp ha)⟩

theorem treeP_nil : TreeP [] := fun _ _ h => nomatch h

theorem TreeF.root_none {g : Look} (hg : TreeF g) : g [] = none := by
  cases h : g [] with
  | none => rfl
  | some n => exact absurd rfl (hg [] n h).1

theorem TreeF.below_not_dir {g : Look} (hg : TreeF g) {k x : Key} (hk : k ≠ []) (hd : g k ≠ some .dir)
    (hp : k <+: x) (hx : x ≠ k) : g x = none := by
  cases hgx : g x with
  | none => rfl
  | some n => exact absurd ((hg x n hgx).2 k ⟨hk, hp, fun e => hx e.symm⟩) hd

theorem TreeF.below_file {g : Look} (hg : TreeF g) {k x : Key} {d : Data} {m : UMeta}
    (hk : g k = some (.file d m)) (hp : k <+: x) (hx : x ≠ k) : g x = none :=
  hg.below_not_dir (hg k _ hk).1 (by rw [hk]; exact fun e => nomatch e) hp hx

theorem TreeF.parent_dir {g : Look} (hg : TreeF g) {k : Key} {nm : Str} {n : Node} (hk : k ≠ [])
    (h : g (k ++ [nm]) = some n) : g k = some .dir :=
  (hg _ n h).2 k (anc_child hk nm)

theorem TreeF.child_on_way {g : Look} (hg : TreeF g) {k : Key} {nm : Str} {rest : Key} {n : Node}
    (h : g (k ++ nm :: rest) = some n) : (g (k ++ [nm])).isSome = true := by
  cases rest with
  | nil => rw [h]; rfl
  | cons r rs =>
    have hanc : Anc (k ++ [nm]) (k ++ nm :: r :: rs) :=
      ⟨by simp, ⟨r :: rs, by simp⟩, fun e => by simpa using congrArg List.length e⟩
    rw [(hg _ n h).2 _ hanc]; rfl

theorem TreeF.no_children_below {g : Look} (hg : TreeF g) {k : Key} (hc : ∀ nm, g (k ++ [nm]) = none) :
    ∀ x, k <+: x → x ≠ k → g x = none := by
  rintro x ⟨t, rfl⟩ hne
  cases t with
  | nil => simp at hne
  | cons nm rest =>
    cases hgx : g (k ++ nm :: rest) with
    | none => rfl
    | some n =>
      have := hg.child_on_way hgx
      rw [hc nm] at this
      cases this

def setF (g : Look) (k : Key) (n : Node) : Look := fun x => if x = k then some n else g x
def eraseF (g : Look) (k : Key) : Look := fun x => if x = k then none else g x
def rmTreeF (g : Look) (k : Key) : Look := fun x => if k <+: x then none else g x
def mkdirsF (g : Look) (ks : List Key) : Look := fun x => if x ∈ ks ∧ g x = none then some .dir else g x
def storeF (g : Look) (k : Key) (n : Node) : Look := setF (mkdirsF g (ancestors k)) k n

/-- what `specOps` does to `FS.get` on well-formed operations (`spec_step_get`); `removedir` ignores the `recursive` flag: a
well-formed non-recursive one is of an empty directory.  "Most recent write or removal wins" of C15 is `stepF` on the overlay's view -/
def stepF (g : Look) : StoreOp → Look
  | .store k d m => storeF g k (.file d { m with size := some d.length, md5 := some d })
  | .storeMeta k m => match g k with
    | some (.file d _) => setF g k (.file d m)
    | _ => g
  | .remove k => eraseF g k
  | .removedir k _ => rmTreeF g k
  | .makedir k => mkdirsF g (ancestors k ++ [k])

/-- well-formed next operation, on a lookup function (`wfOp` of `StoreCore` with `fs.get` abstracted) -/
def WfF (g : Look) : StoreOp → Prop
  | .store k _ _ => k ≠ [] ∧ g k ≠ some .dir ∧ ∀ a, Anc a k → ∀ d m, g a ≠ some (.file d m)
  | .storeMeta k _ => ∃ d m, g k = some (.file d m)
  | .remove k => ∃ d m, g k = some (.file d m)
  | .removedir k recursive => k ≠ [] ∧ g k = some .dir ∧ (recursive = true ∨ ∀ nm, g (k ++ [nm]) = none)
  | .makedir k => k ≠ [] ∧ (∀ d m, g k ≠ some (.file d m)) ∧ ∀ a, Anc a k → ∀ d m, g a ≠ some (.file d m)

section eval
variable {g : Look} {k x : Key} {n : Node} {ks : List Key}

theorem setF_self : setF g k n k = some n := if_pos rfl
theorem setF_ne (h : x ≠ k) : setF g k n x = g x := if_neg h
theorem eraseF_self : eraseF g k k = none := if_pos rfl
theorem eraseF_ne (h : x ≠ k) : eraseF g k x = g x := if_neg h
theorem rmTreeF_below (h : k <+: x) : rmTreeF g k x = none := if_pos h
theorem rmTreeF_off (h : ¬ k <+: x) : rmTreeF g k x = g x := if_neg h
theorem mkdirsF_some (h : g x = some n) : mkdirsF g ks x = some n := by
  rw [← h]; exact if_neg fun c => by rw [h] at c; cases c.2
theorem mkdirsF_off (h : x ∉ ks) : mkdirsF g ks x = g x := if_neg fun c => h c.1
theorem mkdirsF_new (h : x ∈ ks) (hn : g x = none) : mkdirsF g ks x = some .dir := if_pos ⟨h, hn⟩

theorem mkdirsF_dir (h : x ∈ ks) (hf : ∀ d m, g x ≠ some (.file d m)) : mkdirsF g ks x = some .dir := by
  cases hg : g x with
  | none => exact mkdirsF_new h hg
  | some nx =>
    cases nx with
    | dir => exact mkdirsF_some hg
    | file d m => exact absurd hg (hf d m)

theorem storeF_self : storeF g k n k = some n := setF_self
theorem storeF_ne (h : x ≠ k) : storeF g k n x = mkdirsF g (ancestors k) x := setF_ne h

theorem storeF_off (hk : k ≠ []) (hp : ¬ (x ≠ [] ∧ x <+: k)) : storeF g k n x = g x :=
  (storeF_ne fun (e : x = k) => hp ⟨e ▸ hk, e ▸ List.prefix_refl _⟩).trans
    (mkdirsF_off fun h => hp ⟨((mem_ancestors x k).mp h).1, ((mem_ancestors x k).mp h).2.1⟩)

end eval

theorem mem_ancestors_self {k : Key} (hk : k ≠ []) (x : Key) : x ∈ ancestors k ++ [k] ↔ x ≠ [] ∧ x <+: k := by
  rw [← dirList_eq hk]
  exact mem_mkdirP_list k x

theorem mkdirsF_anc_eq (g : Look) (k : Key) (x : Key) (hx : x ≠ k) :
    mkdirsF g (ancestors k ++ [k]) x = mkdirsF g (ancestors k) x := by
  unfold mkdirsF
  simp [hx]

theorem makedirF_eq_storeF {g : Look} {k : Key} (hf : ∀ d m, g k ≠ some (.file d m)) :
    mkdirsF g (ancestors k ++ [k]) = storeF g k .dir := by
  funext x
  by_cases hx : x = k
  · subst hx; rw [storeF_self, mkdirsF_dir (by simp) hf]
  · rw [storeF_ne hx, mkdirsF_anc_eq g k x hx]

theorem storeF_of_present {g : Look} (hg : TreeF g) {k : Key} {n0 : Node} (hk : g k = some n0) (n : Node) :
    storeF g k n = setF g k n := by
  funext x
  by_cases hxk : x = k
  · subst hxk; rw [storeF_self, setF_self]
  · rw [storeF_ne hxk, setF_ne hxk]
    by_cases hx : x ∈ ancestors k
    · have hd := (hg k n0 hk).2 x ((anc_iff x k).mpr hx)
      rw [hd]; exact mkdirsF_some hd
    · exact mkdirsF_off hx

theorem setF_storeF (g : Look) (k : Key) (n n' : Node) : setF (storeF g k n) k n' = storeF g k n' := by
  funext x
  by_cases h : x = k
  · subst h; rw [setF_self, storeF_self]
  · rw [setF_ne h, storeF_ne h, storeF_ne h]

theorem stepF_frame (g : Look) (op : StoreOp) (x : Key) (h1 : ¬ x <+: opKey op) (h2 : ¬ opKey op <+: x) :
    stepF g op x = g x := by
  have hxk : x ≠ opKey op := fun e => h1 (e ▸ List.prefix_refl _)
  have hxa : x ∉ ancestors (opKey op) := fun h => h1 ((mem_ancestors x _).mp h).2.1
  cases op with
  | store k d m => exact (storeF_ne hxk).trans (mkdirsF_off hxa)
  | storeMeta k m =>
    show (match g k with | some (.file d _) => setF g k (.file d m) | _ => g) x = g x
    cases g k with
    | none => rfl
    | some n =>
      cases n with
      | dir => rfl
      | file d m0 => exact setF_ne hxk
  | remove k => exact eraseF_ne hxk
  | removedir k r => exact rmTreeF_off h2
  | makedir k => exact mkdirsF_off fun h => (List.mem_append.mp h).elim hxa fun h => hxk (List.mem_singleton.mp h)

theorem treeF_mkdirsF {g : Look} (hg : TreeF g) {ks : List Key} (hne : ∀ x, x ∈ ks → x ≠ [])
    (hcl : ∀ x, x ∈ ks → ∀ a, Anc a x → a ∈ ks) (hf : ∀ x, x ∈ ks → ∀ d m, g x ≠ some (.file d m)) :
    TreeF (mkdirsF g ks) := by
  intro x n hx
  by_cases hc : x ∈ ks ∧ g x = none
  · exact ⟨hne x hc.1, fun a ha => mkdirsF_dir (hcl x hc.1 a ha) (hf a (hcl x hc.1 a ha))⟩
  · obtain ⟨h0, hanc⟩ := hg x n ((if_neg hc).symm.trans hx)
    exact ⟨h0, fun a ha => mkdirsF_some (hanc a ha)⟩

theorem treeF_setF {g : Look} (hg : TreeF g) {k : Key} (n : Node) (hk : k ≠ [])
    (hanc : ∀ a, Anc a k → g a = some .dir) (hbelow : ∀ x, k <+: x → x ≠ k → g x = none) :
    TreeF (setF g k n) := by
  intro x nx hx
  by_cases hxk : x = k
  · subst hxk
    exact ⟨hk, fun a ha => (setF_ne ha.2.2).trans (hanc a ha)⟩
  · rw [setF_ne hxk] at hx
    obtain ⟨h0, ha⟩ := hg x nx hx
    refine ⟨h0, fun a haa => (setF_ne ?_).trans (ha a haa)⟩
    intro e
    rw [hbelow x (e ▸ haa.2.1) hxk] at hx
    cases hx

theorem treeF_store {g : Look} (hg : TreeF g) (k : Key) (n : Node)
    (hk : k ≠ []) (hkd : g k ≠ some .dir)
    (hf : ∀ a, Anc a k → ∀ d m, g a ≠ some (.file d m)) :
    TreeF (storeF g k n) := by
  have hm : TreeF (mkdirsF g (ancestors k)) :=
    treeF_mkdirsF hg (fun x hx => ((anc_iff x k).mpr hx).1)
      (fun x hx a ha => (anc_iff a k).mp (anc_trans ha ((anc_iff x k).mpr hx).2.1))
      (fun x hx => hf x ((anc_iff x k).mpr hx))
  refine treeF_setF hm n hk (fun a ha => mkdirsF_dir ((anc_iff a k).mp ha) (hf a ha)) ?_
  intro x hp hne
  -- `x` below `k` is not an ancestor of `k`, and `k` is absent or a file
  have hxa : x ∉ ancestors k := fun hx =>
    have hxk := ((anc_iff x k).mpr hx).2.1
    hne (hxk.eq_of_length (Nat.le_antisymm hxk.length_le hp.length_le))
  rw [mkdirsF_off hxa]
  exact hg.below_not_dir hk hkd hp hne

theorem treeF_setFile {g : Look} (hg : TreeF g) (k : Key) (d d' : Data) (m m' : UMeta)
    (hk : g k = some (.file d m)) : TreeF (setF g k (.file d' m')) :=
  treeF_setF hg _ (hg k _ hk).1 (hg k _ hk).2 (fun _ hp hne => hg.below_file hk hp hne)

theorem treeF_rmTree {g : Look} (hg : TreeF g) (k : Key) : TreeF (rmTreeF g k) := by
  intro x n hx
  by_cases hp : k <+: x
  · rw [rmTreeF_below hp] at hx; cases hx
  · rw [rmTreeF_off hp] at hx
    obtain ⟨h0, hanc⟩ := hg x n hx
    exact ⟨h0, fun a ha => (rmTreeF_off fun h => hp (h.trans ha.2.1)).trans (hanc a ha)⟩

theorem eraseF_eq_rmTreeF {g : Look} (k : Key) (h : ∀ x, k <+: x → x ≠ k → g x = none) :
    eraseF g k = rmTreeF g k := by
  funext x
  by_cases hxk : x = k
  · subst hxk; rw [eraseF_self, rmTreeF_below (List.prefix_refl _)]
  · rw [eraseF_ne hxk]
    by_cases hp : k <+: x
    · rw [rmTreeF_below hp, h x hp hxk]
    · rw [rmTreeF_off hp]

theorem treeF_step {g : Look} (hg : TreeF g) (op : StoreOp) (hw : WfF g op) : TreeF (stepF g op) := by
  cases op with
  | store k d m =>
    obtain ⟨hk, hkd, hf⟩ := hw
    exact treeF_store hg k _ hk hkd hf
  | storeMeta k m =>
    obtain ⟨d, m0, hk⟩ := hw
    simp only [stepF, hk]
    exact treeF_setFile hg k d d m0 m hk
  | remove k =>
    obtain ⟨d, m0, hk⟩ := hw
    simp only [stepF]
    rw [eraseF_eq_rmTreeF k (fun x hp hne => hg.below_file hk hp hne)]
    exact treeF_rmTree hg k
  | removedir k r => exact treeF_rmTree hg k
  | makedir k =>
    obtain ⟨hk, hkf, hf⟩ := hw
    refine treeF_mkdirsF hg (fun x hx => ((mem_ancestors_self hk x).mp hx).1)
      (fun x hx a ha => (mem_ancestors_self hk a).mpr ⟨ha.1, ha.2.1.trans ((mem_ancestors_self hk x).mp hx).2⟩) ?_
    intro x hx d m
    obtain ⟨h0, hp⟩ := (mem_ancestors_self hk x).mp hx
    by_cases e : x = k
    · subst e; exact hkf d m
    · exact hf x ⟨h0, hp, e⟩ d m

theorem get_set_eq (fs : FS) (k : Key) (n : Node) : (fs.set k n).get = setF fs.get k n := by
  funext x
  rw [FS.get_set]
  by_cases h : x = k
  · subst h; rw [if_pos rfl, setF_self]
  · rw [if_neg (Ne.symm h), setF_ne h]

theorem get_erase_eq (fs : FS) (k : Key) : (fs.erase k).get = eraseF fs.get k :=
  funext fun x => FS.get_erase fs k x

theorem get_mkdirs_eq (fs : FS) (ks : List Key) : (fs.mkdirs ks).get = mkdirsF fs.get ks :=
  funext fun x => FS.get_mkdirs ks fs x

theorem get_rmTree_eq (fs : FS) (k : Key) : (fs.prune k).get = rmTreeF fs.get k :=
  funext fun x => FS.get_prune fs k x

theorem spec_removedir_empty {fs : FS} {k : Key} (hk : k ≠ []) (hc : (fs.children k).isEmpty = true) :
    specOps.removedir fs k false = .ok (fs.erase k) := by
  show (if k.isEmpty then _ else if false = true then _ else if (fs.children k).isEmpty then _ else _) = _
  rw [List.isEmpty_eq_false_iff.mpr hk, hc]; rfl

theorem spec_apply_get (fs : FS) (op : StoreOp) (ht : TreeP fs) (hw : WfF fs.get op) :
    ∃ fs', specOps.apply fs op = .ok fs' ∧ fs'.get = stepF fs.get op ∧ TreeP fs' := by
  have key : ∃ fs', specOps.apply fs op = .ok fs' ∧ fs'.get = stepF fs.get op := by
    cases op with
    | store k d m => exact ⟨_, rfl, (get_set_eq _ k _).trans (by rw [get_mkdirs_eq]; rfl)⟩
    | storeMeta k m =>
      obtain ⟨d, m0, hk⟩ := hw
      refine ⟨fs.set k (.file d m), ?_, ?_⟩
      · show (match fs.get k with
          | some (.file d _) => Except.ok (fs.set k (.file d m))
          | _ => Except.error StoreErr.other) = _
        rw [hk]
      · show _ = (match fs.get k with
          | some (.file d _) => setF fs.get k (.file d m)
          | _ => fs.get)
        rw [hk]
        exact get_set_eq fs k _
    | remove k => exact ⟨_, rfl, get_erase_eq fs k⟩
    | removedir k r =>
      obtain ⟨hk, _, hc⟩ := hw
      cases r with
      | true =>
        refine ⟨fs.prune k, ?_, get_rmTree_eq fs k⟩
        show (if k.isEmpty then _ else _) = _
        rw [List.isEmpty_eq_false_iff.mpr hk]; rfl
      | false =>
        -- a directory without children: erasing it is removing its (one-node) subtree
        have hnc : ∀ nm, fs.get (k ++ [nm]) = none := hc.resolve_left (fun e => nomatch e)
        refine ⟨fs.erase k, spec_removedir_empty hk ((FS.children_isEmpty fs k).mpr hnc), ?_⟩
        rw [get_erase_eq, eraseF_eq_rmTreeF k (TreeF.no_children_below ht hnc)]
        rfl
    | makedir k =>
      refine ⟨fs.mkdirs (ancestors k ++ [k]), ?_, get_mkdirs_eq fs _⟩
      show Except.ok (fs.mkdirs (ancestors k ++ (if k.isEmpty then [] else [k]))) = _
      rw [List.isEmpty_eq_false_iff.mpr hw.1]; rfl
  obtain ⟨fs', h1, h2⟩ := key
  exact ⟨fs', h1, h2, by unfold TreeP; rw [h2]; exact treeF_step ht op hw⟩

theorem spec_step_get (fs : FS) (op : StoreOp) (ht : TreeP fs) (hw : WfF fs.get op) :
    (specOps.step fs op).get = stepF fs.get op ∧ TreeP (specOps.step fs op) := by
  obtain ⟨fs', h1, h2⟩ := spec_apply_get fs op ht hw
  unfold StoreOps.step
  rw [h1]
  exact h2

theorem wfF_of_wfOp (fs : FS) (op : StoreOp) (h : wfOp fs op = true) : WfF fs.get op := by
  have notFile : ∀ {a : Key}, fs.get a = none ∨ fs.get a = some .dir → ∀ d m, fs.get a ≠ some (.file d m) :=
    fun h d m e => by rcases h with h | h <;> rw [h] at e <;> cases e
  have hs := wfOp_step h
  generalize specOps.step fs op = fs' at hs
  cases hs with
  | store d m hk hnd hanc => exact ⟨hk, hnd, fun a ha => notFile (hanc a ((anc_iff a _).mp ha))⟩
  | storeMeta m hg => exact ⟨_, _, hg⟩
  | remove hg => exact ⟨_, _, hg⟩
  | removeTree hk hd => exact ⟨hk, hd, Or.inl rfl⟩
  | removeEmpty hk hd hc => exact ⟨hk, hd, Or.inr ((FS.children_isEmpty fs _).mp hc)⟩
  | makedir hk hall =>
    exact ⟨hk, notFile (hall _ (by simp)), fun a ha => notFile (hall a (by simp [(anc_iff a _).mp ha]))⟩

def rdContains (g : Look) (k : Key) : Bool := k.isEmpty || (g k).isSome
def rdIsDir (g : Look) (k : Key) : Bool := k.isEmpty || g k == some .dir
def rdBytes (g : Look) (k : Key) : Except StoreErr Data :=
  match g k with
  | some (.file d _) => .ok d
  | _ => .error .keyNotFound
def rdMeta (g : Look) (k : Key) : Except StoreErr MetaObs :=
  match g k with
  | some (.file _ m) => .ok { key := k, name := keyName k, isDir := false, size := m.size, md5 := m.md5, user := m.user }
  | some .dir => .ok { key := k, name := keyName k, isDir := true, size := none, md5 := none, user := [] }
  | none => if k.isEmpty then .ok { key := k, name := [], isDir := true, size := none, md5 := none, user := [] }
            else .error .keyNotFound

section congr
variable {g g' : Look} {k : Key} (h : g k = g' k)
include h

theorem rdContains_congr : rdContains g k = rdContains g' k := by unfold rdContains; rw [h]
theorem rdIsDir_congr : rdIsDir g k = rdIsDir g' k := by unfold rdIsDir; rw [h]
theorem rdBytes_congr : rdBytes g k = rdBytes g' k := by unfold rdBytes; rw [h]
theorem rdMeta_congr : rdMeta g k = rdMeta g' k := by unfold rdMeta; rw [h]

end congr

theorem spec_contains (fs : FS) (k : Key) : specOps.contains fs k = .ok (rdContains fs.get k) := rfl
theorem spec_isDir (fs : FS) (k : Key) : specOps.isDir fs k = .ok (rdIsDir fs.get k) := rfl
theorem spec_getBytes (fs : FS) (k : Key) : specOps.getBytes fs k = rdBytes fs.get k := rfl
theorem spec_getMeta (fs : FS) (k : Key) : specOps.getMeta fs k = rdMeta fs.get k := rfl
theorem spec_keys (fs : FS) : specOps.keys fs = .ok (fs.map (·.1)) := rfl
theorem spec_listdir (fs : FS) (k : Key) :
    specOps.listdir fs k = .ok (if rdIsDir fs.get k then some (fs.children k) else none) := by
  show (if fs.isDirB k then _ else _) = _
  unfold FS.isDirB rdIsDir
  split <;> rfl

end Liquer.SV
