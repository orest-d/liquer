/-
Lemmas about nested mount-point stores (C14): the real `is_supported` of a mounted composite (`Mt.supports`), lifting of
directory flags / listings / reads through a level (the `*_part` lemmas of `StoreMount.lean` with the route of the outer
composite, which exists as soon as the inner composite supports the key), and the link between the "before the repair"
model and `Mt.isDir`.
-/
import LiquerModel.StoreMountNested
import LiquerProofs.Lemmas.StoreMount

namespace Liquer.MtN
open Liquer Liquer.SV Liquer.MtL

variable {σ : Type}

/-- the fall-through: when the entry mounted last refuses the key, `route_to` goes on with the entries mounted before it
(and finally the default store) -/
theorem routeIdx_refused_last (supp : σ → Key → Bool) (tbl : List (Key × σ)) (p : Key) (st : σ) (k : Key)
    (hh : Mt.hit supp p st k = false) : Mt.routeIdx supp (tbl ++ [(p, st)]) k = Mt.routeIdx supp tbl k := by
  induction tbl with
  | nil => simp [Mt.routeIdx, hh]
  | cons e rest ih =>
    obtain ⟨q, st'⟩ := e
    simp only [List.cons_append, Mt.routeIdx, ih]

variable (P : StoreOps σ) (supp : σ → Key → Bool)

theorem supports_of_isDir (s : MtState σ) (k : Key) (h : Mt.isDir P supp s k = .ok true) :
    Mt.supports P supp s k = true := by
  unfold Mt.supports
  rw [h]
  rfl

theorem supports_above (s : MtState σ) (k : Key) (h : Above s.2 k) : Mt.supports P supp s k = true :=
  supports_of_isDir P supp s k (isDir_above P supp s k h)

theorem route_leaf (st : σ) (k : Key) : Mt.route supp (Mt.leaf st) k = .ok .dflt := rfl

theorem supports_leaf (st : σ) (k : Key) (h : supp st k = true) : Mt.supports P supp (Mt.leaf st) k = true := by
  unfold Mt.supports
  rw [route_leaf]
  simp [Mt.routedSupports, Mt.leaf, h]

theorem leaf_getBytes (st : σ) (k : Key) : (mountOps P supp).getBytes (Mt.leaf st) k = P.getBytes st k := rfl

theorem leaf_isDir (st : σ) (k : Key) (hk : k ≠ []) : (mountOps P supp).isDir (Mt.leaf st) k = P.isDir st k := by
  show Mt.isDir P supp (Mt.leaf st) k = _
  unfold Mt.isDir
  rw [route_leaf, if_neg (by simpa [Mt.aboveMount, Mt.leaf] using hk)]
  rfl

section lift
variable {P supp}
variable {o : MtState (MtState σ)} (hwf : tableWF (o.2.map (·.1)) = true)
  {i : Nat} {p : Key} {m : MtState σ} (hi : o.2[i]? = some (p, m)) {q : Key} (ho : Owns o.2 i (p ++ q))
include hwf hi ho

theorem nested_route (hs : q = [] ∨ Mt.supports P supp m q = true) :
    Mt.route (Mt.supports P supp) o (p ++ q) = .ok (.part i) :=
  route_owned _ o hwf (p ++ q) i p m hi ho (hit_append _ p m q hs)

theorem nested_isDir_lift (hd : (mountOps P supp).isDir m q = .ok true) :
    (nestedOps P supp).isDir o (p ++ q) = .ok true := by
  by_cases ha : Above o.2 (p ++ q)
  · exact isDir_above _ _ o _ ha
  · have := isDir_part (mountOps P supp) (nested_route hwf hi ho (Or.inr (supports_of_isDir P supp m q hd))) hi
      (List.prefix_append p q) ha
    rw [List.drop_left] at this
    exact this.trans hd

theorem nested_contains_lift (hd : (mountOps P supp).isDir m q = .ok true) :
    (nestedOps P supp).contains o (p ++ q) = .ok true :=
  contains_of_isDir _ _ o _ (nested_isDir_lift hwf hi ho hd)

theorem nested_listBase (hs : q = [] ∨ Mt.supports P supp m q = true) :
    Mt.listBase (mountOps P supp) (Mt.supports P supp) o (p ++ q) =
      ((mountOps P supp).listdir m q).map (fun x => x.getD []) := by
  have := listBase_part (mountOps P supp) (nested_route hwf hi ho hs) hi (List.prefix_append p q)
  rwa [List.drop_left] at this

end lift

theorem listdir_mount_child (s : MtState σ) (k : Key) (c : Str) (rest : Key) (st : σ)
    (hm : (k ++ [c] ++ rest, st) ∈ s.2) (r : Option (List Str)) (h : (mountOps P supp).listdir s k = .ok r) :
    ∃ l, r = some l ∧ c ∈ l := by
  change (Mt.listdirL P supp s k).map some = _ at h
  unfold Mt.listdirL at h
  cases hb : Mt.listBase P supp s k with
  | error e => rw [hb] at h; cases h
  | ok d =>
    rw [hb] at h
    cases h
    refine ⟨_, rfl, ?_⟩
    rw [(sortNames_spec _).2, List.mem_append, List.mem_filterMap]
    exact Or.inr ⟨(k ++ [c] ++ rest, st), hm, (mountChild_iff k _ (by simp) c).mpr ⟨rest, rfl⟩⟩

theorem listdir_ok_iff (s : MtState σ) (k : Key) :
    (∃ r, (mountOps P supp).listdir s k = .ok r) ↔ ∃ b, Mt.listBase P supp s k = .ok b := by
  show (∃ r, (Mt.listdirL P supp s k).map some = .ok r) ↔ _
  unfold Mt.listdirL
  cases Mt.listBase P supp s k with
  | error e => exact ⟨fun ⟨r, h⟩ => (nomatch h), fun ⟨b, h⟩ => (nomatch h)⟩
  | ok d => exact ⟨fun _ => ⟨d, rfl⟩, fun _ => ⟨_, rfl⟩⟩

section liftList
variable {P supp}
variable {o : MtState (MtState σ)} (hwf : tableWF (o.2.map (·.1)) = true)
  {i : Nat} {p : Key} {m : MtState σ} (hi : o.2[i]? = some (p, m)) {q : Key} (ho : Owns o.2 i (p ++ q))
  (hs : q = [] ∨ Mt.supports P supp m q = true)
include hwf hi ho hs

theorem nested_listdir_union (ol : Option (List Str)) (hl : (mountOps P supp).listdir m q = .ok ol) :
    ∃ l, (nestedOps P supp).listdir o (p ++ q) = .ok (some l) ∧ l.Nodup ∧
      ∀ nm, nm ∈ l ↔ nm ∈ ol.getD [] ∨ ∃ q' m', (q', m') ∈ o.2 ∧ (p ++ q ++ [nm]) <+: q' := by
  refine mount_listdir (mountOps P supp) (Mt.supports P supp) o hwf (p ++ q) (ol.getD []) ?_
  rw [nested_listBase hwf hi ho hs, hl]
  rfl

theorem nested_listdir_sub (r : Option (List Str)) (h : (nestedOps P supp).listdir o (p ++ q) = .ok r) :
    ∃ ol l, (mountOps P supp).listdir m q = .ok ol ∧ r = some l ∧ ∀ nm, nm ∈ ol.getD [] → nm ∈ l := by
  obtain ⟨b, hb⟩ := (listdir_ok_iff (mountOps P supp) (Mt.supports P supp) o (p ++ q)).mp ⟨r, h⟩
  rw [nested_listBase hwf hi ho hs] at hb
  cases hl : (mountOps P supp).listdir m q with
  | error e => rw [hl] at hb; cases hb
  | ok ol =>
    obtain ⟨l, h1, _, h3⟩ := nested_listdir_union hwf hi ho hs ol hl
    rw [h1] at h
    cases h
    exact ⟨ol, l, rfl, rfl, fun nm hnm => (h3 nm).mpr (Or.inl hnm)⟩

end liftList

theorem routeIdxOld_lift (tbl : List (Key × σ)) (k : Key) :
    Mt.routeIdxOld (Mt.liftSupp supp) tbl k = some (Mt.routeIdx supp tbl k) := by
  induction tbl with
  | nil => rfl
  | cons e rest ih =>
    obtain ⟨p, st⟩ := e
    simp only [Mt.routeIdxOld, Mt.routeIdx, ih]
    cases Mt.routeIdx supp rest k with
    | some i => rfl
    | none =>
      simp only [Mt.hit, Mt.liftSupp]
      by_cases h1 : k = p
      · subst h1; simp
      · simp only [beq_eq_false_iff_ne.mpr h1, Bool.false_eq_true, ↓reduceIte, Bool.false_or]
        cases p.isPrefixOf k with
        | false => rfl
        | true => cases supp st (k.drop p.length) <;> rfl

theorem isDirOld_lift (s : MtState σ) (k : Key) :
    Mt.isDirOld P.isDir (Mt.liftSupp supp) s k = Mt.isDir P supp s k := by
  unfold Mt.isDirOld Mt.isDir Mt.route
  rw [routeIdxOld_lift]
  split
  · rfl
  · cases Mt.routeIdx supp s.2 k with
    | some i =>
      simp only [Mt.readAt]
      cases s.2[i]? with
      | none => rfl
      | some e => rfl
    | none => cases hd : s.1 <;> simp [Mt.readAt, hd]

end Liquer.MtN
