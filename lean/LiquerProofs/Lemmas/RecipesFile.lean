/-
C08 over the `FileStore` model `fileOps root`: what the recipe layer needs of it at one plain key that is not the
status file (`fileAt`).
-/
import LiquerProofs.Lemmas.Recipes
import LiquerProofs.Lemmas.StoreFileKey

namespace Liquer.Rcp
open Liquer

theorem plainC_statusFile : PlainC statusFile := by decide +kernel

theorem statusKey_plain {k : Key} (hk : PlainKey k) (d : Bool) : PlainKey (statusKeyOf d k) := by
  unfold statusKeyOf
  cases d
  · exact (PlainKey.dropLast hk).concat plainC_statusFile
  · exact hk.concat plainC_statusFile

theorem statusKey_ne_nil (d : Bool) (k : Key) : statusKeyOf d k ≠ [] := by simp [statusKeyOf]

theorem statusKey_dropLast_false (k : Key) : (statusKeyOf false k).dropLast = k.dropLast := by
  simp [statusKeyOf, parentKey]

variable {root : Path}

theorem status_paths_ne {k : Key} (hk : PlainKey k) (hk0 : k ≠ []) (hsf : keyName k ≠ statusFile) (d : Bool) :
    root ++ k ≠ root ++ statusKeyOf d k ∧ root ++ k ≠ root ++ metaRel (statusKeyOf d k) ∧
    root ++ metaRel k ≠ root ++ statusKeyOf d k ∧ root ++ metaRel k ≠ root ++ metaRel (statusKeyOf d k) := by
  have hsp := statusKey_plain hk d
  refine ⟨?_, ?_, ?_, ?_⟩
  · rw [Ne, root_append_inj]; exact fun e => statusKey_ne hsf d k e.symm
  · rw [Ne, root_append_inj]; exact plain_ne_metaRel hk.no_meta _
  · rw [Ne, root_append_inj]; exact fun e => plain_ne_metaRel hsp.no_meta _ e.symm
  · rw [Ne, root_append_inj]
    intro e
    exact statusKey_ne hsf d k (metaRel_inj hk0 (statusKey_ne_nil d k) e).symm

/-- a successful `create_status` of a key that is not a directory stored the status file next to it -/
theorem status_touch (cfg : Cfg) (st : RState PFS) {k : Key} (hk : PlainKey k) (hk0 : k ≠ [])
    (hp : st.sub.get (root ++ k) = none) (hnd : recipeDir cfg.recipes k = false) {d : Bool} {s' : PFS}
    (hd : isDir (fileOps root) cfg st k = .ok d)
    (hst : (fileOps root).store st.sub (statusKeyOf d k) [] statusMeta = .ok s') :
    d = false ∧ Touch root (statusKeyOf false k) st.sub s' := by
  rw [isDir_of_sub (fileOps root) cfg (File.reads_none _ hk hk0 hp).2, hnd] at hd
  cases hd
  exact ⟨rfl, File.store_touch (statusKey_plain hk false) (statusKey_ne_nil false k) hst⟩

/-- `create_status` keeps the entry of a key (an entry without data file: provided the key is not a directory of recipes) -/
theorem createStatus_entry (cfg : Cfg) (st : RState PFS) {k : Key} (hk : PlainKey k) (hk0 : k ≠ []) (hsf : keyName k ≠ statusFile)
    {x : Option PNode} {um : UMeta} (hx : x ≠ some .dir) (hnd : x = none → recipeDir cfg.recipes k = false)
    (h : FEntry root st.sub k x um) : FEntry root (createStatus (fileOps root) cfg st k).sub k x um := by
  refine createStatus_cases (P := fun st' => FEntry root st'.sub k x um) (fileOps root) cfg st k h fun d s' hd hst => ?_
  obtain ⟨e1, e2, e3⟩ := h
  cases x with
  | some y =>
    have ht := File.store_touch (statusKey_plain hk d) (statusKey_ne_nil d k) hst
    obtain ⟨n1, n2, n3, n4⟩ := status_paths_ne (root := root) hk hk0 hsf d
    exact ⟨ht.keep_some e1 n1 n2, ht.keep_some e2 n3 n4, fun a ha => ht.keep_dir (e3 a ha)⟩
  | none =>
    obtain ⟨rfl, ht⟩ := status_touch cfg st hk hk0 e1 (hnd rfl) hd hst
    obtain ⟨n1, n2, n3, n4⟩ := status_paths_ne (root := root) hk hk0 hsf false
    refine ⟨ht.keep_none e1 n1 n2 ?_, ht.keep_some e2 n3 n4, fun a ha => ht.keep_dir (e3 a ha)⟩
    rw [statusKey_dropLast_false]
    exact key_not_prefix_mdir root hk hk0

theorem createStatus_gone (cfg : Cfg) (st : RState PFS) {k : Key} (hk : PlainKey k) (hk0 : k ≠ []) (hsf : keyName k ≠ statusFile)
    (hnd : recipeDir cfg.recipes k = false) (h : FGone root st.sub k) :
    FGone root (createStatus (fileOps root) cfg st k).sub k := by
  refine createStatus_cases (P := fun st' => FGone root st'.sub k) (fileOps root) cfg st k h fun d s' hd hst => ?_
  obtain ⟨h1, h2, h3⟩ := h
  obtain ⟨rfl, ht⟩ := status_touch cfg st hk hk0 h1 hnd hd hst
  obtain ⟨n1, n2, n3, n4⟩ := status_paths_ne (root := root) hk hk0 hsf false
  have hm : (statusKeyOf false k).dropLast ++ [metaDirName] = k.dropLast ++ [metaDirName] := by
    rw [statusKey_dropLast_false]
  refine ⟨ht.keep_none h1 n1 n2 (hm ▸ key_not_prefix_mdir root hk hk0),
    ht.keep_none h2 n3 n4 (hm ▸ metaRel_not_prefix_mdir root k), ht.noFile h3 ?_ ?_⟩
  · rw [← hm]
    exact key_not_prefix_mdir root (statusKey_plain hk false) (statusKey_ne_nil false k)
  · rw [← hm]
    exact metaRel_not_prefix_mdir root _

def fileAt (root : Path) (cfg : Cfg) {k : Key} (hk : PlainKey k) (hk0 : k ≠ []) (hsf : keyName k ≠ statusFile) :
    AtKey (fileOps root) cfg k where
  W s := fileWritable root s k = true ∧ s.get (root ++ k) ≠ some .dir
  NoData s := s.get (root ++ k) = none
  Ent s x um := FEntry root s k (x.map .dfile) um
  Gone s := FGone root s k
  dirOK := recipeDir cfg.recipes k = false
  store_ok d m hw := File.store_ok _ hk hk0 d m hw.1 hw.2
  storeMeta_new m hw hn := by
    have := File.storeMeta_ok _ hk hk0 m hw.1
    rwa [hn] at this
  storeMeta_ent um' h := by
    have := File.storeMeta_ok _ hk hk0 um' h.writable
    rwa [h.1] at this
  remove_ok hw := File.remove_ok _ hk hk0 hw.1 hw.2
  ent_w {_ x _} h := ⟨h.writable, by rw [h.1]; cases x <;> nofun⟩
  gone_w g := ⟨g.writable, by rw [g.1]; nofun⟩
  getMeta_ent {_ x _} h := ⟨false, File.getMeta_mfile _ hk hk0 (by rw [h.1]; cases x <;> nofun) h.2.1⟩
  getBytes_data h := ⟨by show File.contains root _ k = _; rw [File.contains_plain _ hk hk0, h.1]; rfl,
    File.getBytes_dfile _ hk h.1⟩
  getBytes_none h := File.getBytes_none _ hk h.1
  gone_reads g := ⟨(File.reads_none _ hk hk0 g.1).1, (File.reads_none _ hk hk0 g.1).2, File.getMeta_absent _ hk hk0 g.1 g.2.1⟩
  status_ent {_ x _} h hx :=
    createStatus_entry cfg _ hk hk0 hsf (by cases x <;> nofun) (fun e => hx (Option.map_eq_none_iff.mp e)) h
  status_gone g hnd := createStatus_gone cfg _ hk hk0 hsf hnd g

end Liquer.Rcp

