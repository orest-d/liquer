/-
Lemmas about composites whose default store is a read-only view (C17 ∘ C14): `mountOps (partOps S) supp` on states
`(some (.ro s), tbl)`.
-/
import LiquerModel.StoreMountRO
import LiquerModel.StoreMem
import LiquerProofs.Lemmas.StoreMount

namespace Liquer

-- for the `decide` of the examples of C17 on `MemoryStore` parts
deriving instance DecidableEq for MemState

namespace MtRO
open Liquer Liquer.SV Liquer.MtL

variable {σ : Type}

theorem part_apply_ro (S : StoreOps σ) (s : σ) (op : StoreOp) : (partOps S).apply (.ro s) op = .error .readOnly := by
  cases op <;> rfl

theorem part_apply_rw (S : StoreOps σ) (s : σ) (op : StoreOp) :
    (partOps S).apply (.rw s) op = (S.apply s op).map .rw := by
  cases op <;> rfl

theorem part_apply_tag (S : StoreOps σ) (st st' : Part σ) (op : StoreOp) (h : (partOps S).apply st op = .ok st') :
    st'.isRO = st.isRO := by
  cases st with
  | ro x => rw [part_apply_ro] at h; cases h
  | rw x =>
    rw [part_apply_rw] at h
    cases hx : S.apply x op with
    | error e => rw [hx] at h; cases h
    | ok x' => rw [hx] at h; cases h; rfl

theorem foldl_inv {α β : Type} (Pr : β → Prop) (g : β → α → β) (l : List α) (b : β) (hb : Pr b)
    (hg : ∀ b a, Pr b → Pr (g b a)) : Pr (l.foldl g b) := by
  induction l generalizing b with
  | nil => exact hb
  | cons a l ih => exact ih (g b a) (hg b a hb)

/-- `Pr` is kept by every routed mutator -/
def KeptByWrites {τ : Type} (P : StoreOps τ) (supp : τ → Key → Bool) (Pr : MtState τ → Prop) : Prop :=
  ∀ (s s' : MtState τ) (op : StoreOp), Pr s →
    Mt.routedWrite P supp s (opKey op) (fun Q st => Q.apply st op) = .ok s' → Pr s'

section inv
variable {τ : Type} (P : StoreOps τ) (supp : τ → Key → Bool) (Pr : MtState τ → Prop) (hk : KeptByWrites P supp Pr)
include hk

theorem rmStep_inv (recur : MtState τ → Key → MtState τ × Option StoreErr)
    (hrec : ∀ st c, Pr st → Pr (recur st c).1) (k : Key) (acc : MtState τ × Option StoreErr) (nm : Str) :
    Pr acc.1 → Pr (rmStep P supp recur k acc nm).1 := by
  fun_cases rmStep P supp recur k acc nm <;> intro hacc
  · exact hacc                                   -- an error is recorded already: the child is skipped
  · exact hacc                                   -- `is_dir` raised
  · exact hrec _ _ hacc                          -- a directory: the recursive call
  · exact hacc                                   -- a file, `remove` raised
  · exact hk acc.1 _ (.remove _) hacc ‹_›        -- a file, removed

theorem rmTail_inv (k : Key) (w : MtState τ × Option StoreErr) : Pr w.1 → Pr (rmTail P supp k w).1 := by
  fun_cases rmTail P supp k w <;> intro hw
  · exact hw                                         -- the walk ended with an error
  · exact hw                                         -- `k` is a mount point: refused
  · exact hw                                         -- the routed `removedir` raised
  · exact hk w.1 _ (.removedir k false) hw ‹_›       -- the routed `removedir` succeeded

theorem removedirX_inv (n : Nat) :
    ∀ (s : MtState τ) (k : Key) (r : Bool), Pr s → Pr (Mt.removedirX P supp n s k r).1 := by
  induction n with
  | zero => intro s k r hs; exact hs
  | succ n ih =>
    intro s k r hs
    by_cases hke : k = []
    · subst hke; exact hs
    · rw [removedirX_succ P supp n s hke r]
      refine rmTail_inv P supp Pr hk k _ ?_
      cases r with
      | false => exact hs
      | true =>
        show Pr (rmWalk P supp _ s k).1
        unfold rmWalk
        split
        · exact hs
        · exact foldl_inv (fun acc : MtState τ × Option StoreErr => Pr acc.1) _ _ _ hs (rmStep_inv P supp Pr hk _ (fun st c => ih st c true) k)

theorem stepX_inv (s : MtState τ) (op : StoreOp) (hs : Pr s) : Pr (Mt.stepX P supp s op) := by
  cases hop : isRemovedir op with
  | true =>
    cases op with
    | removedir k r => exact removedirX_inv P supp Pr hk _ s k r hs
    | _ => cases hop
  | false =>
    rw [stepX_eq_step P supp s hop, StoreOps.step, mount_apply_routed P supp s op hop]
    split
    · exact hk s _ op hs ‹_›
    · exact hs

omit hk in
theorem step_eq_or (s : MtState τ) (op : StoreOp) :
    (mountOps P supp).step s op = s ∨ (mountOps P supp).step s op = Mt.stepX P supp s op := by
  cases op with
  | removedir k r =>
    simp only [StoreOps.step, StoreOps.apply, mountOps, Mt.stepX, Mt.removedir]
    cases hx : Mt.removedirFull P supp s k r with
    | mk s1 e => cases e <;> simp
  | _ => exact Or.inr rfl

theorem step_inv (s : MtState τ) (op : StoreOp) (hs : Pr s) : Pr ((mountOps P supp).step s op) := by
  rcases step_eq_or P supp s op with h | h
  · rw [h]; exact hs
  · rw [h]; exact stepX_inv P supp Pr hk s op hs

theorem runX_inv (s : MtState τ) (h : List StoreOp) (hs : Pr s) : Pr (Mt.runX P supp s h) :=
  foldl_inv Pr _ h s hs (fun b a hb => stepX_inv P supp Pr hk b a hb)

theorem run_inv (s : MtState τ) (h : List StoreOp) (hs : Pr s) : Pr ((mountOps P supp).run s h) :=
  foldl_inv Pr _ h s hs (fun b a hb => step_inv P supp Pr hk b a hb)

end inv

/-- the default store refuses every mutator (or answers with its own state) -/
def Frozen {τ : Type} (P : StoreOps τ) (d : τ) : Prop := ∀ op d', P.apply d op = .ok d' → d' = d

theorem frozen_ro (S : StoreOps σ) (x : σ) : Frozen (partOps S) (.ro x) := by
  intro op d' h
  rw [part_apply_ro] at h
  cases h

theorem kept_fst {τ : Type} (P : StoreOps τ) (supp : τ → Key → Bool) (d : τ) (hfz : Frozen P d) :
    KeptByWrites P supp (fun s => s.1 = some d) := by
  intro s s' op hs h
  unfold Mt.routedWrite at h
  cases hr : Mt.route supp s (opKey op) with
  | error e => rw [hr] at h; cases h
  | ok r =>
    rw [hr] at h
    rcases writeAt_ok P (show Mt.writeAt P s r (fun Q st => Q.apply st op) = .ok s' from h) with ⟨d0, d', hd0, hf, rfl⟩ | ⟨i, p, st, st', _, _, rfl⟩
    · rw [hs] at hd0
      cases hd0
      exact congrArg some (hfz op d' hf)
    · exact hs

theorem kept_shape (S : StoreOps σ) (supp : Part σ → Key → Bool) (L : List (Key × Bool)) :
    KeptByWrites (partOps S) supp (fun s => s.2.map (fun e => (e.1, e.2.isRO)) = L) := by
  intro s s' op hs h
  unfold Mt.routedWrite at h
  cases hr : Mt.route supp s (opKey op) with
  | error e => rw [hr] at h; cases h
  | ok r =>
    rw [hr] at h
    rcases writeAt_ok (partOps S) (show Mt.writeAt (partOps S) s r (fun Q st => Q.apply st op) = .ok s' from h) with ⟨_, _, _, _, rfl⟩ | ⟨i, p, st, st', hi, hf, rfl⟩
    · exact hs
    · -- the mutator went through a `PrefixStore` to the part model, which keeps the tag
      obtain ⟨op', hop'⟩ := prefix_apply_ok (partOps S) hf
      have ht := part_apply_tag S st st' op' hop'
      exact (set_map_of_getElem? (fun e : Key × Part σ => (e.1, e.2.isRO)) hi (by rw [ht])).trans hs

theorem routedWrite_ro_default (S : StoreOps σ) (s : MtState (Part σ)) (x : σ) (hs : s.1 = some (.ro x)) (k : Key)
    (hn : NoMount s.2 k) (f : StoreOps (Part σ) → Part σ → Except StoreErr (Part σ))
    (hf : f (partOps S) (.ro x) = .error .readOnly) :
    Mt.routedWrite (partOps S) T s k f = .error .readOnly := by
  unfold Mt.routedWrite
  rw [route_T_default s hn, hs]
  simp only [Option.isSome_some, ↓reduceIte, Except.bind, Mt.writeAt, hs, hf]
  rfl

theorem any_eq_false_of_nomount {τ : Type} (tbl : List (Key × τ)) (k : Key) (hn : NoMount tbl k) :
    tbl.any (fun e => e.1 == k) = false := by
  rw [List.any_eq_false]
  intro e he hek
  have : e.1 = k := by simpa using hek
  exact hn e.1 e.2 he (this ▸ List.prefix_refl _)

theorem nomount_child {τ : Type} (tbl : List (Key × τ)) (k : Key) (nm : Str) (hn : NoMount tbl k) (ha : ¬ Above tbl k) :
    NoMount tbl (k ++ [nm]) ∧ ¬ Above tbl (k ++ [nm]) := by
  constructor
  · intro p st hm hp
    rcases List.prefix_concat_iff.mp hp with e | e
    · exact ha (Or.inr ⟨p, st, hm, e ▸ List.prefix_append _ _⟩)
    · exact hn p st hm e
  · rintro (e | ⟨p, st, hm, hp⟩)
    · simp at e
    · exact ha (Or.inr ⟨p, st, hm, (List.prefix_append k [nm]).trans hp⟩)

/-- the errors a refused recursive `removedir` can report: the read-only error, an error of the underlying store's
own `listdir` / `is_dir`, or (`other`) the model's fuel running out -/
def RefusedWith (S : StoreOps σ) (x : σ) (e : StoreErr) : Prop :=
  e = .readOnly ∨ e = .other ∨ ∃ k', S.listdir x k' = .error e ∨ S.isDir x k' = .error e

/-- the loop invariant of a refused recursive `removedir`: nothing touched, and the error (if any) is a refusal -/
def RefAcc (S : StoreOps σ) (x : σ) (s : MtState (Part σ)) (w : MtState (Part σ) × Option StoreErr) : Prop :=
  w.1 = s ∧ ∀ e, w.2 = some e → RefusedWith S x e

section refused
variable (S : StoreOps σ) (x : σ) {s : MtState (Part σ)} (hs : s.1 = some (.ro x)) {k : Key}
  (hn : NoMount s.2 k) (ha : ¬ Above s.2 k)
include hs hn

theorem rmTail_outside (w : MtState (Part σ) × Option StoreErr) (hw : RefAcc S x s w) :
    ∃ e, rmTail (partOps S) T k w = (s, some e) ∧ RefusedWith S x e := by
  obtain ⟨w1, w2⟩ := w
  obtain ⟨rfl, hw2⟩ := hw
  cases w2 with
  | some e => exact ⟨e, rfl, hw2 e rfl⟩
  | none =>
    exact ⟨.readOnly, rmTail_error _ _ (any_eq_false_of_nomount w1.2 k hn)
      (routedWrite_ro_default S w1 x hs k hn (fun Q st => Q.removedir st k false) rfl), Or.inl rfl⟩

include ha in
theorem rmStep_outside (recur : MtState (Part σ) → Key → MtState (Part σ) × Option StoreErr) (nm : Str)
    (hrec : ∃ e, recur s (k ++ [nm]) = (s, some e) ∧ RefusedWith S x e)
    (acc : MtState (Part σ) × Option StoreErr) (hacc : RefAcc S x s acc) :
    RefAcc S x s (rmStep (partOps S) T recur k acc nm) := by
  obtain ⟨hc1, hc2⟩ := nomount_child s.2 k nm hn ha
  have hd : Mt.isDir (partOps S) T acc.1 (k ++ [nm]) = S.isDir x (k ++ [nm]) := by
    rw [hacc.1, show Mt.isDir (partOps S) T s (k ++ [nm]) = _ from mount_isDir_default (partOps S) s _ hc2 hc1, hs]
    rfl
  have hr : Mt.remove (partOps S) T acc.1 (k ++ [nm]) = .error .readOnly := by
    rw [hacc.1]
    exact routedWrite_ro_default S s x hs (k ++ [nm]) hc1 (fun Q st => Q.remove st (k ++ [nm])) rfl
  fun_cases rmStep (partOps S) T recur k acc nm
  -- in the order of `rmStep`: error recorded already / `is_dir` raised / directory / `remove` raised / `remove` succeeded (impossible: the view refuses)
  · exact hacc
  · rename_i e he
    exact ⟨hacc.1, fun e' he' => by cases he'; exact Or.inr (Or.inr ⟨k ++ [nm], Or.inr (hd.symm.trans he)⟩)⟩
  · obtain ⟨e, he1, he2⟩ := hrec
    rw [hacc.1, he1]
    exact ⟨rfl, fun e' he' => by cases he'; exact he2⟩
  · rename_i e he
    rw [hr] at he
    cases he
    exact ⟨hacc.1, fun e' he' => by cases he'; exact Or.inl rfl⟩
  · rename_i s' he
    rw [hr] at he
    cases he

end refused

theorem removedirX_outside_nonrec (S : StoreOps σ) (s : MtState (Part σ)) (x : σ) (hs : s.1 = some (.ro x)) (k : Key)
    (hk : k ≠ []) (hn : NoMount s.2 k) (n : Nat) :
    Mt.removedirX (partOps S) T (n + 1) s k false = (s, some .readOnly) := by
  rw [removedirX_succ _ _ n s hk false]
  exact rmTail_error _ _ (any_eq_false_of_nomount s.2 k hn)
    (routedWrite_ro_default S s x hs k hn (fun Q st => Q.removedir st k false) rfl)

theorem removedirX_outside_rec (S : StoreOps σ) (x : σ) (n : Nat) :
    ∀ (s : MtState (Part σ)) (k : Key), s.1 = some (.ro x) → k ≠ [] → NoMount s.2 k → ¬ Above s.2 k →
      ∃ e, Mt.removedirX (partOps S) T n s k true = (s, some e) ∧ RefusedWith S x e := by
  induction n with
  | zero => intro s k _ _ _ _; exact ⟨.other, rfl, Or.inr (Or.inl rfl)⟩
  | succ n ih =>
    intro s k hs hk hn ha
    rw [removedirX_succ _ _ n s hk true]
    refine rmTail_outside S x hs hn _ ?_
    show RefAcc S x s (rmWalk (partOps S) T _ s k)
    unfold rmWalk
    -- the listing is the underlying store's (`None` = empty), its error a refusal
    have hl : Mt.listdirL (partOps S) T s k = (S.listdir x k).map fun o =>
        Mt.sortNames (o.getD [] ++ s.2.filterMap (fun e => Mt.mountChild k e.1)).eraseDups := by
      unfold Mt.listdirL
      rw [listBase_default (partOps S) s k hn hs]
      show Except.map _ (Except.map _ (S.listdir x k)) = _
      cases S.listdir x k <;> rfl
    rw [hl]
    cases hx : S.listdir x k with
    | error e => exact ⟨rfl, fun e' he' => by cases he'; exact Or.inr (Or.inr ⟨k, Or.inl hx⟩)⟩
    | ok o =>
      refine foldl_inv (RefAcc S x s) _ _ _ ⟨rfl, fun e he => nomatch he⟩ fun acc nm hacc => ?_
      obtain ⟨hc1, hc2⟩ := nomount_child s.2 k nm hn ha
      exact rmStep_outside S x hs hn ha _ nm (ih s (k ++ [nm]) hs (by simp) hc1 hc2) acc hacc

end MtRO
end Liquer
