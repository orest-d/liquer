/-
C09, extension of a cached prefix by any number of steps.

Two ingredients on top of the refinement theorem R-eval (`refines`):
  * fuel adequacy: in a `Sound` world the evaluator never needs more fuel than the reference interpretation
    (a cache hit only shortens the recursion), so a modelled reference run at fuel `n` forces a modelled
    evaluation at every fuel `≥ n`; with determinism of the reference side this turns the existential fuel of
    R-eval into the *given* one (`TightAt`);
  * the chain induction: along `Chain p q k` the evaluator descends to the cached `p` (progress metadata is
    filed under the texts of the intermediate queries, which differ from the text of `p`), and on the way up
    executes, per step, a subsequence of the reference calls of that step.
-/
import LiquerProofs.Lemmas.EvalReuse
import LiquerProofs.Lemmas.EvalCor
import LiquerProofs.Lemmas.EvalExample

namespace Liquer

theorem refCall_det (env : Env) {m m' : Nat} (st act raw sig x)
    (h : (refCall env m st act raw sig x).1 ≠ .unmodelled) (h' : (refCall env m' st act raw sig x).1 ≠ .unmodelled) :
    refCall env m st act raw sig x = refCall env m' st act raw sig x := (refCall_stable env st act raw sig x).det h h'

/-- `(w', o)`, computed from `w`, refines the reference result `r` (no existential fuel) -/
def Tight (env : Env) (w w' : World) (o : Outcome) (r : Outcome × List Str) : Prop :=
  Sound env w' ∧ ∃ c', w'.calls = w.calls ++ c' ∧ c'.Sublist r.2 ∧ Outcome.sim o r.1

def TightP (env : Env) (w w' : World) (x : List PVal ⊕ Outcome) (r : (List PVal ⊕ Outcome) × List Str) : Prop :=
  Sound env w' ∧ ∃ c', w'.calls = w.calls ++ c' ∧ c'.Sublist r.2 ∧ r.1 = x

theorem Refines.tight {env : Env} {w w' : World} {o : Outcome} {f : Nat → Outcome × List Str}
    (h : Refines env w w' o f) (hs : Stable Modelled f)
    (ho : o ≠ .unmodelled) {n : Nat} (hn : (f n).1 ≠ .unmodelled) : Tight env w w' o (f n) := by
  obtain ⟨m, c', h1, h2, h3⟩ := h.2 ho
  have := hs.det (Outcome.sim_ne_unmodelled h3 ho) hn
  rw [this] at h2 h3
  exact ⟨h.1, c', h1, h2, h3⟩

theorem RefinesP.tight {env : Env} {w w' : World} {x : List PVal ⊕ Outcome}
    {f : Nat → (List PVal ⊕ Outcome) × List Str} (h : RefinesP env w w' x f) (hs : Stable ModelledP f)
    (ho : x ≠ .inr .unmodelled) {n : Nat} (hn : (f n).1 ≠ .inr .unmodelled) : TightP env w w' x (f n) := by
  obtain ⟨m, c', h1, h2, h3⟩ := h.2 ho
  have := hs.det (m := m) (m' := n) (by rw [ModelledP, h3]; exact ho) hn
  rw [this] at h2 h3
  exact ⟨h.1, c', h1, h2, h3⟩

theorem Tight.ne {env : Env} {w w' : World} {o : Outcome} {r : Outcome × List Str} (h : Tight env w w' o r)
    (hr : r.1 ≠ .unmodelled) : o ≠ .unmodelled := by
  obtain ⟨_, _, _, _, hs⟩ := h
  exact Outcome.sim_ne_unmodelled (Outcome.sim_symm hs) hr

/-- fuel adequacy at reference fuel `n`: a modelled reference run forces a modelled evaluation at every fuel `≥ n` -/
structure AdqAt (env : Env) (C : Query → Prop) (T : Str → Prop) (n : Nat) : Prop where
  text : ∀ n' w t ug, n ≤ n' → Sound env w → T t → (refText env n t).1 ≠ .unmodelled →
    (evalText env n' w t ug).2 ≠ .unmodelled
  q : ∀ n' w q raw extra input uc, n ≤ n' → Sound env w → C q → (uc = true → input = none) →
    (refQ env n q raw extra input).1 ≠ .unmodelled → (evalQ env n' w q raw extra input uc).2 ≠ .unmodelled
  act : ∀ n' w st a raw parent extra uc, n ≤ n' → Sound env w → LinksIn env C T parent a.params → SubIn env T a →
    (refAction env n st a raw parent extra).1 ≠ .unmodelled →
    (evalAction env n' w st a raw parent extra uc).2 ≠ .unmodelled
  params : ∀ n' w ps raw parent, n ≤ n' → Sound env w → LinksIn env C T parent ps →
    (refParams env n ps raw parent).1 ≠ .inr .unmodelled → (evalParams env n' w ps raw parent).2 ≠ .inr .unmodelled

structure TightAt (env : Env) (C : Query → Prop) (T : Str → Prop) (n : Nat) : Prop where
  text : ∀ n' w t ug, n ≤ n' → Sound env w → T t → (refText env n t).1 ≠ .unmodelled →
    Tight env w (evalText env n' w t ug).1 (evalText env n' w t ug).2 (refText env n t)
  q : ∀ n' w q raw extra input uc, n ≤ n' → Sound env w → C q → (uc = true → input = none) →
    (refQ env n q raw extra input).1 ≠ .unmodelled →
    Tight env w (evalQ env n' w q raw extra input uc).1 (evalQ env n' w q raw extra input uc).2
      (refQ env n q raw extra input)
  act : ∀ n' w st a raw parent extra uc, n ≤ n' → Sound env w → LinksIn env C T parent a.params → SubIn env T a →
    (refAction env n st a raw parent extra).1 ≠ .unmodelled →
    Tight env w (evalAction env n' w st a raw parent extra uc).1 (evalAction env n' w st a raw parent extra uc).2
      (refAction env n st a raw parent extra)
  params : ∀ n' w ps raw parent, n ≤ n' → Sound env w → LinksIn env C T parent ps →
    (refParams env n ps raw parent).1 ≠ .inr .unmodelled →
    TightP env w (evalParams env n' w ps raw parent).1 (evalParams env n' w ps raw parent).2
      (refParams env n ps raw parent)

variable {env : Env} {C : Query → Prop} {T : Str → Prop}

theorem tight_of_adq (hC : Closed env C T)
    (hcanon : ∀ q, C q → CanonOK env q) {n : Nat} (h : AdqAt env C T n) : TightAt env C T n where
  text := fun n' w t ug hle hS hT href =>
    ((refines hC hcanon n').text w t ug hS hT).tight (refText_stable env t)
      (h.text n' w t ug hle hS hT href) href
  q := fun n' w q raw extra input uc hle hS hCq huc href =>
    ((refines hC hcanon n').q w q raw extra input uc hS hCq huc).tight (refQ_stable env q raw extra input)
      (h.q n' w q raw extra input uc hle hS hCq huc href) href
  act := fun n' w st a raw parent extra uc hle hS hL hSub href =>
    ((refines hC hcanon n').act w st a raw parent extra uc hS hL hSub).tight
      (refAction_stable env st a raw parent extra)
      (h.act n' w st a raw parent extra uc hle hS hL hSub href) href
  params := fun n' w ps raw parent hle hS hL href =>
    ((refines hC hcanon n').params w ps raw parent hS hL).tight (refParams_stable env ps raw parent)
      (h.params n' w ps raw parent hle hS hL href) href

theorem link_adq {n n' : Nat} (ih : AdqAt env C T n) (hle : n ≤ n')
    (w : World) (lq : Query) (parent : Str) (hS : Sound env w)
    (hCl : (lq.absolute || parent.isEmpty || parent == ['/']) = true → C lq)
    (hTl : (lq.absolute || parent.isEmpty || parent == ['/']) = false →
      ∀ h as f ab pq, lq = .mk [.transform h as f] ab → parse env.dec parent = some pq →
      T ((Query.mk (pq.segments ++ [.transform h as f]) pq.absolute).encode Gen.escapeTable))
    (href : (refLink env n lq parent).1 ≠ .unmodelled) : (evalLink env n' w lq parent).2 ≠ .unmodelled := by
  unfold refLink at href
  unfold evalLink
  split at href
  · next hc => rw [if_pos hc]; exact ih.q n' w lq _ .none none true hle hS (hCl hc) (fun _ => rfl) href
  · next hc =>
    rw [if_neg hc]
    split at href
    · next h as f ab =>
      dsimp only
      split at href
      · exact absurd rfl href
      · next pq hp =>
        rw [hp]
        exact ih.text n' w _ true hle hS (hTl (by simpa using hc) _ _ _ _ _ rfl hp) href
    · exact absurd rfl href

theorem link_tight (hC : Closed env C T)
    (hcanon : ∀ q, C q → CanonOK env q) {n n' : Nat} (ih : AdqAt env C T n) (hle : n ≤ n')
    (w : World) (lq : Query) (parent : Str) (hS : Sound env w)
    (hCl : (lq.absolute || parent.isEmpty || parent == ['/']) = true → C lq)
    (hTl : (lq.absolute || parent.isEmpty || parent == ['/']) = false →
      ∀ h as f ab pq, lq = .mk [.transform h as f] ab → parse env.dec parent = some pq →
      T ((Query.mk (pq.segments ++ [.transform h as f]) pq.absolute).encode Gen.escapeTable))
    (href : (refLink env n lq parent).1 ≠ .unmodelled) :
    Tight env w (evalLink env n' w lq parent).1 (evalLink env n' w lq parent).2 (refLink env n lq parent) :=
  (link_refines (refines hC hcanon n') w lq parent hS hCl hTl).tight (refLink_stable env lq parent)
    (link_adq ih hle w lq parent hS hCl hTl href) href

theorem call_adq {n n' : Nat} (ht : TightAt env C T n) (hle : n ≤ n')
    (w1 : World) (st act raw sig x) (uc : Bool) (hS : Sound env w1)
    (hsub : ∀ args y qt, cmdSem sig.ns sig.name st.data st.vars args = .subeval y qt → T qt)
    (href : (refCall env n st act raw sig x).1 ≠ .unmodelled) :
    (evalCall env n' w1 st act raw sig x uc).2 ≠ .unmodelled := by
  unfold refCall at href
  unfold evalCall
  split
  · next hpa => simp [hpa] at href
  · simp
  · next args hpa =>
    simp only [hpa] at href
    split
    · next hc => simp [hc] at href
    · simp
    · simp
    · simp
    · simp
    · next y qtext hc =>
      simp only [hc] at href
      have hrt : (refText env n qtext).1 ≠ .unmodelled := subOutcome_ne_unmodelled href
      obtain ⟨_, _, _, _, hsim⟩ := ht.text n' (w1.logCall st sig args) qtext true hle (hS.logCall _ _ _) (hsub _ _ _ hc) hrt
      simp only
      rw [subOutcome_sim hsim]; exact href

/-- what follows the predecessor: modelled, and the calls are a subsequence of the reference calls of the step -/
theorem after_tight {n n' : Nat} (ht : TightAt env C T n) (hle : n ≤ n')
    (W1 : World) (oe o' : Outcome) (parent : Str) (r : Option Seg) (key raw : Str) (extra : Extra) (uc : Bool)
    (hS : Sound env W1) (hsim : Outcome.sim oe o')
    (hLS : ∀ h a, r = some (.transform h [a] none) → LinksIn env C T parent a.params ∧ SubIn env T a)
    (href : (refAfter env n o' parent r key raw extra).1 ≠ .unmodelled) :
    (evalAfter env n' W1 oe parent r key raw extra uc).2 ≠ .unmodelled ∧
    ∃ c', (evalAfter env n' W1 oe parent r key raw extra uc).1.calls = W1.calls ++ c' ∧
      c'.Sublist (refAfter env n o' parent r key raw extra).2 := by
  cases oe with
  | unmodelled => simp at hsim; subst hsim; exact absurd rfl href
  | raised a b => exact ⟨by simp [evalAfter], [], by simp [evalAfter], by simp⟩
  | parseError => exact ⟨by simp [evalAfter], [], by simp [evalAfter], by simp⟩
  | st se =>
    obtain ⟨s', rfl, hcore⟩ := Outcome.sim_st_left hsim
    have hse := EState.core_isError hcore
    cases hserr : se.isError with
    | true => exact ⟨by simp [evalAfter, hserr], [], by simp [evalAfter, hserr], by simp⟩
    | false =>
      have hserr' : s'.isError = false := by rw [← hse]; exact hserr
      simp only [refAfter, hserr', Bool.false_eq_true, if_false] at href ⊢
      simp only [evalAfter, hserr, Bool.false_eq_true, if_false]
      have triv : ∀ (w : World) (o : Outcome) (l : List Str), o ≠ .unmodelled → w.calls = W1.calls →
          (w, o).2 ≠ .unmodelled ∧ ∃ c', (w, o).1.calls = W1.calls ++ c' ∧ c'.Sublist l :=
        fun w o l ho hw => ⟨ho, [], by simp [hw], by simp⟩
      rcases post_cases r with rfl | ⟨h, f, rfl⟩ | ⟨h, a, rfl⟩ | ⟨_, hr⟩
      · simp only [evalPost]; exact triv _ _ _ (by simp) rfl
      · simp only [evalPost]
        exact ⟨by simp, [], by simp only [calls_fileW, World.calls_metaIf, List.append_nil], by simp⟩
      · obtain ⟨hL, hSub⟩ := hLS h a rfl
        simp only [refPost] at href ⊢
        simp only [evalPost]
        have hra : (refAction env n s' a raw parent extra).1 ≠ .unmodelled := by
          intro hu; rw [hu] at href; exact href rfl
        have hta := ht.act n' W1 se a raw parent extra uc hle hS hL hSub (by rw [refAction_core env n hcore]; exact hra)
        rw [refAction_core env n hcore] at hta
        obtain ⟨_, c', h1, h2, h3⟩ := hta
        generalize evalAction env n' W1 se a raw parent extra uc = y at h1 h3 ⊢
        rcases y with ⟨w2, o2⟩
        generalize refAction env n s' a raw parent extra = z at h2 h3 hra ⊢
        rcases z with ⟨o2', c2⟩
        simp only at h1 h2 h3 hra ⊢
        have hne2 : o2 ≠ .unmodelled := Outcome.sim_ne_unmodelled (Outcome.sim_symm h3) hra
        cases o2 with
        | unmodelled => exact absurd rfl hne2
        | st st2 =>
          obtain ⟨st2', rfl, _⟩ := Outcome.sim_st_left h3
          exact ⟨by simp, c', by simp [h1], h2⟩
        | raised x y => simp at h3; subst h3; exact ⟨by simp, c', h1, h2⟩
        | parseError => simp at h3; subst h3; exact ⟨by simp, c', h1, h2⟩
      · rw [hr] at href; exact absurd rfl href

theorem params_adq (hC : Closed env C T)
    (hcanon : ∀ q, C q → CanonOK env q) {n : Nat} (ih : AdqAt env C T n) :
    ∀ n' w ps raw parent, n + 1 ≤ n' → Sound env w → LinksIn env C T parent ps →
      (refParams env (n+1) ps raw parent).1 ≠ .inr .unmodelled →
      (evalParams env n' w ps raw parent).2 ≠ .inr .unmodelled := by
  intro n' w ps raw parent hle hS hL href
  obtain ⟨n'', rfl⟩ : ∃ k, n' = k + 1 := ⟨n' - 1, by omega⟩
  have hle' : n ≤ n'' := by omega
  cases ps with
  | nil => rw [evalParams_nil]; simp
  | cons p ps =>
    have hL' : LinksIn env C T parent ps := hL.tail
    -- the remaining parameters, from any sound world
    have rest : ∀ w1, Sound env w1 → (refParams env n ps raw parent).1 ≠ .inr .unmodelled →
        (evalParams env n'' w1 ps raw parent).2 ≠ .inr .unmodelled :=
      fun w1 h1 hr => ih.params n'' w1 ps raw parent hle' h1 hL' hr
    cases p with
    | str t pos =>
      rw [evalParams_str]; rw [refParams_str] at href
      have := rest w hS (fun hu => href (by rw [show refParams env n ps raw parent = (.inr .unmodelled, _) from Prod.ext hu rfl]))
      generalize evalParams env n'' w ps raw parent = x at this ⊢
      obtain ⟨w1, r⟩ := x
      cases r with
      | inl rest => simp
      | inr o => simpa using this
    | link lq pos =>
      rw [evalParams_link]; rw [refParams_link] at href
      have hl : (refLink env n lq parent).1 ≠ .unmodelled :=
        fun hu => href (by rw [show refLink env n lq parent = (.unmodelled, _) from Prod.ext hu rfl])
      obtain ⟨hS1, c1', _, _, hsim⟩ := link_tight hC hcanon ih hle' w lq parent hS
        (hL lq pos (List.mem_cons_self ..)).1 (hL lq pos (List.mem_cons_self ..)).2 hl
      rcases hel : evalLink env n'' w lq parent with ⟨w1, o⟩
      rcases hrl : refLink env n lq parent with ⟨o', c1⟩
      rw [hel] at hS1 hsim; rw [hrl] at hsim href hl
      simp only at hS1 hsim href hl ⊢
      cases o with
      | unmodelled => exact absurd (by simpa using hsim) hl
      | st v =>
        obtain ⟨v', rfl, hcore⟩ := Outcome.sim_st_left hsim
        have hve := EState.core_isError hcore
        simp only at href ⊢
        cases hv : v.isError
        · rw [hv] at hve
          simp only [← hve, Bool.false_eq_true, if_false] at href ⊢
          have := rest w1 hS1 (fun hu => href (by rw [show refParams env n ps raw parent = (.inr .unmodelled, _) from Prod.ext hu rfl]))
          generalize evalParams env n'' w1 ps raw parent = x at this ⊢
          obtain ⟨w2, r⟩ := x
          cases r with
          | inl rest => simp
          | inr o => simpa using this
        · simp
      | _ => simp

theorem text_adq (hC : Closed env C T) {n : Nat} (ih : AdqAt env C T n) :
    ∀ n' w t ug, n + 1 ≤ n' → Sound env w → T t → (refText env (n+1) t).1 ≠ .unmodelled →
      (evalText env n' w t ug).2 ≠ .unmodelled := by
  intro n' w t ug hle hS hT href
  obtain ⟨n'', rfl⟩ : ∃ k, n' = k + 1 := ⟨n' - 1, by omega⟩
  have hle' : n ≤ n'' := by omega
  rw [evalText_succ]; rw [refText_succ] at href
  cases hp : parse env.dec t with
  | none => simp
  | some q =>
    simp only [hp] at href ⊢
    exact ih.q n'' w q t .none none ug hle' hS (hC.text t q hT hp) (fun _ => rfl) href

theorem act_adq (hC : Closed env C T)
    (hcanon : ∀ q, C q → CanonOK env q) {n : Nat} (ih : AdqAt env C T n) :
    ∀ n' w st a raw parent extra uc, n + 1 ≤ n' → Sound env w → LinksIn env C T parent a.params → SubIn env T a →
      (refAction env (n+1) st a raw parent extra).1 ≠ .unmodelled →
      (evalAction env n' w st a raw parent extra uc).2 ≠ .unmodelled := by
  intro n' w st a raw parent extra uc hle hS hL hSub href
  obtain ⟨n'', rfl⟩ : ∃ k, n' = k + 1 := ⟨n' - 1, by omega⟩
  have hle' : n ≤ n'' := by omega
  have ht := tight_of_adq hC hcanon ih
  rw [evalAction_succ]; rw [refAction_succ] at href
  cases hns : namespacesOf st.vars with
  | none => simp [hns] at href
  | some nss =>
    simp only [hns] at href ⊢
    split
    · next hl => simp [hl] at href
    · next hl =>
      rw [if_neg hl] at href
      cases hr : resolve env.reg nss a.name with
      | none => simp
      | some sig =>
        simp only [hr] at href ⊢
        rcases hr1 : refParams env n a.params raw parent with ⟨r', c1⟩
        rw [hr1] at href
        have hS0 := hS.metaIf uc raw (s "evaluation")
        have hp1 : (refParams env n a.params raw parent).1 ≠ .inr .unmodelled := by
          rw [hr1]; intro hu; simp only at hu; subst hu; exact href rfl
        obtain ⟨hS1, _, _, _, heq⟩ := ht.params n'' (w.metaIf uc raw (s "evaluation")) a.params raw parent hle' hS0 hL hp1
        rcases hp : evalParams env n'' (w.metaIf uc raw (s "evaluation")) a.params raw parent with ⟨w1, r⟩
        rw [hp] at hS1 heq; rw [hr1] at heq
        simp only at hS1 heq; subst heq
        cases r' with
        | inr o => exact href
        | inl given =>
          simp only at href ⊢
          exact call_adq ht hle' w1 st a raw sig (applyExtra extra given) uc hS1
            (fun args y qt hc => hSub nss sig hr _ _ _ _ _ hc) href

theorem preRem_classes (hC : Closed env C T) {q : Query} (hCq : C q) :
    ∀ h a, q.preRem = some (.transform h [a] none) → LinksIn env C T q.preParent a.params ∧ SubIn env T a := by
  intro h a hrem
  obtain ⟨p0, hp0⟩ := Query.preRem_some hrem
  exact hC.act q p0 h a hCq hp0

theorem q_adq (hC : Closed env C T)
    (hcanon : ∀ q, C q → CanonOK env q) {n : Nat} (ih : AdqAt env C T n) :
    ∀ n' w q raw extra input uc, n + 1 ≤ n' → Sound env w → C q → (uc = true → input = none) →
      (refQ env (n+1) q raw extra input).1 ≠ .unmodelled → (evalQ env n' w q raw extra input uc).2 ≠ .unmodelled := by
  intro n' w q raw extra input uc hle hS hCq huc href
  obtain ⟨n'', rfl⟩ : ∃ k, n' = k + 1 := ⟨n' - 1, by omega⟩
  have hle' : n ≤ n'' := by omega
  have ht := tight_of_adq hC hcanon ih
  rw [evalQ_succ']; rw [refQ_succ'] at href
  split
  · simp
  · cases hres : q.isRes with
    | true => simp [hres] at href
    | false =>
      simp only [hres, Bool.false_eq_true, if_false] at href ⊢
      have hpre : (refPre env n q input).1 ≠ .unmodelled := by
        intro hu; rw [hu] at href; exact href rfl
      have hpa : (evalPre env n'' w q raw input uc).2 ≠ .unmodelled := by
        unfold evalPre
        cases hp : q.preQ with
        | none => simp
        | some p =>
          simp only [refPre, hp] at hpre ⊢
          obtain ⟨r, hpr, hpe⟩ := Query.preQ_some hp
          exact ih.q n'' _ p _ .none input uc hle' (hS.metaIf _ _ _) (hC.pred q p r hCq hpr hpe) huc hpre
      obtain ⟨hS1, c', h1, h2, hsim⟩ := (pre_refines hC (refines hC hcanon n'') w q raw input uc hS hCq huc).tight
        (refPre_stable env q input) hpa hpre
      exact (after_tight ht hle' _ _ _ q.preParent q.preRem _ raw extra uc hS1 hsim (preRem_classes hC hCq) href).1

theorem adq_zero (env : Env) (C : Query → Prop) (T : Str → Prop) : AdqAt env C T 0 where
  text := fun _ _ t _ _ _ _ h => absurd (by rw [refText_zero]) h
  q := fun _ _ q raw extra input _ _ _ _ _ h => absurd (by rw [refQ_zero]) h
  act := fun _ _ st a raw parent extra _ _ _ _ _ h => absurd (by rw [refAction_zero]) h
  params := fun _ _ ps raw parent _ _ _ h => absurd (by rw [refParams_zero]) h

/-- fuel adequacy: the evaluator never needs more fuel than the reference interpretation -/
theorem adq (hC : Closed env C T)
    (hcanon : ∀ q, C q → CanonOK env q) : ∀ n, AdqAt env C T n
  | 0 => adq_zero env C T
  | n + 1 =>
    have ih := adq hC hcanon n
    { text := text_adq hC ih
      q := q_adq hC hcanon ih
      act := act_adq hC hcanon ih
      params := params_adq hC hcanon ih }

theorem tight (hC : Closed env C T)
    (hcanon : ∀ q, C q → CanonOK env q) (n : Nat) : TightAt env C T n :=
  tight_of_adq hC hcanon (adq hC hcanon n)

theorem World.get_metaIf_other (w : World) (uc : Bool) {k k' : Str} (status : Str) (h : k' ≠ k) :
    (w.metaIf uc k status).get k' = w.get k' := by
  cases uc
  · rfl
  · exact World.get_storeMeta_other w status h

/-- one level of the descent: given what the evaluation of the predecessor `q'` did (calls `c1'`, a `Sound` world,
an outcome similar to the reference outcome), the evaluation of `q` executes `c1'` and then a subsequence of the
reference calls of the last step — or nothing at all when `q` itself is cached.  `dd` stands for the reference calls
of the levels below, against which `c1'` is measured; `chain_suffix` instantiates it -/
theorem chain_step (hC : Closed env C T)
    (hcanon : ∀ q, C q → CanonOK env q) {n n' : Nat} (hle : n ≤ n') (W : World) (q q' : Query) (r : Option Seg)
    (raw : Str) (hCq : C q) (hpred : q.predecessor = some (q', r)) (hpe : q'.segments.isEmpty = false)
    (o' : Outcome) (cq' c1' : List Str)
    (href' : refQ env n q' (q'.encode Gen.escapeTable) .none none = (o', cq'))
    (hS1 : Sound env (evalQ env n' (W.storeMeta raw (s "evaluating parent")) q' (q'.encode Gen.escapeTable) .none none true).1)
    (hcalls : (evalQ env n' (W.storeMeta raw (s "evaluating parent")) q' (q'.encode Gen.escapeTable) .none none true).1.calls =
      W.calls ++ c1')
    (hsim : Outcome.sim (evalQ env n' (W.storeMeta raw (s "evaluating parent")) q' (q'.encode Gen.escapeTable) .none none true).2 o')
    (href : (refQ env (n+1) q raw .none none).1 ≠ .unmodelled) :
    ∃ d2, (refQ env (n+1) q raw .none none).2 = cq' ++ d2 ∧
      ∀ dd, c1'.Sublist dd →
        ∃ c', (evalQ env (n'+1) W q raw .none none true).1.calls = W.calls ++ c' ∧ c'.Sublist (dd ++ d2) := by
  have hres := Query.predecessor_not_isRes hpred
  have hpq : q.preQ = some q' := Query.preQ_of_pred hpred hpe
  have hpre : refPre env n q none = (o', cq') := by simp [refPre, hpq, href']
  have hrq := refQ_succ_of_pre (raw := raw) (extra := .none) hres hpre
  rw [hrq] at href ⊢
  simp only at href
  refine ⟨_, rfl, fun dd hdd => ?_⟩
  rw [evalQ_succ']
  cases hg : W.get (q.encode Gen.escapeTable) with
  | some st => exact ⟨[], by simp [Extra.isEmpty], by simp⟩
  | none =>
    simp only [Extra.isEmpty, Option.isNone_none, Bool.and_self, if_true, hres, Bool.false_eq_true, if_false]
    have hep : evalPre env n' W q raw none true =
        evalQ env n' (W.storeMeta raw (s "evaluating parent")) q' (q'.encode Gen.escapeTable) .none none true := by
      simp [evalPre, hpq]
    rw [hep]
    obtain ⟨_, c2', g1, g2⟩ := after_tight (tight hC hcanon n) hle _ _ _ q.preParent q.preRem
      (q.encode Gen.escapeTable) raw .none true hS1 hsim (preRem_classes hC hCq) href
    exact ⟨c1' ++ c2', by rw [g1, hcalls, List.append_assoc], hdd.append g2⟩

theorem Chain.class (hC : Closed env C T) {p q : Query} {k : Nat}
    (h : Chain p q k) (hCq : C q) : C p := by
  induction h with
  | one q r hpred hpe => exact hC.pred q p r hCq hpred hpe
  | step q' q r k _ hpred hpe ih => exact ih (hC.pred q q' r hCq hpred hpe)

/-- `Chain p q k` all of whose members (the intermediate queries and `q` itself) are spelled differently from `p`:
progress metadata filed under their canonical texts does not touch the entry of `p` -/
inductive ChainOff (p : Query) : Query → Nat → Prop where
  | one (q : Query) (r : Option Seg) : q.predecessor = some (p, r) → p.segments.isEmpty = false →
      q.encode Gen.escapeTable ≠ p.encode Gen.escapeTable → ChainOff p q 1
  | step (q' q : Query) (r : Option Seg) (k : Nat) : ChainOff p q' k → q.predecessor = some (q', r) →
      q'.segments.isEmpty = false → q.encode Gen.escapeTable ≠ p.encode Gen.escapeTable → ChainOff p q (k + 1)

theorem ChainOff.chain {p q : Query} {k : Nat} (h : ChainOff p q k) : Chain p q k := by
  induction h with
  | one q r hpred hpe _ => exact .one p q r hpred hpe
  | step q' q r k _ hpred hpe _ ih => exact .step p q' q r k ih hpred hpe

theorem ChainOff.ne {p q : Query} {k : Nat} (h : ChainOff p q k) :
    q.encode Gen.escapeTable ≠ p.encode Gen.escapeTable := by
  cases h <;> assumption

theorem ChainOff.of_chain {p q : Query} {k : Nat} (h : Chain p q k)
    (hne : ∀ q' j, Chain p q' j → q'.encode Gen.escapeTable ≠ p.encode Gen.escapeTable) : ChainOff p q k := by
  induction h with
  | one q r hpred hpe => exact .one q r hpred hpe (hne q 1 (.one p q r hpred hpe))
  | step q' q r k hch hpred hpe ih => exact .step q' q r k ih hpred hpe (hne q (k+1) (.step p q' q r k hch hpred hpe))

/-- the extension of a cached prefix by `k` steps: the reference calls of `q` start with those of `p`, and the
evaluation of `q` in a sound world that serves `p` executes a subsequence of the rest -/
theorem chain_suffix (hC : Closed env C T)
    (hcanon : ∀ q, C q → CanonOK env q) (m : Nat) {p q : Query} {k : Nat} (hch : ChainOff p q k)
    (st s0 : EState) (c0 : List Str) (hcore : s0.core = st.core)
    (hp : refQ env m p (p.encode Gen.escapeTable) .none none = (.st st, c0))
    (hCq : C q) (W : World) (raw : Str) (hS : Sound env W) (hget : W.get (p.encode Gen.escapeTable) = some s0)
    (hraw : raw ≠ p.encode Gen.escapeTable)
    (href : (refQ env (m+k) q raw .none none).1 ≠ .unmodelled) :
    ∃ d c', (refQ env (m+k) q raw .none none).2 = c0 ++ d ∧
      (evalQ env (m+k+1) W q raw .none none true).1.calls = W.calls ++ c' ∧ c'.Sublist d := by
  induction hch generalizing W raw with
  | one q r hpred hpe _ =>
    have hget1 : (W.storeMeta raw (s "evaluating parent")).get (p.encode Gen.escapeTable) = some s0 := by
      rw [World.get_storeMeta_other W _ (Ne.symm hraw)]; exact hget
    have hhit := evalQ_hit env m (W.storeMeta raw (s "evaluating parent")) p (p.encode Gen.escapeTable) .none none s0
      hget1 rfl rfl
    obtain ⟨d2, e1, e2⟩ := chain_step hC hcanon (Nat.le_succ m) W q p r raw hCq hpred hpe (.st st) c0 [] hp
      (by rw [hhit]; exact hS.storeMeta _ _) (by rw [hhit]; simp) (by rw [hhit]; exact hcore) href
    obtain ⟨c', e3, e4⟩ := e2 [] (List.Sublist.refl _)
    exact ⟨d2, c', e1, e3, by simpa using e4⟩
  | step q' q r k hch hpred hpe _ ih =>
    have hCq' : C q' := hC.pred q q' r hCq hpred hpe
    have hres := Query.predecessor_not_isRes hpred
    have hpq : q.preQ = some q' := Query.preQ_of_pred hpred hpe
    rcases hrq' : refQ env (m+k) q' (q'.encode Gen.escapeTable) .none none with ⟨o', cq'⟩
    have hpre : refPre env (m+k) q none = (o', cq') := by simp [refPre, hpq, hrq']
    have href0 : (refQ env (m+k+1) q raw .none none).1 ≠ .unmodelled := href
    have ho' : o' ≠ .unmodelled := by
      intro hu; subst hu
      rw [refQ_succ_of_pre hres hpre] at href0
      exact href0 rfl
    have hq'ne := hch.ne
    have hS1 : Sound env (W.storeMeta raw (s "evaluating parent")) := hS.storeMeta _ _
    have hget1 : (W.storeMeta raw (s "evaluating parent")).get (p.encode Gen.escapeTable) = some s0 := by
      rw [World.get_storeMeta_other W _ (Ne.symm hraw)]; exact hget
    obtain ⟨d', c1', e1, e2, e3⟩ := ih hCq' (W.storeMeta raw (s "evaluating parent")) (q'.encode Gen.escapeTable)
      hS1 hget1 hq'ne (by rw [hrq']; exact ho')
    rw [hrq'] at e1; simp only at e1
    obtain ⟨hS2, _, _, _, hsim⟩ := (tight hC hcanon (m+k)).q (m+k+1) (W.storeMeta raw (s "evaluating parent")) q'
      (q'.encode Gen.escapeTable) .none none true (Nat.le_succ _) hS1 hCq' (fun _ => rfl) (by rw [hrq']; exact ho')
    rw [hrq'] at hsim
    obtain ⟨d2, f1, f2⟩ := chain_step hC hcanon (Nat.le_succ (m+k)) W q q' r raw hCq hpred hpe o' cq' c1' hrq'
      hS2 (by rw [e2]; simp) hsim href0
    obtain ⟨c', f3, f4⟩ := f2 d' e3
    exact ⟨d' ++ d2, c', by rw [show m + (k+1) = m + k + 1 from rfl, f1, e1, List.append_assoc], f3, f4⟩

/-- C09, extension by any number of steps: after a cacheable evaluation of `p`, the evaluation of a `k`-step
extension `q` executes a subsequence of the reference calls of `q` to the right of those of `p` -/
theorem extension_runs_suffix {env : Env} {C : Query → Prop} {T : Str → Prop} (hC : Closed env C T)
    (hcanon : ∀ q, C q → CanonOK env q) (n m k : Nat) (w w' : World) (p q : Query) (st : EState)
    (c0 c : List Str) (o : Outcome) (hen : w.enabled = true) (hS : Sound env w) (hCq : C q)
    (h1 : evalQ env (n+1) w p (p.encode Gen.escapeTable) .none none true = (w', .st st))
    (hc : st.caching = true) (he : st.isError = false) (hv : st.volatile = false) (hstep : p.hasStep = true)
    (hch : ChainOff p q k)
    (hp : refQ env m p (p.encode Gen.escapeTable) .none none = (.st st, c0))
    (hq : refQ env (m+k) q (q.encode Gen.escapeTable) .none none = (o, c)) (ho : o ≠ .unmodelled) :
    ∃ c', (evalQ env (m+k+1) w' q (q.encode Gen.escapeTable) .none none true).1.calls = w'.calls ++ c' ∧
      c'.Sublist (c.drop c0.length) := by
  have hCp : C p := hch.chain.class hC hCq
  obtain ⟨s0, hcore, hget, _⟩ := second_run_silent env n w w' p _ st hen h1 hc he hv hstep
  have hS' : Sound env w' := by
    have := (evalQ_refines hC hcanon (n+1) w p (p.encode Gen.escapeTable) .none none true hS hCp (fun _ => rfl)).1
    rwa [h1] at this
  obtain ⟨d, c', e1, e2, e3⟩ := chain_suffix hC hcanon m hch st s0 c0 hcore hp hCq w' _ hS' hget hch.ne
    (by rw [hq]; exact ho)
  rw [hq] at e1; simp only at e1; subst e1
  exact ⟨c', e2, by simpa using e3⟩

end Liquer

namespace Liquer.Ex

theorem chainOff2 : ChainOff qOne qOneAddAdd 2 :=
  .step qOneAdd qOneAddAdd (some (.transform none [aAdd1] none)) 1
    (.one qOneAdd (some (.transform none [aAdd2] none)) rfl (by decide)
      (by decide +kernel))
    rfl (by decide) (by decide +kernel)

end Liquer.Ex
