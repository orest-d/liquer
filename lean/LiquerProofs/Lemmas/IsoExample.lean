/-
C10 helpers: concrete objects for the non-vacuity examples — a heap with one default variable `lst ↦ [d1]`, a few chains,
the finite class `P0` of their sub-chains with its closure, key and safety properties.
-/
import LiquerProofs.Lemmas.IsoEvalSound

namespace Liquer.Iso.Ex

def S (s : String) : Str := s.toList

/-- one list object `["d1"]` at address 0 -/
def h0 : Heap := (({} : Heap).alloc (.val (.list [.str (S "d1")]))).1

/-- `lst ↦ <object 0>` -/
def dd : List (Str × HV) := [(S "lst", .ref 0)]

def s0 : Hist := { w := { heap := h0, defaults := dd, cacheOn := true } }

def mkA : Act := .mk (S "mk") [.text (S "a")]
def mkZ : Act := .mk (S "mk") [.text (S "z")]
def appB : Act := .mk (S "app") [.text (S "b")]
def appC : Act := .mk (S "app") [.text (S "c")]
def appX : Act := .mk (S "app") [.text (S "x")]
def getL : Act := .mk (S "getvar") [.text (S "lst")]
def extZ : Act := .mk (S "ext") [.link [mkZ]]
def vol : Act := .mk (S "vol") []
/-- `cvapp-lst-x`: append to the context's variable `lst` (the object of the predecessor state) -/
def cvX : Act := .mk (S "cvapp") [.text (S "lst"), .text (S "x")]
def pairZ : Act := .mk (S "pair") [.link [mkZ]]

def qAB : List Act := [mkA, appB]
def qABC : List Act := [mkA, appB, appC]
def qAGX : List Act := [mkA, getL, appX]
def qAE : List Act := [mkA, extZ]
def qCG : List Act := [cvX, getL]
def qAP : List Act := [mkA, pairZ]

/-- the chains the example history evaluates, with their predecessors and link arguments -/
def chains : List (List Act) := [[mkA], qAB, qABC, [mkA, getL], qAGX, [mkZ], qAE, [cvX], qCG, qAP]

def P0 (acts : List Act) : Prop := acts ∈ chains

theorem h0_wf : h0.WF := fun a ha => by
  have : a ≠ 0 := by
    intro e; subst e
    exact absurd ha (by decide)
  simp [h0, this]

theorem dd_lt : ∀ a ∈ cellsVars dd, a < h0.next := by
  intro a ha
  simp [dd, cellsVars, cellsHV] at ha
  subst ha; decide

theorem dd_keys : (dd.map Prod.fst).Nodup := by simp [dd]

theorem sep0 : Sep s0 := Sep.init true h0_wf dd_lt

def d0 : List (Str × Val) := [(S "lst", .list [.str (S "d1")])]

theorem abs_dd : absVars h0 dd = d0 := rfl

theorem closed0 : Closed P0 := by
  have m0 : [mkA] ∈ chains := .head _
  have m1 : qAB ∈ chains := .tail _ (.head _)
  have m3 : [mkA, getL] ∈ chains := .tail _ (.tail _ (.tail _ (.head _)))
  have m5 : [mkZ] ∈ chains := .tail _ (.tail _ (.tail _ (.tail _ (.tail _ (.head _)))))
  have m7 : [cvX] ∈ chains := .tail _ (.tail _ (.tail _ (.tail _ (.tail _ (.tail _ (.tail _ (.head _)))))))
  -- the predecessor of every chain of several steps is listed
  have pre : ∀ c ∈ chains, c.dropLast.isEmpty = false → c.dropLast ∈ chains :=
    List.forall_mem_cons.2 ⟨nofun, List.forall_mem_cons.2 ⟨fun _ => m0, List.forall_mem_cons.2 ⟨fun _ => m1,
      List.forall_mem_cons.2 ⟨fun _ => m0, List.forall_mem_cons.2 ⟨fun _ => m3, List.forall_mem_cons.2 ⟨nofun,
      List.forall_mem_cons.2 ⟨fun _ => m0, List.forall_mem_cons.2 ⟨nofun, List.forall_mem_cons.2 ⟨fun _ => m7,
      List.forall_mem_cons.2 ⟨fun _ => m0, nofun⟩⟩⟩⟩⟩⟩⟩⟩⟩⟩
  -- the only link arguments are those of `extZ` and `pairZ`: `[mkZ]`
  have lnk : ∀ c ∈ chains, ∀ a, c.getLast? = some a → ∀ q, Arg.link q ∈ a.args → q ∈ chains := by
    simp only [chains, List.forall_mem_cons]
    refine ⟨?_, ?_, ?_, ?_, ?_, ?_, ?_, ?_, ?_, ?_, nofun⟩ <;> intro a ha q hq <;> obtain rfl := Option.some.inj ha <;>
      cases hq <;> first | exact m5 | (rename_i h; nomatch h)
  exact ⟨fun acts hP he => pre acts hP he, fun acts act q hP hl hq => lnk acts hP act hl q hq⟩

theorem keyOK0 : KeyOK d0 P0 :=
  keyOK_of_injective fun a b _ _ h h' => keys_injective_of_nodup (cs := chains) (by decide +kernel) a b h h'

theorem safe0 : Safe d0 P0 := safe_of_no_vol (by decide +kernel : ∀ acts ∈ chains, ∀ b ∈ acts, String.ofList b.name ≠ "vol")

end Liquer.Iso.Ex
