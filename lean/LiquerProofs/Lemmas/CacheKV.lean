/-
The key-value specification `kvOpsC c` (every configuration `c`, every state, every key string): what each operation
does to the map, what it shows for one key (`kvView`), and the simulation framework of the refinement theorems of C13
(`CSim`, lifted to histories by `CSim.run`).
-/
import LiquerProofs.Lemmas.AssocList
import LiquerModel.CacheComb

namespace Liquer

theorem KV.get_eq (kv : KV) (k : Str) : kv.get k = AL.get kv k := rfl
theorem KV.erase_eq (kv : KV) (k : Str) : kv.erase k = AL.erase kv k := rfl
theorem KV.set_eq (kv : KV) (k : Str) (m : CMeta) (d : Option Str) : kv.set k m d = AL.set kv k (m, d) := rfl

theorem KV.get_set (kv : KV) (k k' : Str) (m : CMeta) (d : Option Str) :
    (kv.set k m d).get k' = if k' == k then some (m, d) else kv.get k' := AL.get_set kv k k' (m, d)

theorem KV.get_erase (kv : KV) (k k' : Str) : (kv.erase k).get k' = if k' == k then none else kv.get k' :=
  AL.get_erase kv k k'

theorem KV.count_keys_erase (kv : KV) (k k' : Str) :
    ((kv.erase k).map (·.1)).count k' = if k' == k then 0 else (kv.map (·.1)).count k' := by
  rw [KV.erase_eq, AL.keys_erase]
  split
  · next h => exact List.count_eq_zero.2 fun hm => bne_iff_ne.1 (List.mem_filter.1 hm).2 (beq_iff_eq.1 h)
  · next h => exact List.count_filter (bne_iff_ne.2 fun e => h (beq_iff_eq.2 e))

theorem KV.count_keys_set (kv : KV) (k k' : Str) (m : CMeta) (d : Option Str) :
    ((kv.set k m d).map (·.1)).count k' = if k' == k then 1 else (kv.map (·.1)).count k' := by
  rw [show (kv.set k m d).map (·.1) = k :: (kv.erase k).map (·.1) from rfl, List.count_cons, KV.count_keys_erase,
    BEq.comm (a := k)]
  split <;> rfl

/-- the key an operation addresses -/
def CacheOp.key? : CacheOp → Option Str
  | .get k => some k | .getMeta k => some k | .store st => some st.metadata.query | .storeMeta m => some m.query
  | .remove k => some k | .contains k => some k | .keys => none | .clean => none

theorem CacheOp.data_of_hasData {st : CState} (h : (CacheOp.store st).hasData = true) : ∃ d, st.data = some d :=
  Option.isSome_iff_exists.1 h

/-- what the specification shows for one key: metadata, data, served state, presence, multiplicity in `keys` -/
structure KeyView where
  entry : Option (CMeta × Option Str)
  served : Option CState
  meta? : Option CMeta
  present : Bool
  listed : Nat
  deriving DecidableEq

def kvView (c : KVCfg) (kv : KV) (k : Str) : KeyView :=
  { entry := kv.get k, served := ((kvOpsC c).get kv k).2, meta? := ((kvOpsC c).getMeta kv k).2,
    present := ((kvOpsC c).contains kv k).2, listed := ((kvOpsC c).keys kv).2.count k }

section spec
variable (c : KVCfg)

/-! what the writing operations do to the map (the other four leave it alone, by `rfl`) -/

theorem kvOpsC_store (kv : KV) {st : CState} (he : st.metadata.isError = false) :
    (kvOpsC c).store kv st = (kv.set st.metadata.query { st.metadata with status := ready } st.data, .true) :=
  if_neg (by rw [he]; exact Bool.false_ne_true)

theorem kv_store_error (kv : KV) (st : CState) (he : st.metadata.isError = true) :
    (kvOpsC c).store kv st = (kv, .none) :=
  if_pos he

theorem kvOpsC_storeMeta (kv : KV) (hf : c.metaFresh = true) (m : CMeta) :
    (kvOpsC c).storeMeta kv m = (kv.set m.query m (if c.keepData then (kv.get m.query).bind (·.2) else none), true) := by
  simp only [kvOpsC, hf]
  cases kv.get m.query with
  | none => simp
  | some e => rfl

theorem kvOpsC_storeMeta_keep (kv : KV) (m : CMeta) :
    (kvOpsC kvCfgKeep).storeMeta kv m = (kv.set m.query m ((kv.get m.query).bind (·.2)), true) :=
  kvOpsC_storeMeta kvCfgKeep kv rfl m

theorem kvOpsC_storeMeta_drop (kv : KV) (m : CMeta) : (kvOpsC kvCfgDrop).storeMeta kv m = (kv.set m.query m none, true) :=
  kvOpsC_storeMeta kvCfgDrop kv rfl m

/-- **every move of the specification**: an operation leaves the map alone, rebinds the key it addresses to metadata
filed under that key, erases the key it addresses, or (`clean`) empties the map -/
theorem kvOpsC_step_cases {P : KV → Prop} (kv : KV) (op : CacheOp) (same : P kv)
    (set : ∀ m d, op.key? = some m.query → P (kv.set m.query m d)) (erase : ∀ k, op.key? = some k → P (kv.erase k))
    (clean : op.key? = none → P []) : P ((kvOpsC c).step kv op).1 := by
  cases op with
  | get k => exact same
  | getMeta k => exact same
  | contains k => exact same
  | keys => exact same
  | clean => exact clean rfl
  | remove k => exact erase k rfl
  | store st =>
    cases he : st.metadata.isError with
    | true => simp only [CacheOps.step, kv_store_error c kv st he]; exact same
    | false => simp only [CacheOps.step, kvOpsC_store c kv he]; exact set { st.metadata with status := ready } _ rfl
  | storeMeta m =>
    simp only [CacheOps.step, kvOpsC]
    split
    · split
      · exact set m _ rfl
      · exact same
    · exact set m _ rfl

theorem kvView_congr {kv kv' : KV} {k k' : Str} (hg : kv'.get k' = kv.get k)
    (hc : (kv'.map (·.1)).count k' = (kv.map (·.1)).count k) : kvView c kv' k' = kvView c kv k := by
  simp only [kvView, kvOpsC, kvOps, hg, hc]

theorem kvView_absent (kv : KV) {k : Str} (h : kv.get k = none) :
    kvView c kv k = { entry := none, served := none, meta? := none, present := false, listed := 0 } := by
  have hc : (kv.map (·.1)).count k = 0 := List.count_eq_zero.2 fun hm => by
    obtain ⟨v, hv⟩ := AL.get_isSome_of_mem_keys (l := kv) hm
    rw [← KV.get_eq, h] at hv; cases hv
  simp only [kvView, kvOpsC, kvOps, h, hc]
  rfl

theorem kv_store_get (kv : KV) (st : CState) (he : st.metadata.isError = false) (d : Str) (hd : st.data = some d) :
    ((kvOpsC c).store kv st).2 = .true ∧
    kvView c ((kvOpsC c).store kv st).1 st.metadata.query =
      { entry := some ({ st.metadata with status := ready }, some d),
        served := some { metadata := { st.metadata with status := ready }, data := some d },
        meta? := some { st.metadata with status := ready }, present := true, listed := 1 } := by
  rw [kvOpsC_store c kv he, hd]
  refine ⟨rfl, ?_⟩
  simp only [kvView, kvOpsC, kvOps, KV.get_set, KV.count_keys_set, BEq.rfl, if_true]
  rfl

theorem kv_remove (kv : KV) (k : Str) :
    kvView c ((kvOpsC c).remove kv k).1 k = { entry := none, served := none, meta? := none, present := false, listed := 0 } :=
  kvView_absent c _ (by rw [show ((kvOpsC c).remove kv k).1 = kv.erase k from rfl, KV.get_erase]; simp)

theorem kv_clean (kv : KV) (k : Str) :
    kvView c ((kvOpsC c).clean kv) k = { entry := none, served := none, meta? := none, present := false, listed := 0 } :=
  kvView_absent c _ rfl

theorem kv_meta_data (kv : KV) (m : CMeta) :
    ((((kvOpsC c).storeMeta kv m).1.get m.query).bind (·.2)) = none ∨
    ((((kvOpsC c).storeMeta kv m).1.get m.query).bind (·.2)) = (kv.get m.query).bind (·.2) := by
  simp only [kvOpsC]
  cases h : kv.get m.query with
  | none =>
    by_cases hf : c.metaFresh
    · simp [hf, KV.get_set]
    · simp [hf, h]
  | some e =>
    obtain ⟨m0, d⟩ := e
    by_cases hk : c.keepData <;> simp [hk, KV.get_set]

theorem kv_get_no_data (kv : KV) {k : Str} (h : (kv.get k).bind (·.2) = none) : ((kvOpsC c).get kv k).2 = none := by
  simp only [kvOpsC, kvOps]
  match kv.get k, h with
  | none, _ => rfl
  | some (_, none), _ => rfl

theorem kv_meta_only_no_data (kv : KV) (m : CMeta) (h : (kv.get m.query).bind (·.2) = none) :
    ((kvOpsC c).get ((kvOpsC c).storeMeta kv m).1 m.query).2 = none :=
  kv_get_no_data c _ ((kv_meta_data c kv m).elim id (·.trans h))

theorem kv_frame (kv : KV) (op : CacheOp) (k k' : Str) (hk : op.key? = some k) (hne : k' ≠ k) :
    kvView c ((kvOpsC c).step kv op).1 k' = kvView c kv k' := by
  have h1 : (k' == k) = false := by simpa using hne
  refine kvOpsC_step_cases (P := fun kv' => kvView c kv' k' = kvView c kv k') c kv op rfl (fun m d hq => ?_) (fun q hq => ?_) (fun h => by rw [hk] at h; cases h)
  · obtain rfl : m.query = k := Option.some.inj (hq.symm.trans hk)
    exact kvView_congr c (by rw [KV.get_set, h1]; rfl) (by rw [KV.count_keys_set, h1]; rfl)
  · obtain rfl : q = k := Option.some.inj (hq.symm.trans hk)
    exact kvView_congr c (by rw [KV.get_erase, h1]; rfl) (by rw [KV.count_keys_erase, h1]; rfl)

end spec

theorem kvOps_eq : kvOpsC kvCfgDrop = kvOps := by
  unfold kvOpsC kvOps
  congr 1
  funext kv m
  exact kvOpsC_storeMeta_drop kv m

/-- observations are compared up to the order of `keys` -/
def outEq (a b : CacheOut) : Prop :=
  match a, b with
  | .keys x, .keys y => x.Perm y
  | _, _ => a = b

theorem outEq_refl (a : CacheOut) : outEq a a := by
  cases a <;> simp [outEq]

theorem outEq_of_eq {a b : CacheOut} (h : a = b) : outEq a b := h ▸ outEq_refl a

theorem outEq_keys {x y : List Str} : outEq (.keys x) (.keys y) ↔ x.Perm y := Iff.rfl

def outsEq : List CacheOut → List CacheOut → Prop
  | [], [] => True
  | a :: as, b :: bs => outEq a b ∧ outsEq as bs
  | _, _ => False

theorem outsEq_cons {a b : CacheOut} {as bs : List CacheOut} : outsEq (a :: as) (b :: bs) ↔ outEq a b ∧ outsEq as bs := Iff.rfl

/-- well-formed history, decided along the run of the specification -/
def HistOK {τ : Type} (S : CacheOps τ) (ok : τ → CacheOp → Prop) : τ → List CacheOp → Prop
  | _, [] => True
  | t, op :: rest => ok t op ∧ HistOK S ok (S.step t op).1 rest

theorem histOK_of_all {τ : Type} (S : CacheOps τ) (p : CacheOp → Prop) (h : List CacheOp) (hall : ∀ op ∈ h, p op) :
    ∀ t, HistOK S (fun _ => p) t h := by
  induction h with
  | nil => intro t; trivial
  | cons op rest ih =>
    intro t
    exact ⟨hall op (List.mem_cons_self ..), ih (fun o ho => hall o (List.mem_cons_of_mem _ ho)) _⟩

/-- `C` simulates `S` through `R` on operations satisfying `ok` -/
def CSim {σ τ : Type} (C : CacheOps σ) (S : CacheOps τ) (R : σ → τ → Prop) (ok : τ → CacheOp → Prop) : Prop :=
  ∀ s t op, R s t → ok t op → R (C.step s op).1 (S.step t op).1 ∧ outEq (C.step s op).2 (S.step t op).2

theorem sim_store {σ : Type} {C : CacheOps σ} (c : KVCfg) {R : σ → KV → Prop} {s s' : σ} {kv : KV} {st : CState}
    (hC : C.store s st = if st.metadata.isError then (s, .none) else (s', .true)) (hR : R s kv)
    (hR' : st.metadata.isError = false → R s' (kv.set st.metadata.query { st.metadata with status := ready } st.data)) :
    R (C.step s (.store st)).1 ((kvOpsC c).step kv (.store st)).1 ∧
    outEq (C.step s (.store st)).2 ((kvOpsC c).step kv (.store st)).2 := by
  cases he : st.metadata.isError with
  | true =>
    simp only [CacheOps.step, kv_store_error c kv st he, hC, he, if_true]
    exact ⟨hR, outEq_refl _⟩
  | false =>
    simp only [CacheOps.step, kvOpsC_store c kv he, hC, if_neg (Bool.eq_false_iff.1 he)]
    exact ⟨hR' he, outEq_refl _⟩

theorem CSim.run {σ τ : Type} {C : CacheOps σ} {S : CacheOps τ} {R : σ → τ → Prop} {ok : τ → CacheOp → Prop}
    (sim : CSim C S R ok) (h : List CacheOp) : ∀ s t, R s t → HistOK S ok t h →
    R (C.run s h).1 (S.run t h).1 ∧ outsEq (C.run s h).2 (S.run t h).2 := by
  induction h with
  | nil => intro s t hr _; exact ⟨hr, trivial⟩
  | cons op rest ih =>
    intro s t hr hok
    obtain ⟨h1, h2⟩ := hok
    obtain ⟨hr', ho⟩ := sim s t op hr h1
    obtain ⟨hr'', hos⟩ := ih _ _ hr' h2
    simp only [CacheOps.run]
    exact ⟨hr'', ho, hos⟩

end Liquer
