/-
Association lists (`AL`), generic in the key type: lookup after `filter` / `erase` / `set`, the key list, membership, lists
without duplicate keys.  `KV`, `FS`, `CDir`, `MemCState`, the dictionaries of `MemState` and `PFS` are association lists;
their `get` / `set` / `erase` unfold to the ones here.
-/
import LiquerModel.CacheMem
namespace Liquer

theorem beq_of_inj {α β : Type} [BEq α] [LawfulBEq α] [BEq β] [LawfulBEq β] {f : α → β} {a b : α}
    (h : f a = f b → a = b) : (f a == f b) = (a == b) :=
  Bool.eq_iff_iff.2 (by simp only [beq_iff_eq]; exact ⟨h, congrArg f⟩)

namespace AL

section
variable {κ : Type} {β : Type}

/-- no two bindings for one key -/
def ND (l : List (κ × β)) : Prop := l.Pairwise (fun a b => a.1 ≠ b.1)

theorem ND.filter {l : List (κ × β)} (h : ND l) (q : κ × β → Bool) : ND (l.filter q) := List.Pairwise.filter q h

theorem nd_iff_nodup {l : List (κ × β)} : ND l ↔ (l.map (·.1)).Nodup := by
  unfold ND List.Nodup
  rw [List.pairwise_map]

end

variable {κ : Type} [BEq κ] [LawfulBEq κ] {β : Type}

theorem get_filter (l : List (κ × β)) (p : κ → Bool) (k : κ) :
    get (l.filter (fun e => p e.1)) k = if p k then get l k else none := by
  unfold get
  rw [List.find?_filter]
  by_cases hp : p k
  · rw [if_pos hp]
    congr 2
    funext a
    by_cases ha : a.1 = k
    · simp [ha, hp]
    · simp [ha]
  · rw [if_neg hp, List.find?_eq_none.2 (fun a _ h => by simp only [decide_eq_true_eq, beq_iff_eq] at h; exact hp (h.2 ▸ h.1))]
    rfl

theorem get_erase (l : List (κ × β)) (k k' : κ) : get (erase l k) k' = if k' == k then none else get l k' := by
  unfold erase
  rw [get_filter l (fun x => x != k) k']
  by_cases h : k' = k <;> simp [h]

omit [LawfulBEq κ] in
theorem get_cons (e : κ × β) (l : List (κ × β)) (k : κ) : get (e :: l) k = if e.1 == k then some e.2 else get l k := by
  unfold get
  rw [List.find?_cons]
  cases e.1 == k <;> rfl

theorem get_set (l : List (κ × β)) (k k' : κ) (v : β) : get (set l k v) k' = if k' == k then some v else get l k' := by
  rw [set, get_cons, get_erase]
  by_cases h : k' = k
  · subst h; simp
  · have h' : ¬ k = k' := fun e => h e.symm
    simp [h, h']

omit [LawfulBEq κ] in
theorem keys_erase (l : List (κ × β)) (k : κ) : (erase l k).map (·.1) = (l.map (·.1)).filter (· != k) := by
  unfold erase
  rw [List.filter_map]
  rfl

omit [LawfulBEq κ] in
theorem keys_set (l : List (κ × β)) (k : κ) (v : β) : (set l k v).map (·.1) = k :: (l.map (·.1)).filter (· != k) := by
  simp [set, keys_erase]

theorem mem_of_get {l : List (κ × β)} {k : κ} {v : β} (h : get l k = some v) : (k, v) ∈ l := by
  obtain ⟨⟨a, b⟩, hf, rfl⟩ := Option.map_eq_some_iff.1 h
  have := List.find?_some hf
  simp only [beq_iff_eq] at this
  exact this ▸ List.mem_of_find?_eq_some hf

theorem mem_keys_of_get {l : List (κ × β)} {k : κ} {v : β} (h : get l k = some v) : k ∈ l.map (·.1) :=
  List.mem_map.2 ⟨(k, v), mem_of_get h, rfl⟩

theorem get_isSome_of_mem_keys {l : List (κ × β)} {k : κ} (h : k ∈ l.map (·.1)) : ∃ v, get l k = some v := by
  obtain ⟨e, he, rfl⟩ := List.mem_map.1 h
  cases hf : l.find? (fun x => x.1 == e.1) with
  | none => simpa using List.find?_eq_none.1 hf e he
  | some x => exact ⟨x.2, by rw [get, hf]; rfl⟩

theorem erase_of_get_none {l : List (κ × β)} {k : κ} (h : get l k = none) : erase l k = l :=
  List.filter_eq_self.2 fun e he => bne_iff_ne.2 fun e' =>
    nomatch h.symm.trans (get_isSome_of_mem_keys (e' ▸ List.mem_map.2 ⟨e, he, rfl⟩)).choose_spec

omit [LawfulBEq κ] in
theorem ND.erase {l : List (κ × β)} (h : ND l) (k : κ) : ND (erase l k) := h.filter _

theorem ND.set {l : List (κ × β)} (h : ND l) (k : κ) (v : β) : ND (set l k v) :=
  List.Pairwise.cons (fun _ he e' => bne_iff_ne.1 (List.mem_filter.1 he).2 e'.symm) (h.erase k)

theorem ND.get_of_mem {l : List (κ × β)} (h : ND l) (e : κ × β) (he : e ∈ l) : get l e.1 = some e.2 := by
  induction l with
  | nil => cases he
  | cons a l ih =>
    rw [ND, List.pairwise_cons] at h
    rw [get_cons]
    rcases List.mem_cons.1 he with rfl | he'
    · simp
    · rw [if_neg (by simpa using h.1 e he')]
      exact ih h.2 he'

end AL
end Liquer
