/-
Helper lemmas for C11: JSON string escaping round trip, `djson` framing.
-/
import LiquerModel.StateTypes

namespace Liquer.StateTypes
open Liquer

theorem units_quote (t : List Char) : units ('"' :: t) = some ([], t) := by
  rw [units.eq_def]; rfl

theorem units_plain {c : Char} (h1 : c ≠ '"') (h2 : c ≠ '\\') (h3 : ¬ c.toNat < 32) (t : List Char) :
    units (c :: t) = (units t).map (fun p => (c.toNat :: p.1, p.2)) := by
  rw [units.eq_def]; simp only [if_neg h1, if_neg h2, if_neg h3]

theorem units_bs {e ch : Char} (he : e ≠ 'u') (hs : simpleEsc e = some ch) (t : List Char) :
    units ('\\' :: e :: t) = (units t).map (fun p => (ch.toNat :: p.1, p.2)) := by
  rw [units.eq_def]; simp only [if_neg he, hs]; rfl

theorem hexVal_hexLower {n : Nat} (h : n < 16) : hexVal? (hexLower n) = some n :=
  (by decide +kernel : ∀ n : Fin 16, hexVal? (hexLower n.val) = some n.val) ⟨n, h⟩

theorem units_uEsc {n : Nat} (h : n < 65536) (t : List Char) :
    units (uEsc n ++ t) = (units t).map (fun p => (n :: p.1, p.2)) := by
  have hv : hex4Val (hexLower (n / 4096 % 16)) (hexLower (n / 256 % 16)) (hexLower (n / 16 % 16))
      (hexLower (n % 16)) = some n := by
    simp only [hex4Val, hexVal_hexLower, Nat.mod_lt, Nat.zero_lt_succ]
    -- `omega` takes `n / 4096`, `n / 256`, `n / 16` for unrelated quotients; as `n / 16 / 16 / 16` … they are chained
    rw [show n / 4096 = n / 16 / 16 / 16 by simp [Nat.div_div_eq_div_mul],
      show n / 256 = n / 16 / 16 by simp [Nat.div_div_eq_div_mul]]
    congr 1; omega
  rw [units.eq_def]; simp only [uEsc, hex4, List.cons_append, List.nil_append, hv]; rfl

/-- UTF-16 code units of a character the way `json.dumps` escapes it -/
def cu (c : Char) : List Nat :=
  if c.toNat < 65536 then [c.toNat]
  else [55296 + (c.toNat - 65536) / 1024, 56320 + (c.toNat - 65536) % 1024]

theorem char_valid (c : Char) : c.toNat < 55296 ∨ 57343 < c.toNat ∧ c.toNat < 1114112 := c.valid

theorem units_escChar (c : Char) (t : List Char) :
    units (escChar c ++ t) = (units t).map (fun p => (cu c ++ p.1, p.2)) := by
  by_cases hs : c ∈ ['"', '\\', '\n', '\r', '\t', Char.ofNat 8, Char.ofNat 12]
  · -- the two-character escapes `\e`: `simpleEsc e` gives the character back
    simp only [List.mem_cons, List.not_mem_nil, or_false] at hs
    rcases hs with rfl | rfl | rfl | rfl | rfl | rfl | rfl <;> exact units_bs (by decide) rfl t
  simp only [List.mem_cons, List.not_mem_nil, or_false, not_or] at hs
  obtain ⟨h1, h2, h3, h4, h5, h6, h7⟩ := hs
  have hv := char_valid c
  rw [escChar, if_neg h1, if_neg h2, if_neg h3, if_neg h4, if_neg h5, if_neg h6, if_neg h7, cu]
  by_cases hp : 32 ≤ c.toNat ∧ c.toNat ≤ 126
  · rw [if_pos hp, if_pos (by omega)]
    exact units_plain h1 h2 (by omega) t
  rw [if_neg hp]
  by_cases h : c.toNat < 65536
  · rw [if_pos h, if_pos h]
    exact units_uEsc h t
  · rw [if_neg h, if_neg h, List.append_assoc, units_uEsc (by omega), units_uEsc (by omega),
      Option.map_map]
    rfl

theorem units_jsonEscape (s : Str) (rest : List Char) :
    units (jsonEscape s ++ '"' :: rest) = some (s.flatMap cu, rest) := by
  induction s with
  | nil => exact units_quote rest
  | cons c s ih =>
    rw [jsonEscape, List.flatMap_cons, List.append_assoc, units_escChar, ← jsonEscape, ih]
    rfl

theorem joinSurr_single {n : Nat} (h : n < 55296 ∨ 57344 ≤ n) (rest : List Nat) :
    joinSurr (n :: rest) = (joinSurr rest).map (fun s => Char.ofNat n :: s) := by
  rw [joinSurr.eq_def]; simp only
  rw [if_neg (by omega), if_neg (by omega)]

theorem joinSurr_pair {n m : Nat} (hn : 55296 ≤ n ∧ n < 56320) (hm : 56320 ≤ m ∧ m < 57344)
    (rest : List Nat) :
    joinSurr (n :: m :: rest) =
      (joinSurr rest).map (fun s => Char.ofNat (65536 + (n - 55296) * 1024 + (m - 56320)) :: s) := by
  rw [joinSurr.eq_def]; simp only
  rw [if_pos hn, if_pos hm]

theorem joinSurr_cu (c : Char) (us : List Nat) :
    joinSurr (cu c ++ us) = (joinSurr us).map (fun s => c :: s) := by
  have hv := char_valid c
  rw [cu]
  split
  · rw [List.singleton_append, joinSurr_single (by omega), Char.ofNat_toNat]
  · have : 65536 + (55296 + (c.toNat - 65536) / 1024 - 55296) * 1024 +
        (56320 + (c.toNat - 65536) % 1024 - 56320) = c.toNat := by omega
    rw [List.cons_append, List.singleton_append, joinSurr_pair (by omega) (by omega), this,
      Char.ofNat_toNat]

theorem joinSurr_flatMap_cu (s : Str) : joinSurr (s.flatMap cu) = some s := by
  induction s with
  | nil => rfl
  | cons c s ih => rw [List.flatMap_cons, joinSurr_cu, ih]; rfl

theorem parseJStr_jsonEscape (s : Str) (rest : List Char) :
    parseJStr (jsonEscape s ++ '"' :: rest) = some (s, rest) := by
  simp only [parseJStr, units_jsonEscape, joinSurr_flatMap_cu, Option.map_some]

/-- strings that `json.dumps` leaves alone: printable ASCII without `"` and `\` -/
def plainStr (s : Str) : Bool := s.all (fun c => 32 ≤ c.toNat && c.toNat ≤ 126 && c != '"' && c != '\\')

theorem escChar_plain {c : Char} (h1 : 32 ≤ c.toNat) (h2 : c.toNat ≤ 126) (h3 : c ≠ '"') (h4 : c ≠ '\\') :
    escChar c = [c] := by
  have hn : ∀ k : Char, k.toNat < 32 → c ≠ k := fun k hk e => by subst e; omega
  rw [escChar, if_neg h3, if_neg h4, if_neg (hn _ (by decide)), if_neg (hn _ (by decide)),
    if_neg (hn _ (by decide)), if_neg (hn _ (by decide)), if_neg (hn _ (by decide)), if_pos ⟨h1, h2⟩]

theorem jsonEscape_plain (s : Str) (h : plainStr s = true) : jsonEscape s = s := by
  have he : ∀ c ∈ s, escChar c = [c] := fun c hc => by
    have := List.all_eq_true.mp h c hc
    simp only [Bool.and_eq_true, decide_eq_true_eq, bne_iff_ne, ne_eq] at this
    exact escChar_plain this.1.1.1 this.1.1.2 this.1.2 this.2
  rw [jsonEscape, List.flatMap_def, List.map_congr_left he, ← List.flatMap_def, List.flatMap_singleton']

theorem parseJStr_plain (s : Str) (h : plainStr s = true) (rest : List Char) :
    parseJStr (s ++ '"' :: rest) = some (s, rest) := by
  have := parseJStr_jsonEscape s rest
  rwa [jsonEscape_plain s h] at this

theorem skipWs_ws {c : Char} (h : isWs c = true) (t : List Char) : skipWs (c :: t) = skipWs t := by
  rw [skipWs, if_pos h]

theorem skipWs_not_ws {c : Char} (h : isWs c = false) (t : List Char) : skipWs (c :: t) = c :: t := by
  rw [skipWs, h]; rfl

theorem skipWs_replicate (n : Nat) (t : List Char) : skipWs (List.replicate n ' ' ++ t) = skipWs t := by
  induction n with
  | zero => rfl
  | succ n ih => rw [List.replicate_succ, List.cons_append, skipWs_ws rfl, ih]

def keysNodup {E} : List (Str × E) → Bool
  | [] => true
  | kv :: rest => rest.all (fun x => x.1 != kv.1) && keysNodup rest

theorem dictSet_append_fresh {E} (d : List (Str × E)) (kv : Str × E) (h : ∀ x ∈ d, x.1 ≠ kv.1) :
    dictSet d kv = d ++ [kv] := by
  induction d with
  | nil => rfl
  | cons a d ih =>
    rw [dictSet, if_neg (h a List.mem_cons_self), ih (fun x hx => h x (List.mem_cons_of_mem _ hx))]
    rfl

theorem dictOfPairs_go {E} (d acc : List (Str × E))
    (hd : keysNodup d = true) (ha : ∀ x ∈ acc, ∀ y ∈ d, x.1 ≠ y.1) :
    d.foldl dictSet acc = acc ++ d := by
  induction d generalizing acc with
  | nil => exact (List.append_nil acc).symm
  | cons kv d ih =>
    simp only [keysNodup, Bool.and_eq_true, List.all_eq_true, bne_iff_ne, ne_eq] at hd
    rw [List.foldl_cons, dictSet_append_fresh acc kv (fun x hx => ha x hx kv List.mem_cons_self),
      ih (acc ++ [kv]) hd.2, List.append_assoc, List.singleton_append]
    intro x hx y hy
    rcases List.mem_append.mp hx with hx | hx
    · exact ha x hx y (List.mem_cons_of_mem _ hy)
    · rw [List.mem_singleton.mp hx]
      exact fun e => hd.1 y hy e.symm

theorem dictOfPairs_nodup {E} (d : List (Str × E)) (hd : keysNodup d = true) : dictOfPairs d = d :=
  dictOfPairs_go d [] hd (fun _ h => absurd h List.not_mem_nil)

/-- what may follow an element in `djson` text: `,` (more members) or the newline before `}` -/
def Delim (rest : List Char) : Prop := ∃ r, rest = ',' :: r ∨ rest = '\n' :: r

/-- the law an element codec has to satisfy (for `encode_element`/`decode_element` it is derived from the
scalar / base64 / third-party codec laws in `Props/C11.lean`) -/
structure ElemLaw {E} (encE : E → List Char) (parseE : List Char → Option (E × List Char)) : Prop where
  /-- an encoded element is non-empty and does not start with white space -/
  noLeadWs : ∀ v, ∃ c cs, encE v = c :: cs ∧ isWs c = false
  /-- the element parser reads back exactly the element and stops at the delimiter -/
  parse : ∀ v rest, Delim rest → parseE (encE v ++ rest) = some (v, rest)

theorem memberLine_shape {E} (encE : E → List Char) (kv : Str × E) (t : List Char) :
    ∃ n, memberLine encE kv ++ t =
      '"' :: (jsonEscape kv.1 ++ '"' :: ':' :: (List.replicate n ' ' ++ (encE kv.2 ++ t))) :=
  ⟨20 - (jsonString kv.1 ++ [':']).length, by simp [memberLine, fmtKey, padRight, jsonString]⟩

theorem membersText_single {E} (encE : E → List Char) (kv : Str × E) :
    membersText encE [kv] = memberLine encE kv := rfl

theorem membersText_cons_cons {E} (encE : E → List Char) (kv kv2 : Str × E) (d : List (Str × E)) :
    membersText encE (kv :: kv2 :: d) = memberLine encE kv ++ (',' :: '\n' :: membersText encE (kv2 :: d)) := by
  simp [membersText, joinStr]

theorem membersText_head {E} (encE : E → List Char) (kv : Str × E) (d : List (Str × E)) (t : List Char) :
    ∃ r, membersText encE (kv :: d) ++ t = '"' :: r := by
  cases d with
  | nil => exact (memberLine_shape encE kv t).elim fun _ h => ⟨_, h⟩
  | cons kv2 d =>
    rw [membersText_cons_cons, List.append_assoc]
    exact (memberLine_shape encE kv _).elim fun _ h => ⟨_, h⟩

/-- the fuel `parseObject` passes (the length of the text) covers one round per member -/
theorem membersText_length {E} (encE : E → List Char) (d : List (Str × E)) :
    d.length ≤ (membersText encE d).length := by
  induction d with
  | nil => exact Nat.zero_le _
  | cons kv d ih =>
    cases d with
    | nil =>
      obtain ⟨r, hr⟩ := membersText_head encE kv [] []
      rw [← List.append_nil (membersText encE [kv]), hr]
      exact Nat.le_add_left 1 _
    | cons kv2 d =>
      rw [membersText_cons_cons]
      simp only [List.length_cons, List.length_append] at ih ⊢
      omega

theorem parseMembers_line {E} {encE : E → List Char} {parseE : List Char → Option (E × List Char)}
    (law : ElemLaw encE parseE) (fuel : Nat) (kv : Str × E) (rest : List Char) (hrest : Delim rest)
    (acc : List (Str × E)) :
    parseMembers parseE (fuel + 1) (memberLine encE kv ++ rest) acc =
      match skipWs rest with
      | ',' :: t5 => parseMembers parseE fuel (skipWs t5) (acc ++ [kv])
      | '}' :: t5 => some (acc ++ [kv], t5)
      | _ => none := by
  obtain ⟨n, hn⟩ := memberLine_shape encE kv rest
  obtain ⟨c, cs, hc, hws⟩ := law.noLeadWs kv.2
  rw [hn, parseMembers]
  simp only [parseJStr_jsonEscape, skipWs_not_ws (c := ':') rfl, skipWs_replicate]
  rw [hc, List.cons_append, skipWs_not_ws hws, ← List.cons_append, ← hc]
  simp only [law.parse _ rest hrest]
  rfl

theorem parseMembers_members {E} {encE : E → List Char} {parseE : List Char → Option (E × List Char)}
    (law : ElemLaw encE parseE) (d : List (Str × E)) (kv : Str × E) (acc : List (Str × E)) (fuel : Nat)
    (post : List Char) (hf : (kv :: d).length ≤ fuel) :
    parseMembers parseE fuel (membersText encE (kv :: d) ++ '\n' :: '}' :: post) acc = some (acc ++ kv :: d, post) := by
  induction d generalizing kv acc fuel with
  | nil =>
    obtain ⟨f, rfl⟩ := Nat.exists_eq_succ_of_ne_zero (Nat.ne_of_gt hf)
    rw [membersText_single, parseMembers_line law f kv _ ⟨_, Or.inr rfl⟩, skipWs_ws rfl,
      skipWs_not_ws rfl]
    rfl
  | cons kv2 d ih =>
    obtain ⟨f, rfl⟩ := Nat.exists_eq_succ_of_ne_zero
      (Nat.ne_of_gt (Nat.lt_of_lt_of_le (Nat.succ_pos _) hf))
    obtain ⟨r, hr⟩ := membersText_head encE kv2 d ('\n' :: '}' :: post)
    rw [membersText_cons_cons, List.append_assoc, List.cons_append, List.cons_append,
      parseMembers_line law f kv _ ⟨_, Or.inl rfl⟩, skipWs_not_ws rfl]
    simp only
    rw [skipWs_ws rfl, hr, skipWs_not_ws rfl, ← hr, ih kv2 (acc ++ [kv]) f (Nat.le_of_succ_le_succ hf),
      List.append_assoc]
    rfl

theorem parseObject_toDjson {E} {encE : E → List Char} {parseE : List Char → Option (E × List Char)}
    (law : ElemLaw encE parseE) (d : List (Str × E)) :
    parseObject parseE (toDjson encE d) = some d := by
  cases d with
  | nil => rfl
  | cons kv d =>
    obtain ⟨r, hr⟩ := membersText_head encE kv d ['\n', '}']
    have hlen : (kv :: d).length ≤ (toDjson encE (kv :: d)).length := by
      have := membersText_length encE (kv :: d)
      simp only [toDjson, List.length_append, List.length_cons, List.length_nil] at this ⊢
      omega
    have hp := parseMembers_members law d kv [] _ [] hlen
    have h0 : skipWs (toDjson encE (kv :: d)) = '{' :: '\n' :: '"' :: r := by
      rw [toDjson, List.append_assoc, hr]
      exact skipWs_not_ws rfl _
    rw [hr] at hp
    rw [parseObject, h0]
    simp only
    rw [skipWs_ws rfl, skipWs_not_ws rfl]
    split
    · next heq => exact absurd (List.cons.inj heq).1 (by decide)
    · rw [hp]; rfl

end Liquer.StateTypes
