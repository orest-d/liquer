/-
Generic facts on step lists (any step executor): `crashAt` along a protocol and across its phases, invariants, the
function-level file system an executor implements (`stepGet`, `Spec`) with the few laws the proofs about writers use
(`StepLaws`), and writing a file through a temporary one.
-/
import LiquerModel.CrashSteps
import LiquerProofs.Lemmas.AssocList

namespace Liquer
namespace Crash

variable {ν φ : Type}

def Step.names : Step ν → List ν
  | .mkdir p => [p] | .create p => [p] | .append p _ => [p] | .close p => [p] | .rename a b => [a, b] | .unlink p => [p]

def Step.isAppend : Step ν → Bool
  | .append _ _ => true
  | _ => false

theorem crashAt_nil (exec : φ → Step ν → φ) (n cut : Nat) (fs : φ) : crashAt exec n cut [] fs = fs := by
  cases n <;> rfl

theorem crashAt_zero_cons (exec : φ → Step ν → φ) (cut : Nat) (s : Step ν) (rest : List (Step ν)) (fs : φ)
    (h : s.isAppend = false) : crashAt exec 0 cut (s :: rest) fs = fs := by
  cases s <;> first | rfl | cases h

theorem crashAt_succ_cons (exec : φ → Step ν → φ) (n cut : Nat) (s : Step ν) (rest : List (Step ν)) (fs : φ) :
    crashAt exec (n + 1) cut (s :: rest) fs = crashAt exec n cut rest (exec fs s) := rfl

theorem crashAt_ge (exec : φ → Step ν → φ) (n cut : Nat) (steps : List (Step ν)) (fs : φ) (h : steps.length ≤ n) :
    crashAt exec n cut steps fs = steps.foldl exec fs := by
  simp only [crashAt, List.take_of_length_le h, List.drop_eq_nil_of_le h]

theorem crashAt_append_lt (exec : φ → Step ν → φ) (n cut : Nat) (l1 l2 : List (Step ν)) (fs : φ) (h : n < l1.length) :
    crashAt exec n cut (l1 ++ l2) fs = crashAt exec n cut l1 fs := by
  induction l1 generalizing n fs with
  | nil => cases h
  | cons s rest ih =>
    cases n with
    | zero => cases s <;> rfl
    | succ n => exact ih n _ (Nat.lt_of_succ_lt_succ h)

theorem crashAt_append_ge (exec : φ → Step ν → φ) (n cut : Nat) (l1 l2 : List (Step ν)) (fs : φ) (h : l1.length ≤ n) :
    crashAt exec n cut (l1 ++ l2) fs = crashAt exec (n - l1.length) cut l2 (l1.foldl exec fs) := by
  induction l1 generalizing n fs with
  | nil => rfl
  | cons s rest ih =>
    cases n with
    | zero => cases h
    | succ n => rw [List.length_cons, Nat.succ_sub_succ]; exact ih n _ (Nat.le_of_succ_le_succ h)

theorem foldl_inv (exec : φ → Step ν → φ) (I : φ → Prop) (steps : List (Step ν))
    (hstep : ∀ s ∈ steps, ∀ fs, I fs → I (exec fs s)) (fs : φ) (h : I fs) : I (steps.foldl exec fs) := by
  induction steps generalizing fs with
  | nil => exact h
  | cons s rest ih =>
    exact ih (fun s' hs' => hstep s' (List.mem_cons_of_mem _ hs')) _ (hstep s (List.mem_cons_self ..) fs h)

theorem crashAt_inv (exec : φ → Step ν → φ) (I : φ → Prop) (steps : List (Step ν))
    (hstep : ∀ s ∈ steps, ∀ fs, I fs → I (exec fs s))
    (hpart : ∀ p b, Step.append p b ∈ steps → ∀ cut fs, I fs → I (exec fs (.append p (b.take cut)))) :
    ∀ (n cut : Nat) (fs : φ), I fs → I (crashAt exec n cut steps fs) := by
  induction steps with
  | nil => intro n cut fs h; rw [crashAt_nil]; exact h
  | cons s rest ih =>
    intro n cut fs h
    cases n with
    | succ n =>
      exact ih (fun s' hs' => hstep s' (List.mem_cons_of_mem _ hs')) (fun p b hm => hpart p b (List.mem_cons_of_mem _ hm)) n cut _
        (hstep s (List.mem_cons_self ..) fs h)
    | zero =>
      cases s with
      | append p b => exact hpart p b (List.mem_cons_self ..) cut fs h
      | _ => exact h

/-- a crash before the last step of `pre ++ [last]` (which is not a write) is a crash of `pre` -/
theorem crashAt_before_last (exec : φ → Step ν → φ) (pre : List (Step ν)) (last : Step ν) (hlast : last.isAppend = false)
    (n cut : Nat) (fs : φ) (hn : n ≤ pre.length) : crashAt exec n cut (pre ++ [last]) fs = crashAt exec n cut pre fs := by
  rcases Nat.lt_or_ge n pre.length with hlt | hge
  · exact crashAt_append_lt _ _ _ _ _ _ hlt
  · rw [crashAt_append_ge _ _ _ _ _ _ hge, Nat.le_antisymm hn hge, Nat.sub_self, crashAt_zero_cons _ _ _ _ _ hlast,
      crashAt_ge _ _ _ _ _ (Nat.le_refl _)]

/-- what the proofs about writers use of an executor; `get fs n` is what the name `n` holds, `file b` a regular file
with content `b` -/
structure StepLaws {β : Type} (exec : φ → Step ν → φ) (get : φ → ν → Option β) (file : Data → β) : Prop where
  untouched : ∀ fs s n, n ∉ s.names → get (exec fs s) n = get fs n
  create : ∀ fs p, get (exec fs (.create p)) p = some (file [])
  append : ∀ fs p x b, get fs p = some (file x) → get (exec fs (.append p b)) p = some (file (x ++ b))
  close : ∀ fs p, get (exec fs (.close p)) p = get fs p
  rename : ∀ fs a b x, get fs a = some x → get (exec fs (.rename a b)) b = some x
  unlink : ∀ fs p, get (exec fs (.unlink p)) p = none

/-- the file system as a function from names to contents, and what a step does to it; `mk o` is what `mkdir` leaves at a name
that held `o`, `app x b` the content `x` with `b` appended -/
def stepGet {β : Type} [DecidableEq ν] (mk : Option β → Option β) (app : β → Data → β) (file : Data → β) (f : ν → Option β) :
    Step ν → ν → Option β
  | .mkdir p, q => if q = p then mk (f p) else f q
  | .create p, q => if q = p then some (file []) else f q
  | .append p b, q => if q = p then (f p).map (app · b) else f q
  | .close _, q => f q
  | .rename a b, q => match f a with
    | some x => if q = b then some x else if q = a then none else f q
    | none => f q
  | .unlink p, q => if q = p then none else f q

/-- the executor implements `stepGet`; this is what to prove of an executor: `Spec.stepLaws` gives `StepLaws`, `Spec.fsLaws`
(CrashBuf) the laws of the buffered-write argument -/
structure Spec {β : Type} [DecidableEq ν] (exec : φ → Step ν → φ) (get : φ → ν → Option β) (mk : Option β → Option β)
    (app : β → Data → β) (file : Data → β) : Prop where
  get_exec : ∀ fs s q, get (exec fs s) q = stepGet mk app file (get fs) s q
  app_file : ∀ x b, app (file x) b = file (x ++ b)
  app_nil : ∀ x, app x [] = x
  app_app : ∀ x a b, app (app x a) b = app x (a ++ b)

theorem Spec.stepLaws {β : Type} [DecidableEq ν] {exec : φ → Step ν → φ} {get : φ → ν → Option β} {mk : Option β → Option β}
    {app : β → Data → β} {file : Data → β} (h : Spec exec get mk app file) : StepLaws exec get file where
  untouched fs s n hn := by
    rw [h.get_exec]
    cases s <;> simp only [Step.names, List.mem_cons, List.not_mem_nil, or_false, not_or] at hn <;> simp only [stepGet]
    case rename a b =>
      split
      · rw [if_neg hn.2, if_neg hn.1]
      · rfl
    all_goals first | rfl | exact if_neg hn
  create fs p := by rw [h.get_exec]; exact if_pos rfl
  append fs p x b hp := by rw [h.get_exec, stepGet, if_pos rfl, hp, Option.map_some, h.app_file]
  close fs p := by rw [h.get_exec]; rfl
  rename fs a b x ha := by rw [h.get_exec]; simp only [stepGet, ha, if_true]
  unlink fs p := by rw [h.get_exec]; exact if_pos rfl

/-- `_write_file(target, b)` of both file-backed classes: `open(tmp, "wb")`, `write`, `close`, `os.replace` -/
def writeVia (tmp target : ν) (b : Data) : List (Step ν) := [.create tmp, .append tmp b, .close tmp, .rename tmp target]

/-- every name the steps mention satisfies `P` -/
def Within (P : ν → Bool) (l : List (Step ν)) : Prop := ∀ s ∈ l, ∀ n ∈ s.names, P n = true

theorem Within.append {P : ν → Bool} {l1 l2 : List (Step ν)} (h1 : Within P l1) (h2 : Within P l2) : Within P (l1 ++ l2) :=
  fun s hs => (List.mem_append.1 hs).elim (h1 s) (h2 s)

theorem Within.of_writeVia {P : ν → Bool} {tmp target : ν} (b : Data) (ht : P tmp = true) (hg : P target = true) :
    Within P (writeVia tmp target b) := by
  intro s hs n hn
  simp only [writeVia, List.mem_cons, List.not_mem_nil, or_false] at hs
  rcases hs with rfl | rfl | rfl | rfl
  · exact List.mem_singleton.1 hn ▸ ht
  · exact List.mem_singleton.1 hn ▸ ht
  · exact List.mem_singleton.1 hn ▸ ht
  · rcases List.mem_cons.1 hn with rfl | hn
    · exact ht
    · exact List.mem_singleton.1 hn ▸ hg

section laws
variable {β : Type} {exec : φ → Step ν → φ} {get : φ → ν → Option β} {file : Data → β} (L : StepLaws exec get file)
include L

theorem StepLaws.foldl_untouched (l : List (Step ν)) (nm : ν) (h : ∀ s ∈ l, nm ∉ s.names) (fs : φ) :
    get (l.foldl exec fs) nm = get fs nm :=
  foldl_inv exec (fun fs' => get fs' nm = get fs nm) l (fun s hs fs' hI => (L.untouched fs' s nm (h s hs)).trans hI) fs rfl

theorem StepLaws.crashAt_untouched (steps : List (Step ν)) (nm : ν) (h : ∀ s ∈ steps, nm ∉ s.names) (n cut : Nat) (fs : φ) :
    get (crashAt exec n cut steps fs) nm = get fs nm :=
  crashAt_inv exec (fun fs' => get fs' nm = get fs nm) steps (fun s hs fs' hI => (L.untouched fs' s nm (h s hs)).trans hI)
    (fun p b hm cut fs' hI => (L.untouched fs' (.append p (b.take cut)) nm (h (.append p b) hm)).trans hI) n cut fs rfl

theorem StepLaws.crashAt_outside {P : ν → Bool} {steps : List (Step ν)} (hw : Within P steps) {nm : ν} (hn : P nm = false)
    (n cut : Nat) (fs : φ) : get (crashAt exec n cut steps fs) nm = get fs nm :=
  L.crashAt_untouched steps nm (fun s hs hm => by rw [hw s hs nm hm] at hn; cases hn) n cut fs

theorem StepLaws.writeVia_final [DecidableEq ν] (fs : φ) (tmp target : ν) (b : Data) (nm : ν) (hn : nm ≠ tmp) :
    get ((writeVia tmp target b).foldl exec fs) nm = if nm = target then some (file b) else get fs nm := by
  have h2 : get (exec (exec fs (.create tmp)) (.append tmp b)) tmp = some (file b) := L.append _ _ _ _ (L.create fs tmp)
  have h3 : get (exec (exec (exec fs (.create tmp)) (.append tmp b)) (.close tmp)) tmp = some (file b) := (L.close _ _).trans h2
  simp only [writeVia, List.foldl_cons, List.foldl_nil]
  split
  · next e => rw [e]; exact L.rename _ _ _ _ h3
  · next hne =>
    rw [L.untouched _ _ _ (by simp [Step.names, hn, hne]), L.untouched _ _ _ (by simp [Step.names, hn]), L.untouched _ _ _ (by simp [Step.names, hn]),
      L.untouched _ _ _ (by simp [Step.names, hn])]

end laws

theorem writeVia_before_last (exec : φ → Step ν → φ) (I : φ → Prop) (tmp target : ν) (b : Data)
    (hI : ∀ s : Step ν, s.names = [tmp] → ∀ fs, I fs → I (exec fs s))
    (n cut : Nat) (fs : φ) (hn : n ≤ 3) (h : I fs) : I (crashAt exec n cut (writeVia tmp target b) fs) := by
  rw [show writeVia tmp target b = [.create tmp, .append tmp b, .close tmp] ++ [.rename tmp target] from rfl,
    crashAt_before_last _ _ _ rfl _ _ _ hn]
  refine crashAt_inv exec I _ ?_ ?_ n cut fs h
  · intro s hs
    simp only [List.mem_cons, List.not_mem_nil, or_false] at hs
    rcases hs with rfl | rfl | rfl <;> exact hI _ rfl
  · intro p b' hm cut
    simp only [List.mem_cons, Step.append.injEq, reduceCtorEq, List.not_mem_nil, or_false, false_or] at hm
    rw [hm.1]; exact hI _ rfl


/-- from a state with `I`, every crash point of `l` satisfies `P` and the complete run ends in a state with `Q` -/
def Runs (exec : φ → Step ν → φ) (I : φ → Prop) (l : List (Step ν)) (P Q : φ → Prop) : Prop :=
  ∀ fs, I fs → (∀ n cut, P (crashAt exec n cut l fs)) ∧ Q (l.foldl exec fs)

theorem Runs.append {exec : φ → Step ν → φ} {I M P Q : φ → Prop} {l1 l2 : List (Step ν)} (h1 : Runs exec I l1 P M)
    (h2 : Runs exec M l2 P Q) : Runs exec I (l1 ++ l2) P Q := by
  intro fs hI
  obtain ⟨c1, m⟩ := h1 fs hI
  obtain ⟨c2, q⟩ := h2 _ m
  refine ⟨fun n cut => ?_, by rw [List.foldl_append]; exact q⟩
  rcases Nat.lt_or_ge n l1.length with h | h
  · rw [crashAt_append_lt _ _ _ _ _ _ h]; exact c1 n cut
  · rw [crashAt_append_ge _ _ _ _ _ _ h]; exact c2 _ cut

theorem Runs.mono {exec : φ → Step ν → φ} {I P P' Q : φ → Prop} {l : List (Step ν)} (h : Runs exec I l P Q)
    (hP : ∀ fs, P fs → P' fs) : Runs exec I l P' Q :=
  fun fs hI => ⟨fun n cut => hP _ ((h fs hI).1 n cut), (h fs hI).2⟩

theorem Runs.inv {exec : φ → Step ν → φ} {I : φ → Prop} {l : List (Step ν)} (hstep : ∀ s ∈ l, ∀ fs, I fs → I (exec fs s))
    (hpart : ∀ p b, Step.append p b ∈ l → ∀ cut fs, I fs → I (exec fs (.append p (b.take cut)))) : Runs exec I l I I :=
  fun fs hI => ⟨fun n cut => crashAt_inv exec I l hstep hpart n cut fs hI, foldl_inv exec I l hstep fs hI⟩

theorem Runs.nil {exec : φ → Step ν → φ} {I Q : φ → Prop} (h : ∀ fs, I fs → Q fs) : Runs exec I [] I Q :=
  fun fs hI => ⟨fun n cut => by rw [crashAt_nil]; exact hI, h fs hI⟩

theorem Runs.single {exec : φ → Step ν → φ} {I Q : φ → Prop} (s : Step ν) (hs : s.isAppend = false)
    (h : ∀ fs, I fs → Q (exec fs s)) : Runs exec I [s] (fun fs => I fs ∨ Q fs) Q := by
  refine fun fs hI => ⟨fun n cut => ?_, h fs hI⟩
  cases n with
  | zero => rw [crashAt_zero_cons _ _ _ _ _ hs]; exact Or.inl hI
  | succ n => rw [crashAt_succ_cons, crashAt_nil]; exact Or.inr (h fs hI)

/-- writing a file through a temporary one: `I` does not depend on the temporary file -/
theorem Runs.writeVia {exec : φ → Step ν → φ} {I Q : φ → Prop} (tmp target : ν) (b : Data)
    (hI : ∀ s : Step ν, s.names = [tmp] → ∀ fs, I fs → I (exec fs s))
    (hQ : ∀ fs, I fs → Q ((writeVia tmp target b).foldl exec fs)) :
    Runs exec I (writeVia tmp target b) (fun fs => I fs ∨ Q fs) Q := by
  refine fun fs h => ⟨fun n cut => ?_, hQ fs h⟩
  rcases Nat.lt_or_ge n 4 with hn | hn
  · exact Or.inl (writeVia_before_last exec I tmp target b hI n cut fs (Nat.le_of_lt_succ hn) h)
  · rw [crashAt_ge _ _ _ _ _ hn]; exact Or.inr (hQ fs h)

end Crash
end Liquer
