/-
C12, file-operation granularity, directory tree (2): the directory tree as an instance of `ConcFile2.lean` — what a reader sees
after every prefix of every interleaving of the file operations of two `FileStore.store` writers of one path and one
`store_metadata` progress writer (each of the last two possibly absent), and the frame for every other path.  The reader is
`readSCSplit` (`LiquerModel/ConcFileSplit.lean`): a fresh `StoreCache` on a fresh `FileStore` that reads the metadata file after `n1`
file operations and the node (data file) after `n2 ≥ n1` of them; with `n1 = n2` it is the atomic reader `readSC`.

Unlike `FileCache.store`, `FileStore.store` does NOT unlink the old data file: the old data stays until the first `rename` replaces
it — by then the old metadata has been unlinked (each writer unlinks before it publishes its data), so old metadata never meets new
data.
-/
import LiquerModel.ConcFileSplit
import LiquerProofs.Lemmas.ConcFileT1

namespace Liquer
namespace Crash

/-- **the invariant, tree**: store writers A and (if `hasB`) B of the path `p` with the data bytes `X`, (if `hasP`) a progress
writer; after `n1 ≤ n2` file operations of any interleaving the global part holds; every step is `Benign` -/
theorem tree_inv (p : Key) (X MA MB MP : Data) (PN : Data → Prop) (t0 : Tree) (a1 a2 b1 b2 tp : Key) (hasB hasP : Bool)
    (hdist : ([a1, a2] ++ (if hasB then [b1, b2] else []) ++ (if hasP then [tp] else [])).Nodup) (hMP : hasP = true → PN MP)
    (l : List (Step SName))
    (hl : Interleave3 (storeStepsTN (.tmp a1) (.tmp a2) p X MA) (if hasB then storeStepsTN (.tmp b1) (.tmp b2) p X MB else [])
      (if hasP then storeMetaStepsTN (.tmp tp) p MP else []) l) (n1 n2 : Nat) (hn : n1 ≤ n2) :
    (∃ t1 dd1 t2 dd2 : Prop, (dd1 → dd2) ∧
      G AL.get TNode.file (.mfile p) (.node p) X t0 (fun b => b = MA ∨ b = MB) PN t1 dd1 (runPrefixT n1 l t0) ∧
      G AL.get TNode.file (.mfile p) (.node p) X t0 (fun b => b = MA ∨ b = MB) PN t2 dd2 (runPrefixT n2 l t0)) ∧
    ∀ s ∈ l, Benign p s := by
  have hben : ∀ s ∈ l, Benign p s := by
    intro s hs
    rcases hl.mem s hs with h | h | h
    · exact treeStore_benign p a1 a2 X MA s (storeStepsTN_eq .. ▸ h)
    · cases hasB
      · cases h
      · exact treeStore_benign p b1 b2 X MB s (storeStepsTN_eq .. ▸ h)
    · cases hasP
      · cases h
      · exact treeProgress_benign p tp X MP s h
  rw [storeStepsTN_eq, storeStepsTN_eq, storeMetaStepsTN_eq p tp X] at hl
  exact ⟨(writers_inv_when stepLawsT (N := matters p) (PS := fun b => b = MA ∨ b = MB) (PN := PN) (d0 := t0) (S := .mfile p) (D := .node p)
    (wA := treeStore p a1 a2 MA) (wB := treeStore p b1 b2 MB) (wP := treeProgress p tp MP) SName.tmp
    (hinj := fun _ _ => SName.tmp.inj) (hSD := fun h => nomatch h) (hS := fun _ h => nomatch h) (hD := fun _ h => nomatch h)
    (hNS := Or.inr (Or.inl rfl)) (hND := Or.inl rfl) (hNt := fun x => Or.inr (Or.inr ⟨x, rfl⟩)) (lA := [a1, a2]) (lB := [b1, b2])
    (lP := [tp]) hasB hasP (htA := rfl) (htB := rfl) (htP := rfl) hdist (hA := treeStore_ok (Or.inl rfl))
    (hB := fun _ => treeStore_ok (Or.inr rfl)) (hP := fun h => treeProgress_ok (hMP h)) l hl n1 n2 hn).1, hben⟩

def asFile : TNode → Option Data
  | .file d => some d
  | .dir => none

/-- `StoreCache.get` on a `FileStore` as a reader in the sense of `ConcFile2.lean`: the data file is the node, whatever the record says -/
def treeReader (deM : Data → Option CMeta) (deD : Str → Data → Option (Option Str)) (p : Key) : Reader SName TNode :=
  ⟨asFile, .mfile p, fun _ => .node p, deM, deD⟩

theorem readSCSplit_via (deM : Data → Option CMeta) (deD : Str → Data → Option (Option Str)) (tM tD : Tree) (p : Key) :
    readSCSplit deM deD tM tD p = (treeReader deM deD p).read AL.get tM tD := by
  simp only [readSCSplit, Reader.read, treeReader]
  cases AL.get tD (.node p) with
  | none => exact (readVia_no_data fun _ => rfl).symm
  | some x =>
    cases x with
    | dir => exact (readVia_no_data fun _ => rfl).symm
    | file d =>
      cases AL.get tM (.mfile p) with
      | none => rfl
      | some y =>
        cases y with
        | dir => rfl
        | file mb =>
          simp only [readVia, Option.bind_some, asFile]
          cases deM mb <;> rfl

theorem bind_asFile {o : Option TNode} {deM : Data → Option CMeta} {m : CMeta} (h : (o.bind asFile).bind deM = some m) :
    ∃ mb, o = some (.file mb) ∧ deM mb = some m := by
  cases o with
  | none => cases h
  | some y => cases y with
    | dir => cases h
    | file mb => exact ⟨mb, rfl, h⟩

/-- the five possible answers of the split reader `R`: a miss, the complete new entry (A's or B's metadata), what the atomic reader
obtains from the initial tree, or the READY metadata record `m0` of the initial tree with the NEW bytes decoded under the type `m0`
names -/
def TSplitAns (deM : Data → Option CMeta) (deD : Str → Data → Option (Option Str)) (t0 : Tree) (p : Key) (X : Data)
    (newA newB : CState) (R : Option CState) : Prop :=
  R = none ∨ R = some newA ∨ R = some newB ∨ R = readSC deM deD t0 p ∨
  ∃ mb0 m0 w, AL.get t0 (.mfile p) = some (.file mb0) ∧ deM mb0 = some m0 ∧ m0.status = ready ∧
    deD m0.typeId X = some w ∧ R = some { metadata := m0, data := w }

theorem SplitAnsG.tree {deM : Data → Option CMeta} {deD : Str → Data → Option (Option Str)} {t0 : Tree} {p : Key} {X : Data}
    {newA newB : CState} {R : Option CState}
    (h : SplitAnsG (treeReader deM deD p) AL.get (.node p) X t0 newA newB R) :
    TSplitAns deM deD t0 p X newA newB R := by
  rcases h with h | h | h | h | ⟨m0, w, h1, h2, -, h4, h5⟩
  · exact Or.inl h
  · exact Or.inr (Or.inl h)
  · exact Or.inr (Or.inr (Or.inl h))
  · exact Or.inr (Or.inr (Or.inr (Or.inl (h.trans (readSCSplit_via deM deD t0 t0 p).symm))))
  · obtain ⟨mb0, e, hm⟩ := bind_asFile h1
    exact Or.inr (Or.inr (Or.inr (Or.inr ⟨mb0, m0, w, e, hm, h2, h4, h5⟩)))

theorem Other.readSplit {t0 tM tD : Tree} {p' : Key} (hM : Other t0 p' tM) (hD : Other t0 p' tD)
    (deM : Data → Option CMeta) (deD : Str → Data → Option (Option Str)) :
    readSCSplit deM deD tM tD p' = readSC deM deD t0 p' := by
  rw [readSCSplit_via, show readSC deM deD t0 p' = _ from readSCSplit_via deM deD t0 t0 p']
  simp only [Reader.read, treeReader, hM.2]
  rcases hD.1 with hn | ⟨h0, h1⟩
  · rw [hn]
  · rw [h0, h1]; rfl

/-- **the core**: store writers A and (if `hasB`) B of one path and (if `hasP`) a progress writer; a reader that reads the metadata
file after `n1` and the node after `n2 ≥ n1` file operations of any interleaving obtains one of the five answers — with `n1 = n2`
what it obtained from `t0`, a miss, or the complete new entry —, and every other path reads as in `t0` -/
theorem tree_core (deM : Data → Option CMeta) (deD : Str → Data → Option (Option Str)) (t0 : Tree) (p : Key)
    (b mbA mbB mbP : Data) (mA mB : CMeta) (v : Option Str)
    (hMA : deM mbA = some mA) (hAr : mA.status = ready) (hAv : deD mA.typeId b = some v)
    (hMB : deM mbB = some mB) (hBr : mB.status = ready) (hBv : deD mB.typeId b = some v)
    (a1 a2 b1 b2 tp : Key) (hasB hasP : Bool)
    (hdist : ([a1, a2] ++ (if hasB then [b1, b2] else []) ++ (if hasP then [tp] else [])).Nodup)
    (hP : hasP = true → ∀ m, deM mbP = some m → m.status ≠ ready) (l : List (Step SName))
    (hl : Interleave3 (storeStepsTN (.tmp a1) (.tmp a2) p b mbA) (if hasB then storeStepsTN (.tmp b1) (.tmp b2) p b mbB else [])
      (if hasP then storeMetaStepsTN (.tmp tp) p mbP else []) l) (n1 n2 : Nat) (hn : n1 ≤ n2) :
    SplitAnsG (treeReader deM deD p) AL.get (.node p) b t0 { metadata := mA, data := v } { metadata := mB, data := v }
      (readSCSplit deM deD (runPrefixT n1 l t0) (runPrefixT n2 l t0) p) ∧
    (n1 = n2 →
      readSC deM deD (runPrefixT n2 l t0) p = readSC deM deD t0 p ∨ readSC deM deD (runPrefixT n2 l t0) p = none ∨
      readSC deM deD (runPrefixT n2 l t0) p = some { metadata := mA, data := v } ∨
      readSC deM deD (runPrefixT n2 l t0) p = some { metadata := mB, data := v }) ∧
    ∀ p', p' ≠ p → readSCSplit deM deD (runPrefixT n1 l t0) (runPrefixT n2 l t0) p' = readSC deM deD t0 p' := by
  obtain ⟨⟨t1, dd1, t2, dd2, hdd, hG1, hG2⟩, hben⟩ :=
    tree_inv p b mbA mbB mbP (fun x => ∀ m, deM x = some m → m.status ≠ ready) t0 a1 a2 b1 b2 tp hasB hasP hdist hP l hl n1 n2 hn
  refine ⟨?_, fun _ => ?_, fun p' hne =>
    (other_prefix p p' hne l hben t0 n1).readSplit (other_prefix p p' hne l hben t0 n2) deM deD⟩
  · rw [readSCSplit_via]
    exact read_split (r := treeReader deM deD p) (fun _ => rfl) hG1 hG2 hdd (fun _ h => absurd rfl h) ⟨hMA, hAr, rfl, hAv⟩
      ⟨hMB, hBr, rfl, hBv⟩ (fun _ h => h)
  · rw [show readSC deM deD t0 p = _ from readSCSplit_via deM deD t0 t0 p,
      show readSC deM deD (runPrefixT n2 l t0) p = _ from readSCSplit_via deM deD _ _ p]
    exact read_atomic (r := treeReader deM deD p) (fun _ => rfl) hG2 (fun _ h => absurd rfl h) ⟨hMA, hAr, rfl, hAv⟩ ⟨hMB, hBr, rfl, hBv⟩
      (fun _ h => h)

/-- the existence test of `_load_metadata`, wherever it is placed, only adds misses -/
theorem readSCSplit3_cases (deM : Data → Option CMeta) (deD : Str → Data → Option (Option Str)) (tC tM tD : Tree) (p : Key) :
    readSCSplit3 deM deD tC tM tD p = none ∨ readSCSplit3 deM deD tC tM tD p = readSCSplit deM deD tM tD p := by
  unfold readSCSplit3
  cases AL.get tC (.node p) with
  | none => exact Or.inl rfl
  | some x => cases x with
    | dir => exact Or.inl rfl
    | file d => exact Or.inr rfl

theorem TSplitAns.of3 {deM deD t0 p X newA newB} {tC tM tD : Tree}
    (h : TSplitAns deM deD t0 p X newA newB (readSCSplit deM deD tM tD p)) :
    TSplitAns deM deD t0 p X newA newB (readSCSplit3 deM deD tC tM tD p) := by
  rcases readSCSplit3_cases deM deD tC tM tD p with e | e
  · exact Or.inl e
  · rw [e]; exact h

end Crash
end Liquer
