/-
Decidable equality for values, states and outcomes (the model types only derive `Repr`), so that concrete
evaluations can be checked by `decide +kernel` in non-vacuity examples.
-/
import LiquerProofs.Lemmas.EvalCor

namespace Liquer

mutual
theorem Val.beq_sound : ∀ a b, Val.beq a b = true → a = b
  | .none, b, h => by cases b <;> simp [Val.beq] at h ⊢
  | .int i, b, h => by cases b <;> simp [Val.beq] at h ⊢; exact h
  | .bool i, b, h => by cases b <;> simp [Val.beq] at h ⊢; exact h
  | .str i, b, h => by cases b <;> simp [Val.beq] at h ⊢; exact h
  | .flt i, b, h => by cases b <;> simp [Val.beq] at h ⊢; exact h
  | .list l, b, h => by
    cases b <;> simp [Val.beq] at h ⊢
    exact Val.beqList_sound l _ h
theorem Val.beqList_sound : ∀ as bs, Val.beqList as bs = true → as = bs
  | [], bs, h => by cases bs <;> simp [Val.beqList] at h ⊢
  | a :: as, bs, h => by
    cases bs with
    | nil => simp [Val.beqList] at h
    | cons b bs =>
      simp [Val.beqList] at h
      rw [Val.beq_sound a b h.1, Val.beqList_sound as bs h.2]
end

mutual
theorem Val.beq_refl : ∀ a, Val.beq a a = true
  | .none => by simp [Val.beq]
  | .int i => by simp [Val.beq]
  | .bool i => by simp [Val.beq]
  | .str i => by simp [Val.beq]
  | .flt i => by simp [Val.beq]
  | .list l => by simp [Val.beq]; exact Val.beqList_refl l
theorem Val.beqList_refl : ∀ as, Val.beqList as as = true
  | [] => by simp [Val.beqList]
  | a :: as => by simp [Val.beqList]; exact ⟨Val.beq_refl a, Val.beqList_refl as⟩
end

instance : DecidableEq Val := fun a b =>
  if h : Val.beq a b = true then isTrue (Val.beq_sound a b h)
  else isFalse (fun e => h (e ▸ Val.beq_refl a))

deriving instance DecidableEq for EState
deriving instance DecidableEq for Outcome

end Liquer
