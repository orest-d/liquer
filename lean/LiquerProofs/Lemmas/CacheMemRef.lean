/-
`MemoryCache` (as fixed) refines the key-value specification that keeps data on metadata-only writes.
-/
import LiquerProofs.Lemmas.CacheKV

namespace Liquer

namespace AL
variable {κ : Type} [BEq κ] {β γ : Type}

def mapVal (f : β → γ) (l : List (κ × β)) : List (κ × γ) := l.map (fun e => (e.1, f e.2))

theorem get_mapVal (f : β → γ) (l : List (κ × β)) (k : κ) : get (mapVal f l) k = (get l k).map f := by
  induction l with
  | nil => rfl
  | cons e l ih =>
    rw [mapVal, List.map_cons, get_cons, get_cons, ← mapVal, ih]
    split <;> rfl

theorem mapVal_erase (f : β → γ) (l : List (κ × β)) (k : κ) : mapVal f (erase l k) = erase (mapVal f l) k := by
  simp [mapVal, erase, List.filter_map]; rfl

theorem mapVal_set (f : β → γ) (l : List (κ × β)) (k : κ) (v : β) : mapVal f (set l k v) = set (mapVal f l) k (f v) := by
  simp only [set, ← mapVal_erase]; rfl

omit [BEq κ] in
theorem keys_mapVal (f : β → γ) (l : List (κ × β)) : (mapVal f l).map (·.1) = l.map (·.1) := by
  simp [mapVal]

end AL

def memEntry (e : CState × Bool) : CMeta × Option Str := (e.1.metadata, e.1.data)

/-- the abstraction: a placeholder is an entry without data -/
def absM (s : MemCState) : KV := AL.mapVal memEntry s

/-- placeholders are exactly the entries without data -/
def InvM (s : MemCState) : Prop := ∀ k e, AL.get s k = some e → e.2 = e.1.data.isNone

def RM (s : MemCState) (kv : KV) : Prop := absM s = kv ∧ InvM s

theorem InvM_set (s : MemCState) (k : Str) (e : CState × Bool) (hi : InvM s) (he : e.2 = e.1.data.isNone) : InvM (AL.set s k e) := by
  intro k' e' h
  rw [AL.get_set] at h
  split at h
  · cases h; exact he
  · exact hi k' e' h

theorem InvM_erase (s : MemCState) (k : Str) (hi : InvM s) : InvM (AL.erase s k) := by
  intro k' e' h
  rw [AL.get_erase] at h
  split at h
  · cases h
  · exact hi k' e' h

theorem RM_init : RM [] [] := ⟨rfl, fun _ _ h => by cases h⟩

theorem mem_sim : CSim memCOps (kvOpsC kvCfgKeep) RM (fun _ op => op.hasData = true) := by
  rintro s _ op ⟨rfl, hi⟩ hok
  have hget : ∀ k, (absM s).get k = (AL.get s k).map memEntry := AL.get_mapVal memEntry s
  cases op with
  | get k =>
    refine ⟨⟨rfl, hi⟩, outEq_of_eq (congrArg CacheOut.state ?_)⟩
    simp only [hget]
    cases h : AL.get s k with
    | none => rfl
    | some e =>
      -- the placeholder mark says whether there is data
      obtain ⟨⟨m, d⟩, ph⟩ := e
      obtain rfl : ph = d.isNone := hi k _ h
      cases d <;> rfl
  | getMeta k =>
    refine ⟨⟨rfl, hi⟩, outEq_of_eq (congrArg CacheOut.metadata ?_)⟩
    simp only [hget, Option.map_map]
    rfl
  | contains k =>
    refine ⟨⟨rfl, hi⟩, outEq_of_eq (congrArg CacheOut.bool ?_)⟩
    simp only [hget, Option.isSome_map]
  | keys => exact ⟨⟨rfl, hi⟩, outEq_of_eq (congrArg CacheOut.keys (AL.keys_mapVal memEntry s).symm)⟩
  | clean => exact ⟨RM_init, outEq_refl _⟩
  | remove k => exact ⟨⟨AL.mapVal_erase memEntry s k, InvM_erase s k hi⟩, outEq_refl _⟩
  | store st =>
    obtain ⟨d, hd⟩ := CacheOp.data_of_hasData hok
    exact sim_store _ rfl ⟨rfl, hi⟩ fun _ => ⟨AL.mapVal_set memEntry s _ _, InvM_set _ _ _ hi (by rw [hd]; rfl)⟩
  | storeMeta m =>
    simp only [CacheOps.step, kvOpsC_storeMeta_keep, memCOps, hget]
    cases h : AL.get s m.query with
    | none => exact ⟨⟨AL.mapVal_set memEntry s _ _, InvM_set _ _ _ hi rfl⟩, outEq_refl _⟩
    | some e => exact ⟨⟨AL.mapVal_set memEntry s _ _, InvM_set _ _ _ hi (hi _ e h)⟩, outEq_refl _⟩

end Liquer
