/-
One-step equations of the evaluator, with the stages `evalCall`, `evalLink`, `evalPost`, `evalAfter`, `evalPre`
that mirror the reference-side stages of `RefStep.lean` (same shared pieces, same way of proving the `_succ`
equations); the cache traffic of a stage is a world transformer (`logCall`, `subW`, `admitW`, `fileW`).
-/
import LiquerProofs.Lemmas.EvalBasic
import LiquerProofs.Lemmas.RefStep

namespace Liquer

def World.logCall (w : World) (st : EState) (sig : CmdSig) (args : List Val) : World :=
  if isLibraryCommand sig.name then w else w.log (callText sig.ns sig.name (if sig.first then .none else st.data) args)

/-- final progress metadata of a sub-evaluating command -/
def subW (uc : Bool) (raw : Str) (o : Outcome) (w : World) : World :=
  match o with
  | .st sub => w.metaIf uc raw (if sub.isError then s "error" else statusReady)
  | .parseError => w.metaIf uc raw (s "error")
  | _ => w

def evalCall (env : Env) (n : Nat) (w1 : World) (st : EState) (act : Action) (raw : Str) (sig : CmdSig)
    (x : List PVal × List (Str × Val) × Bool) (uc : Bool) : World × Outcome :=
  match parseArgv sig.args x.1 x.2.1 with
  | .unmodelled => (w1, .unmodelled)
  | .fail => (w1.metaIf uc raw (s "error"),
      .st (failSt st act (mergeAttrs st.attrs sig.attrs) (x.2.2 || cmdVolatile sig.attrs) (some act.pos) (some raw)))
  | .ok args =>
    match cmdSem sig.ns sig.name st.data st.vars args with
    | .unmodelled => (w1.logCall st sig args, .unmodelled)
    | .raises => ((w1.logCall st sig args).metaIf uc raw (s "error"),
        .st (failSt st act (mergeAttrs st.attrs sig.attrs) (x.2.2 || cmdVolatile sig.attrs) (some act.pos) (some raw)))
    | .value v => ((w1.logCall st sig args).metaIf uc raw statusReady, .st (doneSt st act sig x.2.2 v [] true))
    | .stateVars v vars => ((w1.logCall st sig args).metaIf uc raw statusReady, .st (doneSt st act sig x.2.2 v vars true))
    | .nocache v => ((w1.logCall st sig args).metaIf uc raw statusReady, .st (doneSt st act sig x.2.2 v [] false))
    | .subeval y qtext =>
      (subW uc raw (evalText env n (w1.logCall st sig args) qtext true).2 (evalText env n (w1.logCall st sig args) qtext true).1,
        subOutcome st act raw sig x.2.2 y (evalText env n (w1.logCall st sig args) qtext true).2)

theorem evalAction_zero (env : Env) (w : World) (st : EState) (act : Action) (raw parent : Str) (extra : Extra) (uc : Bool) :
    evalAction env 0 w st act raw parent extra uc = (w, .unmodelled) := rfl

theorem evalAction_succ (env : Env) (n : Nat) (w : World) (st : EState) (act : Action) (raw parent : Str)
    (extra : Extra) (uc : Bool) :
    evalAction env (n+1) w st act raw parent extra uc =
      match namespacesOf st.vars with
      | none => (w.metaIf uc raw (s "evaluation"), .unmodelled)
      | some nss =>
        if !(nss.getLast?.map env.reg.hasNs).getD false then (w.metaIf uc raw (s "evaluation"), .unmodelled) else
        match resolve env.reg nss act.name with
        | none => ((w.metaIf uc raw (s "evaluation")).metaIf uc raw (s "error"),
            .st (failSt st act (mergeAttrs st.attrs []) false (some act.pos) (some raw)))
        | some sig =>
          match evalParams env n (w.metaIf uc raw (s "evaluation")) act.params raw parent with
          | (w1, .inr o) => (w1, o)
          | (w1, .inl given) => evalCall env n w1 st act raw sig (applyExtra extra given) uc := by
  rw [evalAction]
  cases namespacesOf st.vars with
  | none => rfl
  | some nss =>
    dsimp -zeta only [World.metaIf]
    generalize (!(nss.getLast?.map env.reg.hasNs).getD false) = b
    cases b with
    | true => rfl
    | false =>
      cases resolve env.reg nss act.name with
      | none => rfl
      | some sig =>
        generalize evalParams env n _ act.params raw parent = x
        obtain ⟨w1, r⟩ := x
        cases r with
        | inr o => rfl
        | inl given =>
          dsimp -zeta only
          unfold evalCall
          generalize hpa : parseArgv sig.args _ _ = pa
          rw [show parseArgv sig.args (applyExtra extra given).1 (applyExtra extra given).2.1 = pa from hpa]
          clear hpa
          cases pa with
          | ok args =>
            dsimp -zeta only
            generalize cmdSem sig.ns sig.name st.data st.vars args = ce
            cases ce with
            | subeval y qt =>
              dsimp only [World.logCall]
              generalize evalText env n _ qt true = r
              obtain ⟨w3, o⟩ := r
              cases o with
              | st sub =>
                dsimp only [subOutcome, subW]
                generalize sub.isError = e
                cases e <;> rfl
              | _ => rfl
            | _ => rfl
          | _ => rfl

/-- the value of a link argument, evaluator side: a child context on the global cache -/
def evalLink (env : Env) (n : Nat) (w : World) (lq : Query) (parent : Str) : World × Outcome :=
  if lq.absolute || parent.isEmpty || parent == ['/'] then evalQ env n w lq (lq.encode Gen.escapeTable) .none none true
  else
    match lq with
    | .mk [.transform h as f] _ =>
      (match parse env.dec parent with
       | none => (w, .unmodelled)
       | some pq => evalText env n w ((Query.mk (pq.segments ++ [.transform h as f]) pq.absolute).encode Gen.escapeTable) true)
    | _ => (w, .unmodelled)

theorem evalParams_zero (env : Env) (w : World) (ps : List Param) (raw parent : Str) :
    evalParams env 0 w ps raw parent = (w, .inr .unmodelled) := rfl

theorem evalParams_nil (env : Env) (n : Nat) (w : World) (raw parent : Str) :
    evalParams env (n+1) w [] raw parent = (w, .inl []) := rfl

theorem evalParams_str (env : Env) (n : Nat) (w : World) (t : Str) (pos : Nat) (ps : List Param) (raw parent : Str) :
    evalParams env (n+1) w (.str t pos :: ps) raw parent =
      match evalParams env n w ps raw parent with
      | (w1, .inl rest) => (w1, .inl (.text t pos :: rest))
      | other => other := rfl

theorem evalParams_link (env : Env) (n : Nat) (w : World) (lq : Query) (pos : Nat) (ps : List Param) (raw parent : Str) :
    evalParams env (n+1) w (.link lq pos :: ps) raw parent =
      match evalLink env n w lq parent with
      | (w1, .st v) =>
        if v.isError then (w1, .inr (.raised (some pos) (some raw)))
        else
          (match evalParams env n w1 ps raw parent with
           | (w2, .inl rest) => (w2, .inl (.expanded v.data pos :: rest))
           | other => other)
      | (w1, .raised a b) => (w1, .inr (.raised a b))
      | (w1, .parseError) => (w1, .inr .parseError)
      | (w1, .unmodelled) => (w1, .inr .unmodelled) := by
  simp only [evalParams, evalLink]
  generalize (if (lq.absolute || parent.isEmpty || parent == ['/']) = true then _ else _ : World × Outcome) = x
  rcases x with ⟨w1, o⟩
  cases o <;> rfl

theorem evalText_zero (env : Env) (w : World) (t : Str) (ug : Bool) : evalText env 0 w t ug = (w, .unmodelled) := rfl

theorem evalText_succ (env : Env) (n : Nat) (w : World) (t : Str) (ug : Bool) :
    evalText env (n+1) w t ug = match parse env.dec t with
      | none => (w, .parseError)
      | some q => evalQ env n w q t .none none ug := by
  rw [evalText]
  generalize parse env.dec t = x
  cases x <;> rfl

/-- the admission test after the last action -/
def admitW (uc : Bool) (key : Str) (st3 : EState) (w2 : World) : World :=
  if !uc then w2
  else if st3.caching && !st3.isError && !st3.volatile then w2.store st3
  else if st3.isError then w2.storeMeta key (s "error")
  else w2.remove key

/-- the admission test after a file-name step -/
def fileW (uc : Bool) (key : Str) (st2 : EState) (w1 : World) : World :=
  if !uc then w1 else if st2.caching && !st2.volatile then w1.store st2 else w1.remove key

def evalPost (env : Env) (n : Nat) (w1 : World) (st : EState) (parent : Str) (r : Option Seg) (key raw : Str)
    (extra : Extra) (uc : Bool) : World × Outcome :=
  match r with
  | none => (w1, .st { st with query := key })
  | some (.transform _ [] (some f)) =>
    (fileW uc key { st with filename := some f, extension := some (extensionOf f), query := key }
        (w1.metaIf uc raw (s "evaluation")),
      .st { st with filename := some f, extension := some (extensionOf f), query := key })
  | some (.transform _ [a] none) =>
    (match (evalAction env n w1 st a raw parent extra uc).2 with
     | .st st2 => (admitW uc key { st2 with query := key } (evalAction env n w1 st a raw parent extra uc).1,
                   .st { st2 with query := key })
     | other => ((evalAction env n w1 st a raw parent extra uc).1, other))
  | some _ => (w1, .unmodelled)

/-- the last step of a query is nothing, a file name, or one action; both sides leave every other shape unmodelled -/
theorem post_cases (r : Option Seg) :
    r = none ∨ (∃ h f, r = some (.transform h [] (some f))) ∨ (∃ h a, r = some (.transform h [a] none)) ∨
      ((∀ env n w1 st parent key raw extra uc, evalPost env n w1 st parent r key raw extra uc = (w1, .unmodelled)) ∧
        ∀ env n st parent key raw extra, refPost env n st parent r key raw extra = (.unmodelled, [])) := by
  rcases r with _ | ⟨h, _ | ⟨a, _ | ⟨b, rest⟩⟩, _ | f⟩ | ⟨h, ns⟩
  case none => exact .inl rfl
  case some.transform.nil.some => exact .inr (.inl ⟨h, f, rfl⟩)
  case some.transform.cons.nil.none => exact .inr (.inr (.inl ⟨h, a, rfl⟩))
  all_goals exact .inr (.inr (.inr ⟨fun _ _ _ _ _ _ _ _ _ => rfl, fun _ _ _ _ _ _ _ => rfl⟩))

def evalAfter (env : Env) (n : Nat) (w1 : World) (o : Outcome) (parent : Str) (r : Option Seg) (key raw : Str)
    (extra : Extra) (uc : Bool) : World × Outcome :=
  match o with
  | .raised a b => (w1, .raised a b)
  | .parseError => (w1, .parseError)
  | .unmodelled => (w1, .unmodelled)
  | .st st =>
    if st.isError then (w1.metaIf uc raw (s "error"), .st { st with data := .none, query := key })
    else evalPost env n w1 st parent r key raw extra uc

theorem evalQ_zero (env : Env) (w : World) (q : Query) (raw : Str) (extra : Extra) (input : Option Val) (uc : Bool) :
    evalQ env 0 w q raw extra input uc = (w, .unmodelled) := rfl

theorem evalQ_succ (env : Env) (n : Nat) (w : World) (q : Query) (raw : Str) (extra : Extra) (input : Option Val)
    (uc : Bool) :
    evalQ env (n+1) w q raw extra input uc =
      match (if extra.isEmpty && input.isNone && uc then w.get (q.encode Gen.escapeTable) else none) with
      | some st => (w, .st st)
      | none =>
        if q.isRes then (w, .unmodelled) else
        match q.predecessor with
        | none => evalAfter env n w (.st (initSt env input)) [] none (q.encode Gen.escapeTable) raw extra uc
        | some (p, r) =>
          if p.segments.isEmpty then
            evalAfter env n w (.st (initSt env input)) [] r (q.encode Gen.escapeTable) raw extra uc
          else
            evalAfter env n
              (evalQ env n (w.metaIf uc raw (s "evaluating parent")) p (p.encode Gen.escapeTable) .none input uc).1
              (evalQ env n (w.metaIf uc raw (s "evaluating parent")) p (p.encode Gen.escapeTable) .none input uc).2
              (p.encode Gen.escapeTable) r (q.encode Gen.escapeTable) raw extra uc := by
  simp only [evalQ, World.metaIf]
  generalize (if (extra.isEmpty && input.isNone && uc) = true then w.get (q.encode Gen.escapeTable) else none) = hit
  cases hit with
  | some st => rfl
  | none =>
    dsimp -zeta only
    split
    · simp [Query.isRes]
    · next hres =>
      have hr : q.isRes = false := by
        unfold Query.isRes; split
        · exact absurd rfl (hres _ _ _)
        · rfl
      rw [hr]
      cases q.predecessor with
      | none => rfl
      | some pr =>
        obtain ⟨p, r⟩ := pr
        dsimp -zeta only
        generalize p.segments.isEmpty = b
        cases b <;> rfl

/-- the predecessor stage in one piece (twin of `refPre`) -/
def evalPre (env : Env) (n : Nat) (w : World) (q : Query) (raw : Str) (input : Option Val) (uc : Bool) : World × Outcome :=
  match q.preQ with
  | none => (w, .st (initSt env input))
  | some p => evalQ env n (w.metaIf uc raw (s "evaluating parent")) p (p.encode Gen.escapeTable) .none input uc

/-- the form the inductions use: one equation instead of the three cases of `evalQ_succ` -/
theorem evalQ_succ' (env : Env) (n : Nat) (w : World) (q : Query) (raw : Str) (extra : Extra) (input : Option Val)
    (uc : Bool) :
    evalQ env (n+1) w q raw extra input uc =
      match (if extra.isEmpty && input.isNone && uc then w.get (q.encode Gen.escapeTable) else none) with
      | some st => (w, .st st)
      | none =>
        if q.isRes then (w, .unmodelled) else
          evalAfter env n (evalPre env n w q raw input uc).1 (evalPre env n w q raw input uc).2 q.preParent q.preRem
            (q.encode Gen.escapeTable) raw extra uc := by
  rw [evalQ_succ]
  unfold evalPre Query.preParent Query.preQ Query.preRem
  split
  · rfl
  · split
    · rfl
    · cases hp : q.predecessor with
      | none => simp
      | some pr =>
        rcases pr with ⟨p, r⟩
        cases hpe : p.segments.isEmpty <;> simp only [hpe, Bool.false_eq_true, if_true, if_false]

end Liquer
