/-
C16, directory store (`FileStore`, and `StoreCache` on it): what every crash point of `store`,
`store_metadata`, `remove` leaves in the two files a read of the key looks at.  Each protocol is a sequence of phases
(`Runs`): `mkdir`s that leave the two files alone, an `unlink`, the writing of a file through a temporary one.
-/
import LiquerProofs.Lemmas.CrashGen

namespace Liquer
namespace Crash

/-- a write to a directory is lost -/
def appT : TNode → Data → TNode
  | .file x, b => .file (x ++ b)
  | .dir, _ => .dir

/-- the tree as a function from names to contents: `mkdir` makes a directory where nothing is -/
theorem specT : Spec execT AL.get (fun o => o <|> some .dir) appT TNode.file where
  get_exec t s q := by
    cases s with
    | close p => rfl
    | mkdir p =>
      simp only [execT, stepGet]
      cases h : AL.get t p with
      | none => simp only [AL.get_set, beq_iff_eq]; rfl
      | some x =>
        dsimp only
        split
        · next e => exact e ▸ h
        · rfl
    | create p => simp only [execT, stepGet, AL.get_set, beq_iff_eq]
    | unlink p => simp only [execT, stepGet, AL.get_erase, beq_iff_eq]
    | append p b =>
      simp only [execT, stepGet]
      cases h : AL.get t p with
      | none =>
        dsimp only [Option.map]
        split
        · next e => exact e ▸ h
        · rfl
      | some x => cases x with
        | dir =>
          dsimp only [Option.map, appT]
          split
          · next e => exact e ▸ h
          · rfl
        | file y => simp only [AL.get_set, beq_iff_eq, Option.map_some, appT]
    | rename a b =>
      simp only [execT, stepGet]
      cases AL.get t a with
      | none => rfl
      | some x => simp only [AL.get_set, AL.get_erase, beq_iff_eq]
  app_file _ _ := rfl
  app_nil x := by cases x <;> simp [appT]
  app_app x a b := by cases x <;> simp [appT]

theorem stepLawsT : StepLaws execT AL.get TNode.file := specT.stepLaws

theorem writeFileT_eq (dk : Key) (target : SName) (b : Data) : writeFileT dk target b = writeVia (.tmp dk) target b := rfl

theorem mkdirsT_mem (t : Tree) (ns : List SName) (s : Step SName) (h : s ∈ mkdirsT t ns) : ∃ n ∈ ns, s = .mkdir n := by
  simp only [mkdirsT, List.mem_map, List.mem_filter] at h
  obtain ⟨n, ⟨hn, _⟩, rfl⟩ := h
  exact ⟨n, hn, rfl⟩

theorem not_mem_ancestors_self (k : Key) : k ∉ ancestors k := by
  intro h
  simp only [ancestors, List.mem_filterMap, List.mem_range] at h
  obtain ⟨i, hi, h2⟩ := h
  split at h2
  · cases h2
  · have := congrArg List.length (Option.some.inj h2)
    rw [List.length_take] at this
    omega

def pairT (t : Tree) (k : Key) : Option TNode × Option TNode := (AL.get t (.node k), AL.get t (.mfile k))

theorem pairT_untouched (t : Tree) (k : Key) (s : Step SName) (h1 : SName.node k ∉ s.names) (h2 : SName.mfile k ∉ s.names) :
    pairT (execT t s) k = pairT t k := by
  rw [pairT, stepLawsT.untouched _ _ _ h1, stepLawsT.untouched _ _ _ h2]; rfl

theorem node_not_parentNodes (k : Key) : SName.node k ∉ parentNodes k := by
  simp only [parentNodes, List.mem_map, SName.node.injEq, exists_eq_right]
  exact not_mem_ancestors_self k

theorem mfile_not_parentNodes (k k' : Key) : SName.mfile k ∉ parentNodes k' := by
  simp [parentNodes]

theorem runs_mkdirsT (t0 : Tree) (k : Key) (ns : List SName) (h1 : SName.node k ∉ ns) (h2 : SName.mfile k ∉ ns)
    (p : Option TNode × Option TNode) :
    Runs execT (fun t => pairT t k = p) (mkdirsT t0 ns) (fun t => pairT t k = p) (fun t => pairT t k = p) := by
  refine Runs.inv (fun s hs fs hI => ?_) (fun q b hm => ?_)
  · obtain ⟨n, hn, rfl⟩ := mkdirsT_mem t0 ns s hs
    exact (pairT_untouched fs k (.mkdir n) (fun e => h1 (List.mem_singleton.1 e ▸ hn)) (fun e => h2 (List.mem_singleton.1 e ▸ hn))).trans hI
  · obtain ⟨_, _, h⟩ := mkdirsT_mem _ _ _ hm; cases h

theorem runs_unlinkIfPresent (t0 : Tree) (n : SName) {I Q : Tree → Prop} (habs : AL.get t0 n = none → ∀ fs, I fs → Q fs)
    (hun : ∀ fs, I fs → Q (execT fs (.unlink n))) : Runs execT I (unlinkIfPresent t0 n) (fun fs => I fs ∨ Q fs) Q := by
  unfold unlinkIfPresent
  split
  · exact Runs.single _ rfl hun
  · next h => exact (Runs.nil (habs (by simpa using h))).mono (fun _ => Or.inl)

theorem pairT_writeVia_mfile (t : Tree) (dk k : Key) (mb : Data) :
    pairT ((writeVia (.tmp dk) (.mfile k) mb).foldl execT t) k = ((pairT t k).1, some (.file mb)) := by
  simp [pairT, stepLawsT.writeVia_final]

theorem pairT_writeVia_node (t : Tree) (dk k : Key) (b : Data) :
    pairT ((writeVia (.tmp dk) (.node k) b).foldl execT t) k = (some (.file b), (pairT t k).2) := by
  simp [pairT, stepLawsT.writeVia_final]

/-- writing a file of the key through a temporary one: the pair is `p` until the `rename`, then `q` -/
theorem runs_writeViaT (dk k : Key) (target : SName) (b : Data) (p q : Option TNode × Option TNode)
    (hq : ∀ t, pairT t k = p → pairT ((writeVia (.tmp dk) target b).foldl execT t) k = q) :
    Runs execT (fun t => pairT t k = p) (writeVia (.tmp dk) target b) (fun t => pairT t k = p ∨ pairT t k = q)
      (fun t => pairT t k = q) :=
  Runs.writeVia _ _ _ (fun s hs fs hI => (pairT_untouched fs k s (by simp [hs]) (by simp [hs])).trans hI) hq

/-- **every crash point of `FileStore.store`** leaves the key's two files in one of four states: both as
before; data as before and no metadata; new data and no metadata; new data and new metadata.
(Old metadata is never paired with new data, new metadata never with old data.) -/
theorem store_pair (t : Tree) (k : Key) (b mb : Data) (n cut : Nat) :
    let p := pairT (crashAt execT n cut (storeStepsT t k b mb) t) k
    p = pairT t k ∨ p = ((pairT t k).1, none) ∨ p = (some (.file b), none) ∨ p = (some (.file b), some (.file mb)) := by
  rw [storeStepsT, writeFileT_eq, writeFileT_eq]
  have h1 := runs_mkdirsT t k _ (node_not_parentNodes k) (mfile_not_parentNodes k k) (pairT t k)
  have h2 : Runs execT (fun t' => pairT t' k = pairT t k) (unlinkIfPresent t (.mfile k)) _ (fun t' => pairT t' k = ((pairT t k).1, none)) :=
    runs_unlinkIfPresent t _ (fun h fs hI => by rw [hI, pairT, h]) (fun fs hI => by
      rw [← hI, pairT, stepLawsT.unlink, stepLawsT.untouched _ _ _ (by simp [Step.names])]; rfl)
  have h3 := runs_mkdirsT t k [.metaDir (parentKey k)] (by simp) (by simp) ((pairT t k).1, none)
  have h4 := runs_writeViaT (parentKey k) k (.node k) b ((pairT t k).1, none) (some (.file b), none)
    (fun t' h => by rw [pairT_writeVia_node, h])
  have h5 := runs_writeViaT (parentKey k) k (.mfile k) mb (some (.file b), none) (some (.file b), some (.file mb))
    (fun t' h => by rw [pairT_writeVia_mfile, h])
  exact (((((h1.mono fun _ => Or.inl).append (h2.mono fun _ h => h.elim Or.inl (Or.inr ∘ Or.inl))).append
    (h3.mono fun _ => Or.inr ∘ Or.inl)).append (h4.mono fun _ h => h.elim (Or.inr ∘ Or.inl) (Or.inr ∘ Or.inr ∘ Or.inl))).append
    (h5.mono fun _ h => h.elim (Or.inr ∘ Or.inr ∘ Or.inl) (Or.inr ∘ Or.inr ∘ Or.inr)) t rfl).1 n cut

theorem storeMeta_pair (t : Tree) (k : Key) (mb : Data) (n cut : Nat) :
    let p := pairT (crashAt execT n cut (storeMetaStepsT t k mb) t) k
    p = pairT t k ∨ p = ((pairT t k).1, some (.file mb)) := by
  rw [storeMetaStepsT, writeFileT_eq]
  have h1 := runs_mkdirsT t k (parentNodes k ++ [.metaDir (parentKey k)])
    (by simp [node_not_parentNodes]) (by simp [mfile_not_parentNodes]) (pairT t k)
  have h2 := runs_writeViaT (parentKey k) k (.mfile k) mb (pairT t k) ((pairT t k).1, some (.file mb))
    (fun t' h => by rw [pairT_writeVia_mfile, h])
  exact ((h1.mono fun _ => Or.inl).append h2 t rfl).1 n cut

theorem remove_pair (t : Tree) (k : Key) (n cut : Nat) :
    let p := pairT (crashAt execT n cut (removeStepsT t k) t) k
    p = pairT t k ∨ p = (none, (pairT t k).2) ∨ p = (none, none) := by
  have h1 : Runs execT (fun t' => pairT t' k = pairT t k) (unlinkIfPresent t (.node k)) _ (fun t' => pairT t' k = (none, (pairT t k).2)) :=
    runs_unlinkIfPresent t _ (fun h fs hI => by rw [hI, pairT, h]) (fun fs hI => by
      rw [← hI, pairT, stepLawsT.unlink, stepLawsT.untouched _ _ _ (by simp [Step.names])]; rfl)
  have h2 : Runs execT (fun t' => pairT t' k = (none, (pairT t k).2)) (unlinkIfPresent t (.mfile k)) _ (fun t' => pairT t' k = (none, none)) :=
    runs_unlinkIfPresent t _ (fun h fs hI => by rw [hI, pairT, h]) (fun fs hI => by
      have := congrArg Prod.fst hI
      rw [pairT, stepLawsT.unlink, stepLawsT.untouched _ _ _ (by simp [Step.names])]; exact congrArg (·, none) this)
  exact ((h1.mono fun _ h => h.elim Or.inl (Or.inr ∘ Or.inl)).append (h2.mono fun _ h => h.elim (Or.inr ∘ Or.inl) (Or.inr ∘ Or.inr)) t rfl).1 n cut

/-- the names the three protocols of key `k` mention -/
def ofKeyT (k : Key) (n : SName) : Bool :=
  match n with
  | .node a => a == k || (ancestors k).contains a
  | .mfile a => a == k
  | .metaDir _ => true
  | .tmp _ => true

theorem writeFileT_names (k dk : Key) (target : SName) (b : Data) (ht : ofKeyT k target = true) :
    Within (ofKeyT k) (writeFileT dk target b) :=
  writeFileT_eq dk target b ▸ Within.of_writeVia b rfl ht

theorem mkdirsT_names (t : Tree) (k : Key) (ns : List SName) (h : ∀ n ∈ ns, ofKeyT k n = true) : Within (ofKeyT k) (mkdirsT t ns) := by
  intro s hs n hn
  obtain ⟨m, hm, rfl⟩ := mkdirsT_mem t ns s hs
  exact List.mem_singleton.1 hn ▸ h _ hm

theorem unlinkIfPresent_names (t : Tree) (k : Key) (m : SName) (h : ofKeyT k m = true) : Within (ofKeyT k) (unlinkIfPresent t m) := by
  intro s hs n hn
  simp only [unlinkIfPresent] at hs
  split at hs
  · rw [List.mem_singleton.1 hs] at hn; exact List.mem_singleton.1 hn ▸ h
  · cases hs

theorem parentNodes_ofKey (k : Key) : ∀ n ∈ parentNodes k, ofKeyT k n = true := by
  intro n hn
  simp only [parentNodes, List.mem_map] at hn
  obtain ⟨a, ha, rfl⟩ := hn
  simp [ofKeyT, ha]

theorem storeStepsT_names (t : Tree) (k : Key) (b mb : Data) : Within (ofKeyT k) (storeStepsT t k b mb) :=
  ((((mkdirsT_names t k _ (parentNodes_ofKey k)).append (unlinkIfPresent_names t k _ (by simp [ofKeyT]))).append
    (mkdirsT_names t k _ (by simp [ofKeyT]))).append (writeFileT_names k _ _ _ (by simp [ofKeyT]))).append
    (writeFileT_names k _ _ _ (by simp [ofKeyT]))

theorem storeMetaStepsT_names (t : Tree) (k : Key) (mb : Data) : Within (ofKeyT k) (storeMetaStepsT t k mb) :=
  (mkdirsT_names t k _ fun n hn => (List.mem_append.1 hn).elim (parentNodes_ofKey k n) fun h => List.mem_singleton.1 h ▸ rfl).append
    (writeFileT_names k _ _ _ (by simp [ofKeyT]))

theorem removeStepsT_names (t : Tree) (k : Key) : Within (ofKeyT k) (removeStepsT t k) :=
  (unlinkIfPresent_names t k _ (by simp [ofKeyT])).append (unlinkIfPresent_names t k _ (by simp [ofKeyT]))

/-- a key that is neither `k` nor one of the directories above `k` keeps both its files at every crash point -/
theorem frame_pair (steps : List (Step SName)) (k k' : Key) (hne : k' ≠ k) (hanc : k' ∉ ancestors k)
    (hnames : Within (ofKeyT k) steps) (n cut : Nat) (t : Tree) : pairT (crashAt execT n cut steps t) k' = pairT t k' := by
  rw [pairT, stepLawsT.crashAt_outside hnames (by simp [ofKeyT, hne, hanc]), stepLawsT.crashAt_outside hnames (by simp [ofKeyT, hne])]; rfl

def bytesOf : Option TNode × Option TNode → Option Data
  | (some (.file d), _) => some d
  | _ => none

def metaOf : Option TNode × Option TNode → Option Data
  | (some .dir, _) => none
  | (_, some (.file d)) => some d
  | _ => none

def scOf (deM : Data → Option CMeta) (deD : Str → Data → Option (Option Str)) : Option TNode × Option TNode → Option CState
  | (some (.file d), some (.file mb)) =>
    match deM mb with
    | some m => if m.status != ready then none else
      match deD m.typeId d with
      | some v => some { metadata := m, data := v }
      | none => none
    | none => none
  | _ => none

theorem bytesOf_fst (x y y' : Option TNode) : bytesOf (x, y) = bytesOf (x, y') := by
  cases x with
  | none => rfl
  | some z => cases z <;> rfl

theorem metaOf_none (x : Option TNode) : metaOf (x, none) = none := by
  cases x with
  | none => rfl
  | some z => cases z <;> rfl

theorem metaOf_file (x : Option TNode) (mb : Data) : metaOf (x, some (.file mb)) = some mb ∨ metaOf (x, some (.file mb)) = none := by
  cases x with
  | none => exact Or.inl rfl
  | some z => cases z with
    | file d => exact Or.inl rfl
    | dir => exact Or.inr rfl

theorem readBytesT_eq (t : Tree) (k : Key) : readBytesT t k = bytesOf (pairT t k) := by
  simp only [readBytesT, pairT, bytesOf]
  cases AL.get t (.node k) with
  | none => rfl
  | some x => cases x <;> rfl

theorem readMetaT_eq (t : Tree) (k : Key) : readMetaT t k = metaOf (pairT t k) := by
  simp only [readMetaT, pairT, metaOf]
  cases AL.get t (.node k) with
  | none => cases AL.get t (.mfile k) with
    | none => rfl
    | some y => cases y <;> rfl
  | some x =>
    cases x with
    | dir => rfl
    | file d => cases AL.get t (.mfile k) with
      | none => rfl
      | some y => cases y <;> rfl

theorem readSC_eq (deM : Data → Option CMeta) (deD : Str → Data → Option (Option Str)) (t : Tree) (k : Key) :
    readSC deM deD t k = scOf deM deD (pairT t k) := by
  simp only [readSC, pairT, scOf]
  cases AL.get t (.node k) with
  | none => rfl
  | some x =>
    cases x with
    | dir => rfl
    | file d => cases AL.get t (.mfile k) with
      | none => rfl
      | some y => cases y <;> rfl

end Crash
end Liquer
