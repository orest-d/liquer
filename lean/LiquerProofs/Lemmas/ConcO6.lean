/-
The oracle evaluator fed the answers of a real cache is the sequential evaluator: same outcome, same call log, and the trace
replayed on the cache gives the final cache of the sequential run (`agreeO`, `evalQO_agrees`).
-/
import LiquerProofs.Lemmas.ConcO2
import LiquerProofs.Lemmas.ConcW

namespace Liquer

/-- replay a trace on a world: the final world and the answers its `get`s receive, appended to `acc` -/
def replay (w : World) (acc : List (Option EState)) (tr : List COp) : World × List (Option EState) :=
  tr.foldl applyOp (w, acc)

/-- the sequential run from `w` with result `r` is reproduced by the oracle run `fO` fed the answers `A` of `w`: the trace `d`
replayed on `w` gives the cache of `r.1` and the answers `A`; the oracle consumes exactly `A`, emits exactly `d`, logs the same
calls `dc`, does not starve and returns the same result -/
def AgreeO {α : Type} (w : World) (r : World × α) (fO : OW → OW × α) : Prop :=
  ∃ (A : List (Option EState)) (d : List COp) (dc : List Str),
    r.1.calls = w.calls ++ dc ∧
    (∀ acc, replay w acc d = ({ r.1 with calls := w.calls }, acc ++ A)) ∧
    (∀ (ow : OW) (rest : List (Option EState)), ow.starved = false → ow.answers = A ++ rest →
      fO ow = ({ answers := rest, trace := ow.trace ++ d, calls := ow.calls ++ dc, starved := false }, r.2))

def World.setCalls (w : World) (c : List Str) : World := { w with calls := c }

@[simp] theorem World.setCalls_calls (w : World) (c : List Str) : (w.setCalls c).calls = c := rfl

theorem World.setCalls_of_eq {w : World} {c : List Str} (h : w.calls = c) : w.setCalls c = w := by
  cases w; cases h; rfl

@[simp] theorem World.setCalls_setCalls (w : World) (c c' : List Str) : (w.setCalls c).setCalls c' = w.setCalls c' := rfl

@[simp] theorem World.get_setCalls (w : World) (c : List Str) (k : Str) : (w.setCalls c).get k = w.get k := rfl

theorem World.put_setCalls (w : World) (c : List Str) (k : Str) (e : Entry) :
    (w.setCalls c).put k e = (w.put k e).setCalls c := by
  unfold World.put
  cases h : w.enabled <;> simp [World.setCalls, h]

theorem World.storeMeta_setCalls (w : World) (c : List Str) (k x : Str) :
    (w.setCalls c).storeMeta k x = (w.storeMeta k x).setCalls c := by
  unfold World.storeMeta
  have e : (w.setCalls c).entry k = w.entry k := rfl
  rw [e]
  split <;> exact World.put_setCalls _ _ _ _

theorem World.store_setCalls (w : World) (c : List Str) (st : EState) :
    (w.setCalls c).store st = (w.store st).setCalls c := World.put_setCalls _ _ _ _

theorem World.remove_setCalls (w : World) (c : List Str) (k : Str) :
    (w.setCalls c).remove k = (w.remove k).setCalls c := rfl

theorem applyOp_setCalls (w : World) (c : List Str) (acc : List (Option EState)) (op : COp) :
    applyOp (w.setCalls c, acc) op = ((applyOp (w, acc) op).1.setCalls c, (applyOp (w, acc) op).2) := by
  cases op with
  | get k => rfl
  | storeMeta k x => simp only [applyOp_storeMeta, World.storeMeta_setCalls]
  | store st => simp only [applyOp_store, World.store_setCalls]
  | remove k => rfl

@[simp] theorem replay_nil (w : World) (acc : List (Option EState)) : replay w acc [] = (w, acc) := rfl

theorem replay_cons (w : World) (acc : List (Option EState)) (op : COp) (d : List COp) :
    replay w acc (op :: d) = replay (applyOp (w, acc) op).1 (applyOp (w, acc) op).2 d := rfl

theorem replay_append (w : World) (acc : List (Option EState)) (d1 d2 : List COp) :
    replay w acc (d1 ++ d2) = replay (replay w acc d1).1 (replay w acc d1).2 d2 := by
  simp only [replay, List.foldl_append]

theorem replay_setCalls (w : World) (c : List Str) (acc : List (Option EState)) (d : List COp) :
    replay (w.setCalls c) acc d = ((replay w acc d).1.setCalls c, (replay w acc d).2) := by
  induction d generalizing w acc with
  | nil => rfl
  | cons op d ih =>
    rw [replay_cons, replay_cons, applyOp_setCalls]
    exact ih _ _

theorem AgreeO.intro {α : Type} {w : World} {r : World × α} {fO : OW → OW × α}
    (A : List (Option EState)) (d : List COp) (dc : List Str)
    (h1 : r.1.calls = w.calls ++ dc)
    (h2 : ∀ acc, replay w acc d = (r.1.setCalls w.calls, acc ++ A))
    (h3 : ∀ (ow : OW) (rest : List (Option EState)), ow.starved = false → ow.answers = A ++ rest →
      fO ow = ({ answers := rest, trace := ow.trace ++ d, calls := ow.calls ++ dc, starved := false }, r.2)) :
    AgreeO w r fO := ⟨A, d, dc, h1, h2, h3⟩

theorem OW.eta_of_not_starved {ow : OW} (h : ow.starved = false) :
    ({ answers := ow.answers, trace := ow.trace ++ [], calls := ow.calls ++ [], starved := false } : OW) = ow := by
  cases ow; simp_all

theorem AgreeO.ret {α : Type} (w : World) (o : α) : AgreeO w (w, o) (fun ow => (ow, o)) := by
  refine AgreeO.intro [] [] [] (by simp) (fun acc => ?_) (fun ow rest hs ha => ?_)
  · simp [World.setCalls_of_eq]
  · simp only [List.nil_append] at ha
    rw [← ha, OW.eta_of_not_starved hs]

theorem AgreeO.congrS {α : Type} {w : World} {r : World × α} {fO gO : OW → OW × α}
    (h : ∀ ow, ow.starved = false → fO ow = gO ow) (hg : AgreeO w r gO) : AgreeO w r fO := by
  obtain ⟨A, d, dc, h1, h2, h3⟩ := hg
  exact ⟨A, d, dc, h1, h2, fun ow rest hs ha => by rw [h ow hs]; exact h3 ow rest hs ha⟩

theorem AgreeO.bind {α β : Type} {w : World} {r1 : World × α} {fO1 : OW → OW × α}
    (k : World × α → World × β) (kO : OW × α → OW × β)
    (h1 : AgreeO w r1 fO1) (h2 : AgreeO r1.1 (k r1) (fun ow => kO (ow, r1.2))) :
    AgreeO w (k r1) (fun ow => kO (fO1 ow)) := by
  obtain ⟨A1, d1, dc1, c1, p1, o1⟩ := h1
  obtain ⟨A2, d2, dc2, c2, p2, o2⟩ := h2
  refine AgreeO.intro (A1 ++ A2) (d1 ++ d2) (dc1 ++ dc2) ?_ (fun acc => ?_) (fun ow rest hs ha => ?_)
  · rw [c2, c1, List.append_assoc]
  · have p1' : replay w acc d1 = (r1.1.setCalls w.calls, acc ++ A1) := p1 acc
    have p2' : replay r1.1 (acc ++ A1) d2 = ((k r1).1.setCalls r1.1.calls, acc ++ A1 ++ A2) := p2 (acc ++ A1)
    rw [replay_append, p1', replay_setCalls, p2']
    simp only [World.setCalls_setCalls, List.append_assoc]
  · rw [List.append_assoc] at ha
    have e1 := o1 ow (A2 ++ rest) hs ha
    simp only [e1]
    have e2 := o2 { answers := A2 ++ rest, trace := ow.trace ++ d1, calls := ow.calls ++ dc1, starved := false } rest rfl rfl
    simp only [e2, List.append_assoc]

/-- `g` on the cache and `gO` on the oracle world are the same writes `d` and the same log lines `dc` -/
def QuietAgree (g : World → World) (gO : OW → OW) : Prop :=
  ∃ (d : List COp) (dc : List Str),
    (∀ w, (g w).calls = w.calls ++ dc) ∧
    (∀ w acc, replay w acc d = ((g w).setCalls w.calls, acc)) ∧
    (∀ ow : OW, ow.starved = false →
      gO ow = { answers := ow.answers, trace := ow.trace ++ d, calls := ow.calls ++ dc, starved := false })

theorem OW.emit_of_not_starved {ow : OW} (hs : ow.starved = false) (op : COp) :
    ow.emit op = { answers := ow.answers, trace := ow.trace ++ [op], calls := ow.calls ++ [], starved := false } := by
  cases ow; simp_all [OW.emit]

theorem QuietAgree.emit (op : COp) (hk : ∀ k, op ≠ .get k) :
    QuietAgree (fun w => (applyOp (w, []) op).1) (fun ow => ow.emit op) := by
  refine ⟨[op], [], fun w => ?_, fun w acc => ?_, fun ow hs => OW.emit_of_not_starved hs _⟩
  · cases op <;> first | exact absurd rfl (hk _) | simp
  · rw [replay_cons, replay_nil]
    cases op with
    | get k => exact absurd rfl (hk k)
    | storeMeta k x => exact congrArg (·, acc) (World.setCalls_of_eq (World.calls_storeMeta w k x)).symm
    | store st => exact congrArg (·, acc) (World.setCalls_of_eq (World.calls_store w st)).symm
    | remove k => rfl

theorem QuietAgree.remove (k : Str) : QuietAgree (fun w => w.remove k) (fun ow => ow.remove k) :=
  QuietAgree.emit (.remove k) (fun _ h => by cases h)

theorem QuietAgree.log (c : Str) : QuietAgree (fun w => w.log c) (fun ow => ow.log c) :=
  ⟨[], [c], fun w => rfl, fun w acc => by cases w; rfl,
    fun ow hs => by cases ow; simp_all [OW.log]⟩

theorem QuietAgree.ret {α : Type} {g : World → World} {gO : OW → OW} (h : QuietAgree g gO) (w : World) (o : α) :
    AgreeO w (g w, o) (fun ow => (gO ow, o)) := by
  obtain ⟨d, dc, c, p, oq⟩ := h
  refine AgreeO.intro [] d dc (c w) (fun acc => ?_) (fun ow rest hs ha => ?_)
  · rw [p, List.append_nil]
  · simp only [List.nil_append] at ha
    simp only [oq ow hs, ha]

theorem AgreeO.pre {α : Type} {g : World → World} {gO : OW → OW} {w : World} {r : World × α} {fO : OW → OW × α}
    (hq : QuietAgree g gO) (h : AgreeO (g w) r fO) : AgreeO w r (fun ow => fO (gO ow)) :=
  AgreeO.bind (α := Unit) (r1 := (g w, ())) (fun _ => r) (fun x => fO x.1) (hq.ret w ()) h

theorem ask_agreeO (w : World) (key : Str) : AgreeO w (w, w.get key) (fun ow => ow.ask key) := by
  refine AgreeO.intro [w.get key] [.get key] [] (by simp) (fun acc => ?_) (fun ow rest hs ha => ?_)
  · rw [replay_cons, replay_nil, applyOp_get, World.setCalls_of_eq rfl]
  · cases ow
    simp_all [OW.ask]

theorem Twin.agree {α : Type} {u : α} {f : World → World × α} {fO : OW → OW × α} (h : Twin u f fO) :
    ∀ w, AgreeO w (f w) fO := by
  induction h with
  | ret u o => exact fun w => AgreeO.ret w o
  | emit op hk _ _ ih => exact fun w => AgreeO.pre (QuietAgree.emit op hk) (ih _)
  | log c _ ih => exact fun w => AgreeO.pre (QuietAgree.log c) (ih _)
  | ask k => exact fun w => ask_agreeO w k
  | bind k kO _ _ _ ih1 ih2 => exact fun w => AgreeO.bind k kO (ih1 w) (ih2 _ _)
  | guard _ ih =>
    exact fun w => AgreeO.congrS (fun ow hs => by simp only [hs, Bool.false_eq_true, if_false]) (ih w)

structure AgreeAtO (env : Env) (n : Nat) : Prop where
  text : ∀ w t ug, AgreeO w (evalText env n w t ug) (fun ow => evalTextO env n ow t ug)
  q : ∀ w q raw extra input uc,
    AgreeO w (evalQ env n w q raw extra input uc) (fun ow => evalQO env n ow q raw extra input uc)
  act : ∀ w st a raw parent extra uc,
    AgreeO w (evalAction env n w st a raw parent extra uc) (fun ow => evalActionO env n ow st a raw parent extra uc)
  params : ∀ w ps raw parent,
    AgreeO w (evalParams env n w ps raw parent) (fun ow => evalParamsO env n ow ps raw parent)

theorem agreeO (env : Env) (n : Nat) : AgreeAtO env n where
  text := fun w t ug => ((twin env n).text t ug).agree w
  q := fun w q raw extra input uc => ((twin env n).q q raw extra input uc).agree w
  act := fun w st a raw parent extra uc => ((twin env n).act st a raw parent extra uc).agree w
  params := fun w ps raw parent => ((twin env n).params ps raw parent).agree w

/-- a thread that is fed the answers of the cache, in order, is the sequential evaluation -/
theorem evalQO_agrees (env : Env) (n : Nat) (w : World) (q : Query) (raw : Str) (extra : Extra) (input : Option Val)
    (uc : Bool) :
    ∃ A : List (Option EState),
      (evalQO env n { answers := A } q raw extra input uc).2 = (evalQ env n w q raw extra input uc).2 ∧
      (evalQO env n { answers := A } q raw extra input uc).1.starved = false ∧
      (evalQO env n { answers := A } q raw extra input uc).1.answers = [] ∧
      (evalQ env n w q raw extra input uc).1.calls = w.calls ++ (evalQO env n { answers := A } q raw extra input uc).1.calls ∧
      replay w [] (evalQO env n { answers := A } q raw extra input uc).1.trace =
        ({ (evalQ env n w q raw extra input uc).1 with calls := w.calls }, A) := by
  obtain ⟨A, d, dc, h1, h2, h3⟩ := (agreeO env n).q w q raw extra input uc
  have e := h3 { answers := A } [] rfl (by simp)
  simp only at e
  refine ⟨A, ?_⟩
  rw [e]
  refine ⟨rfl, rfl, rfl, ?_, ?_⟩
  · simpa using h1
  · simpa using h2 []

end Liquer
