/-
Helper lemmas for C03: the escape-table stages of `encode_token` seen as rewriting of an item list,
and decoding of the resulting text.
-/
import LiquerModel.Token
import LiquerProofs.Lemmas.Quote

namespace Liquer

/-! ### items: the text between two table stages

After some stages the text is a sequence of literal characters and of *entities* `~x`, each entity
standing for the pattern `p` it replaced. -/

inductive Item where
  | lit (c : Char)
  | ent (p : List Char) (x : Char)

/-- how an item is printed in the current (escaped, not yet quoted) text -/
def Item.flat : Item → List Char
  | .lit c => [c]
  | .ent _ x => ['~', x]

/-- what an item denotes in the original text -/
def Item.val : Item → List Char
  | .lit c => [c]
  | .ent p _ => p

/-- how an item is printed after `quote` -/
def Item.enc : Item → List Char
  | .lit c => quoteChar c
  | .ent _ x => ['~', x]

def flatI (is : List Item) : List Char := is.flatMap Item.flat
def valI (is : List Item) : List Char := is.flatMap Item.val
def encI (is : List Item) : List Char := is.flatMap Item.enc

theorem flatI_cons (i : Item) (is : List Item) : flatI (i :: is) = i.flat ++ flatI is :=
  List.flatMap_cons
theorem valI_cons (i : Item) (is : List Item) : valI (i :: is) = i.val ++ valI is :=
  List.flatMap_cons
theorem encI_cons (i : Item) (is : List Item) : encI (i :: is) = i.enc ++ encI is :=
  List.flatMap_cons
theorem flatI_append (a b : List Item) : flatI (a ++ b) = flatI a ++ flatI b := List.flatMap_append
theorem valI_append (a b : List Item) : valI (a ++ b) = valI a ++ valI b := List.flatMap_append
theorem flatI_lits (p : List Char) : flatI (p.map Item.lit) = p := by
  rw [flatI, List.flatMap_map]; exact List.flatMap_singleton' p
theorem valI_lits (p : List Char) : valI (p.map Item.lit) = p := by
  rw [valI, List.flatMap_map]; exact List.flatMap_singleton' p

/-- a pattern without `~` can only match inside a run of literals -/
theorem prefix_lits (p : List Char) (hpt : '~' ∉ p) :
    ∀ items : List Item, isPrefix p (flatI items) = true →
      ∃ rest, items = p.map Item.lit ++ rest := by
  induction p with
  | nil => intro items _; exact ⟨items, rfl⟩
  | cons a p ih =>
    intro items h
    cases items with
    | nil => exact nomatch h
    | cons it items =>
      cases it with
      | lit c =>
        rw [flatI_cons, Item.flat, List.singleton_append, isPrefix_cons_cons, Bool.and_eq_true,
          beq_iff_eq] at h
        obtain ⟨rest, hr⟩ := ih (fun hm => hpt (List.mem_cons_of_mem _ hm)) items h.2
        exact ⟨rest, by rw [h.1, hr]; rfl⟩
      | ent q y =>
        rw [flatI_cons, Item.flat, List.cons_append, isPrefix_cons_cons, Bool.and_eq_true,
          beq_iff_eq] at h
        exact absurd (h.1 ▸ List.mem_cons_self) hpt

/-- one table stage `(p, ~x)` on an item list whose entity letters do not occur in `p` -/
theorem stage_items (p : List Char) (x : Char) (hp : p ≠ []) (hpt : '~' ∉ p) (items : List Item)
    (he : ∀ q y, Item.ent q y ∈ items → y ∉ p) :
    ∃ items', flatI items' = replaceAll p ['~', x] (flatI items) ∧ valI items' = valI items ∧
      items' ⊆ Item.ent p x :: items := by
  -- a match consumes several items at once: induction on the length
  induction hn : items.length using Nat.strongRecOn generalizing items with | _ n ih => ?_
  cases items with
  | nil => exact ⟨[], rfl, rfl, List.nil_subset _⟩
  | cons it items =>
    subst hn
    have he' : ∀ q y, Item.ent q y ∈ items → y ∉ p :=
      fun q y h => he q y (List.mem_cons_of_mem _ h)
    have step : ∀ items', items' ⊆ Item.ent p x :: items →
        it :: items' ⊆ Item.ent p x :: it :: items := fun items' h =>
      List.cons_subset.mpr ⟨List.mem_cons_of_mem _ List.mem_cons_self,
        h.trans (List.cons_subset_cons _ (List.subset_cons_self _ _))⟩
    cases it with
    | ent q y =>
      obtain ⟨items', h1, h2, h3⟩ := ih _ (Nat.lt_succ_self _) items he' rfl
      refine ⟨Item.ent q y :: items', ?_, by rw [valI_cons, valI_cons, h2], step _ h3⟩
      cases p with
      | nil => exact absurd rfl hp
      | cons a p' =>
        have ha1 : a ≠ '~' := fun h => hpt (h ▸ List.mem_cons_self)
        have ha2 : a ≠ y := fun h => he q y List.mem_cons_self (h ▸ List.mem_cons_self)
        simp only [flatI_cons, Item.flat, List.cons_append, List.nil_append]
        rw [replaceAll_cons_ne _ _ _ _ _ ha1, replaceAll_cons_ne _ _ _ _ _ ha2, h1]
    | lit c =>
      cases hpre : isPrefix p (flatI (Item.lit c :: items)) with
      | true =>
        obtain ⟨rest, hr⟩ := prefix_lits p hpt _ hpre
        have hlen : rest.length < (Item.lit c :: items).length := by
          have := List.length_pos_iff.mpr hp
          rw [hr, List.length_append, List.length_map]; omega
        have hsub : rest ⊆ Item.lit c :: items := hr ▸ List.subset_append_right _ _
        obtain ⟨items', h1, h2, h3⟩ := ih _ hlen rest (fun q y h => he q y (hsub h)) rfl
        refine ⟨Item.ent p x :: items', ?_, ?_, ?_⟩
        · rw [hr, flatI_append, flatI_lits, replaceAll_append_match _ _ _ hp, flatI_cons, h1]
          rfl
        · rw [hr, valI_append, valI_lits, valI_cons, h2]; rfl
        · exact List.cons_subset.mpr ⟨List.mem_cons_self, h3.trans (List.cons_subset_cons _ hsub)⟩
      | false =>
        obtain ⟨items', h1, h2, h3⟩ := ih _ (Nat.lt_succ_self _) items he' rfl
        refine ⟨Item.lit c :: items', ?_, by rw [valI_cons, valI_cons, h2], step _ h3⟩
        simp only [flatI_cons, Item.flat, List.singleton_append] at hpre ⊢
        rw [replaceAll_cons_noPrefix _ _ _ _ hpre, h1]

theorem stage0_items (s : List Char) :
    ∃ items, flatI items = replaceAll ['~'] ['~', '~'] s ∧ valI items = s ∧
      ∀ it ∈ items, (∃ c, it = Item.lit c ∧ c ≠ '~') ∨ it = Item.ent ['~'] '~' := by
  refine ⟨s.map fun c => if c = '~' then .ent ['~'] '~' else .lit c, ?_, ?_, ?_⟩
  · rw [replaceAll_single, flatI, List.flatMap_map]
    congr 1; funext c; split <;> rfl
  · refine Eq.trans ?_ (List.flatMap_singleton' s)
    rw [valI, List.flatMap_map]
    congr 1; funext c; split
    next h => rw [h]; rfl
    next => rfl
  · intro it hit
    obtain ⟨c, _, rfl⟩ := List.mem_map.mp hit
    split
    · exact Or.inr rfl
    · next h => exact Or.inl ⟨c, rfl, h⟩

/-- side condition on the not-yet-applied part of the table -/
def RemOK : EscTable → Prop
  | [] => True
  | (p, e) :: rest =>
    p ≠ [] ∧ '~' ∉ p ∧ (∃ x, e = ['~', x] ∧ ∀ r ∈ rest, x ∉ r.1) ∧ RemOK rest

theorem codeLetter?_eq_some {e : List Char} {c : Char} (h : codeLetter? e = some c) :
    e = ['~', c] := by
  unfold codeLetter? at h
  split at h
  · cases h; rfl
  · cases h

theorem laterOK_cons {p e : List Char} {rest : EscTable} (h : laterOK ((p, e) :: rest) = true) :
    (∃ c, e = ['~', c] ∧ quoteSafe c = true ∧ (∀ r ∈ rest, c ∉ r.1) ∧ (∀ r ∈ rest, r.2 ≠ e)) ∧
      laterOK rest = true := by
  rw [laterOK, Bool.and_eq_true] at h
  refine ⟨?_, h.2⟩
  have h1 := h.1
  split at h1
  · cases h1
  next c hc =>
    simp only [Bool.and_eq_true, List.all_eq_true, Bool.not_eq_true', bne_iff_ne, ne_eq,
      List.contains_eq_mem, decide_eq_false_iff_not] at h1
    exact ⟨c, codeLetter?_eq_some hc, h1.1, fun r hr => (h1.2 r hr).1, fun r hr => (h1.2 r hr).2⟩

theorem RemOK_of_laterOK : ∀ (l : EscTable), laterOK l = true →
    (∀ q ∈ l, q.1 ≠ [] ∧ '~' ∉ q.1) → RemOK l
  | [], _, _ => trivial
  | (p, e) :: rest, h, hq =>
    have ⟨⟨c, he, _, hc, _⟩, hl⟩ := laterOK_cons h
    have hp := hq (p, e) List.mem_cons_self
    ⟨hp.1, hp.2, ⟨c, he, hc⟩, RemOK_of_laterOK rest hl fun q hq' => hq q (List.mem_cons_of_mem _ hq')⟩

theorem laterOK_codes : ∀ (l : EscTable), laterOK l = true →
    ∀ q ∈ l, ∃ c, q.2 = ['~', c] ∧ quoteSafe c = true
  | (p, e) :: rest, h, q, hq => by
    obtain ⟨⟨c, he, hs, _, _⟩, hl⟩ := laterOK_cons h
    rcases List.mem_cons.mp hq with rfl | hq
    · exact ⟨c, he, hs⟩
    · exact laterOK_codes rest hl q hq

/-- codes are pairwise distinct, so the decoding dictionary finds the pattern of every entry -/
theorem decLookup_of_mem : ∀ (l : EscTable), laterOK l = true →
    ∀ q ∈ l, decLookup l q.2 = some q.1
  | (p, e) :: rest, h, q, hq => by
    obtain ⟨⟨c, he, _, _, hne⟩, hl⟩ := laterOK_cons h
    rw [decLookup, List.reverse_cons, List.find?_append]
    rcases List.mem_cons.mp hq with rfl | hq
    · -- no later entry has the code `e`
      have : rest.reverse.find? (fun pe => pe.2 == e) = none :=
        List.find?_eq_none.mpr fun r hr => by simpa using hne r (List.mem_reverse.mp hr)
      rw [this]; simp
    · have := decLookup_of_mem rest hl q hq
      rw [decLookup, Option.map_eq_some_iff] at this
      obtain ⟨r, hr, hr1⟩ := this
      rw [hr]; simp [hr1]

/-- `tableOK tbl` unpacked into what the proofs use: `rem` / `noTilde` drive the stages after `("~", "~~")`
(`fold_items`), `plain` lets `unquote` leave a re-inserted pattern alone, `codes` keeps `~c` whole under `quote`,
`lookup` is the decoding dictionary. `rest` is the table without its first entry. -/
structure TableFacts (tbl rest : EscTable) : Prop where
  eq : tbl = (['~'], ['~', '~']) :: rest
  rem : RemOK rest
  noTilde : ∀ r ∈ rest, '~' ∉ r.1
  plain : ∀ q ∈ tbl, ∀ c ∈ q.1, isAscii c = true ∧ c ≠ '%'
  codes : ∀ q ∈ tbl, ∃ c, q.2 = ['~', c] ∧ quoteSafe c = true
  lookup : ∀ q ∈ tbl, decLookup tbl q.2 = some q.1

theorem tableFacts {tbl : EscTable} (h : tableOK tbl = true) : ∃ rest, TableFacts tbl rest := by
  unfold tableOK at h
  split at h
  · cases h
  next p0 e0 rest =>
    simp only [Bool.and_eq_true, beq_iff_eq, List.all_eq_true, Bool.not_eq_true',
      bne_iff_ne, ne_eq] at h
    obtain ⟨⟨⟨⟨rfl, rfl⟩, h3⟩, h4⟩, h5⟩ := h
    have h3' : ∀ q ∈ rest, q.1 ≠ [] ∧ '~' ∉ q.1 := fun q hq =>
      ⟨fun he => by simpa [he] using (h3 q hq).1, by simpa using (h3 q hq).2⟩
    refine ⟨rest, rfl, RemOK_of_laterOK rest (laterOK_cons h5).2 h3', fun r hr => (h3' r hr).2,
      ?_, laterOK_codes _ h5, decLookup_of_mem _ h5⟩
    intro q hq c hc
    rcases List.mem_cons.mp hq with rfl | hq
    · cases List.mem_singleton.mp hc; decide
    · exact h4 q hq c hc

/-- the invariant of an item while the entries `rem` are still to be applied -/
def Item.good (tbl rem : EscTable) : Item → Prop
  | .lit c => c ≠ '~'
  | .ent q y => (q, ['~', y]) ∈ tbl ∧ ∀ r ∈ rem, y ∉ r.1

theorem Item.good_tail {tbl : EscTable} {r : List Char × List Char} {rem : EscTable} :
    ∀ {it : Item}, it.good tbl (r :: rem) → it.good tbl rem
  | .lit _, h => h
  | .ent _ _, h => ⟨h.1, fun r hr => h.2 r (List.mem_cons_of_mem _ hr)⟩

theorem fold_items (tbl : EscTable) : ∀ (rem : EscTable), (∀ r ∈ rem, r ∈ tbl) → RemOK rem →
    ∀ items : List Item, (∀ it ∈ items, it.good tbl rem) →
      ∃ items', flatI items' = rem.foldl (fun t pe => replaceAll pe.1 pe.2 t) (flatI items) ∧
        valI items' = valI items ∧ ∀ it ∈ items', it.good tbl [] := by
  intro rem
  induction rem with
  | nil => exact fun _ _ items hg => ⟨items, rfl, rfl, hg⟩
  | cons pe rem ih =>
    intro hsub hrem items hg
    obtain ⟨p, e⟩ := pe
    obtain ⟨hp, hpt, ⟨x, rfl, hx⟩, hrem'⟩ := hrem
    obtain ⟨items1, h1, h2, h3⟩ := stage_items p x hp hpt items
      fun q y h => (hg _ h).2 (p, ['~', x]) List.mem_cons_self
    have hg1 : ∀ it ∈ items1, it.good tbl rem := fun it hit =>
      (List.mem_cons.mp (h3 hit)).elim (fun e => e ▸ ⟨hsub _ List.mem_cons_self, hx⟩)
        (fun h => Item.good_tail (hg it h))
    obtain ⟨items2, k1, k2, k3⟩ :=
      ih (fun r hr => hsub r (List.mem_cons_of_mem _ hr)) hrem' items1 hg1
    exact ⟨items2, by rw [k1, h1]; rfl, by rw [k2, h2], k3⟩

theorem applyTable_items {tbl rest : EscTable} (hf : TableFacts tbl rest) (s : List Char) :
    ∃ items, flatI items = applyTable tbl s ∧ valI items = s ∧ ∀ it ∈ items, it.good tbl [] := by
  obtain ⟨items0, h1, h2, h3⟩ := stage0_items s
  have hsub : ∀ r ∈ rest, r ∈ tbl := fun r hr => hf.eq ▸ List.mem_cons_of_mem _ hr
  have hg0 : ∀ it ∈ items0, it.good tbl rest := by
    intro it hit
    rcases h3 it hit with ⟨c, rfl, hc⟩ | rfl
    · exact hc
    · exact ⟨hf.eq ▸ List.mem_cons_self, hf.noTilde⟩
  obtain ⟨items, k1, k2, k3⟩ := fold_items tbl rest hsub hf.rem items0 hg0
  refine ⟨items, ?_, by rw [k2, h2], k3⟩
  rw [k1, h1, applyTable, hf.eq]
  rfl

theorem encodeToken_eq_quote (tbl : EscTable) (s : List Char) :
    encodeToken tbl s = quote (applyTable tbl s) := by
  have hok : ∀ a ∈ (applyTable tbl s).flatMap atomsOf, a.ok := fun a ha =>
    have ⟨c, _, hc⟩ := List.mem_flatMap.mp ha
    atomsOf_ok c a hc
  rw [encodeToken, quote_eq, replaceAll_pct7_noop 'E' rfl _ hok, replaceAll_pct7_noop 'e' rfl _ hok]

theorem quote_flatI (items : List Item)
    (hq : ∀ q y, Item.ent q y ∈ items → quoteSafe y = true) :
    quote (flatI items) = encI items := by
  induction items with
  | nil => rfl
  | cons it items ih =>
    rw [flatI_cons, quote_append, encI_cons,
      ih (fun q y h => hq q y (List.mem_cons_of_mem _ h))]
    congr 1
    cases it with
    | lit c => exact quote_singleton c
    | ent q y =>
      have hy := hq q y List.mem_cons_self
      simp only [Item.flat, Item.enc, quote, List.flatMap_cons, List.flatMap_nil, quoteChar, hy,
        show quoteSafe '~' = true from rfl, ↓reduceIte, List.singleton_append, List.append_nil]

theorem splitAtTilde_none (t : List Char) (h : '~' ∉ t) : splitAtTilde t = none := by
  induction t with
  | nil => rfl
  | cons c t ih =>
    rw [splitAtTilde, beq_false_of_ne (List.ne_of_not_mem_cons h).symm,
      ih (List.not_mem_of_not_mem_cons h)]
    rfl

theorem splitAtTilde_append (hd r : List Char) (h : '~' ∉ hd) :
    splitAtTilde (hd ++ '~' :: r) = some (hd, '~' :: r) := by
  induction hd with
  | nil => rfl
  | cons c hd ih =>
    rw [List.cons_append, splitAtTilde, beq_false_of_ne (List.ne_of_not_mem_cons h).symm,
      ih (List.not_mem_of_not_mem_cons h)]
    rfl

theorem decodeTokenF_noTilde (tbl : EscTable) (dec : List UInt8 → List Char) (n : Nat) (t : List Char)
    (h : '~' ∉ t) : decodeTokenF tbl dec (n + 1) t = unquote dec t := by
  rw [decodeTokenF, splitAtTilde_none t h]
  cases t <;> rfl

theorem decodeTokenF_tilde (tbl : EscTable) (dec : List UInt8 → List Char) (n : Nat) (hd : List Char)
    (y : Char) (r : List Char) (h : '~' ∉ hd) :
    decodeTokenF tbl dec (n + 1) (hd ++ '~' :: y :: r) =
      unquote dec (hd ++ (decLookup tbl ['~', y]).getD ['~', y]) ++ decodeTokenF tbl dec n r := by
  have hne : (hd ++ '~' :: y :: r).isEmpty = false := by cases hd <;> rfl
  rw [decodeTokenF, hne, splitAtTilde_append hd (y :: r) h]
  rfl

/-- `pre`: the text read since the last `~`; any fuel above the length of the text will do -/
theorem decodeTokenF_encI {tbl rest : EscTable} (hf : TableFacts tbl rest)
    {dec : List UInt8 → List Char} (hd : DecOK dec) :
    ∀ (items : List Item), (∀ it ∈ items, it.good tbl []) →
      ∀ (pre : List Char) (n : Nat), '~' ∉ pre → (quote pre ++ encI items).length < n →
        decodeTokenF tbl dec n (quote pre ++ encI items) = pre ++ valI items := by
  intro items
  induction items with
  | nil =>
    intro _ pre n hpre hn
    obtain ⟨n, rfl⟩ := Nat.exists_eq_succ_of_ne_zero (Nat.ne_of_gt (Nat.zero_lt_of_lt hn))
    have := unquote_quote_append hd pre [] (fun _ h => nomatch h)
    simp only [List.append_nil] at this
    rw [encI, valI, List.flatMap_nil, List.flatMap_nil, List.append_nil, List.append_nil,
      decodeTokenF_noTilde _ _ _ _ (tilde_not_mem_quote pre hpre), this]
  | cons it items ih =>
    intro hg pre n hpre hn
    have hg' : ∀ it ∈ items, it.good tbl [] := fun it h => hg it (List.mem_cons_of_mem _ h)
    rw [encI_cons] at hn
    rw [encI_cons, valI_cons]
    cases it with
    | lit c =>
      -- the literal joins the text before the next `~`
      have hc : c ≠ '~' := hg (Item.lit c) List.mem_cons_self
      have := ih hg' (pre ++ [c]) n (fun hm => (List.mem_append.mp hm).elim hpre
        fun h => hc (List.mem_singleton.mp h).symm)
      rw [quote_append, quote_singleton, List.append_assoc, List.append_assoc] at this
      exact this hn
    | ent q y =>
      have hmem : (q, ['~', y]) ∈ tbl := (hg (Item.ent q y) List.mem_cons_self).1
      obtain ⟨n, rfl⟩ := Nat.exists_eq_succ_of_ne_zero (Nat.ne_of_gt (Nat.zero_lt_of_lt hn))
      have := ih hg' [] n (fun h => nomatch h)
      rw [quote_nil, List.nil_append, List.nil_append] at this
      rw [Item.enc, Item.val, List.cons_append, List.cons_append, List.nil_append,
        decodeTokenF_tilde _ _ _ _ _ _ (tilde_not_mem_quote pre hpre), hf.lookup _ hmem,
        Option.getD_some, unquote_quote_append hd pre q (hf.plain _ hmem), this, List.append_assoc]
      simp only [Item.enc, List.length_append, List.length_cons] at hn
      omega

theorem decodeToken_encodeToken (tbl : EscTable) (dec : List UInt8 → List Char)
    (h : tableOK tbl = true) (hd : DecOK dec) (s : List Char) :
    decodeToken tbl dec (encodeToken tbl s) = s := by
  obtain ⟨rest, hf⟩ := tableFacts h
  obtain ⟨items, h1, h2, h3⟩ := applyTable_items hf s
  have hq : ∀ q y, Item.ent q y ∈ items → quoteSafe y = true := by
    intro q y hm
    obtain ⟨c, hc, hs⟩ := hf.codes _ (h3 _ hm).1
    cases hc; exact hs
  have := decodeTokenF_encI hf hd items h3 [] _ (fun h => nomatch h) (Nat.lt_succ_self _)
  rw [quote_nil, List.nil_append, List.nil_append, h2] at this
  rw [encodeToken_eq_quote, ← h1, quote_flatI items hq, decodeToken, this]

end Liquer
