/-
Observations compared up to the order of listings (`ObsEquiv`), and, for any store state type `σ` and relation
`R : σ → FS → Prop`: a step-wise simulation of `specOps` lifts to histories (`refines_run`, `refines_next`; `ok` restricts
the operations of the history, e.g. to plain keys), and a fuel-recursive `removedir` that walks the listing of a
directory simulates the removal of the subtree (`removedir_rec_sim`).
-/
import LiquerProofs.Lemmas.StoreSpec

namespace Liquer

def listingEquiv : Except StoreErr (Option (List Str)) → Except StoreErr (Option (List Str)) → Prop
  | .ok (some a), .ok (some b) => a.Perm b
  | .ok none, .ok none => True
  | .error e, .error e' => e = e'
  | _, _ => False

def keysEquiv : Except StoreErr (List Key) → Except StoreErr (List Key) → Prop
  | .ok a, .ok b => a.Perm b
  | .error e, .error e' => e = e'
  | _, _ => False

/-- two observations of a key agree: equal answers, listings equal as multisets -/
structure ObsEquiv (a b : KeyObs) : Prop where
  contains : a.contains = b.contains
  isDir : a.isDir = b.isDir
  bytes : a.bytes = b.bytes
  metadata : a.metadata = b.metadata
  listdir : listingEquiv a.listdir b.listdir

section run
variable {σ : Type} {S : StoreOps σ} {R : σ → FS → Prop} {ok : StoreOp → Prop}

theorem refines_run
    (hstep : ∀ {s fs op}, R s fs → ok op → wfOp fs op = true → ∃ s', S.apply s op = .ok s' ∧ R s' (specOps.step fs op))
    {s : σ} {fs : FS} (h : R s fs) (hist : List StoreOp) (hok : ∀ op ∈ hist, ok op) (hwf : wfHist fs hist = true) :
    R (S.run s hist) (specOps.run fs hist) := by
  induction hist generalizing s fs with
  | nil => exact h
  | cons op rest ih =>
    rw [wfHist, Bool.and_eq_true] at hwf
    obtain ⟨s', h1, h2⟩ := hstep h (hok op List.mem_cons_self) hwf.1
    have : S.step s op = s' := by simp only [StoreOps.step, h1]
    show R (S.run (S.step s op) rest) (specOps.run (specOps.step fs op) rest)
    rw [this]
    exact ih h2 (fun o ho => hok o (List.mem_cons_of_mem _ ho)) hwf.2

theorem refines_next
    (hstep : ∀ {s fs op}, R s fs → ok op → wfOp fs op = true → ∃ s', S.apply s op = .ok s' ∧ R s' (specOps.step fs op))
    {s : σ} {fs : FS} (h : R s fs) (hist : List StoreOp) (op : StoreOp) (hok : ∀ o ∈ hist ++ [op], ok o)
    (hwf : wfHist fs (hist ++ [op]) = true) : ∃ s', S.apply (S.run s hist) op = .ok s' := by
  rw [wfHist_append, Bool.and_eq_true, wfHist, Bool.and_eq_true] at hwf
  obtain ⟨s', h1, _⟩ := hstep (refines_run hstep h hist (fun o ho => hok o (List.mem_append_left _ ho)) hwf.1)
    (hok op (by simp)) hwf.2.1
  exact ⟨s', h1⟩

end run

/-- `q` lies at or below one of the children `k ++ [c]`, `c ∈ cs` -/
def underAny (k : Key) (cs : List Str) (q : Key) : Bool := cs.any (fun c => (k ++ [c]).isPrefixOf q)

/-- the specification state with the subtrees of the children `cs` of `k` removed -/
def removeSubs (fs : FS) (k : Key) (cs : List Str) : FS := fs.filter (fun kv => !(underAny k cs kv.1))

theorem underAny_iff (k : Key) (cs : List Str) (q : Key) : underAny k cs q = true ↔ ∃ c ∈ cs, (k ++ [c]) <+: q := by
  unfold underAny
  simp [List.any_eq_true]

theorem removeSubs_get (fs : FS) (k : Key) (cs : List Str) (q : Key) :
    (removeSubs fs k cs).get q = if underAny k cs q then none else fs.get q := by
  unfold removeSubs
  rw [FS.get_filter_key (fun q => !(underAny k cs q))]
  cases underAny k cs q <;> rfl

theorem removeSubs_tree {fs : FS} (ht : FS.Tree fs) (k : Key) (cs : List Str) : FS.Tree (removeSubs fs k cs) := by
  refine ht.filter (fun q => !(underAny k cs q)) fun q hq _ a ha => ?_
  simp only [Bool.not_eq_true', ← Bool.not_eq_true, underAny_iff] at hq ⊢
  exact fun ⟨c, hc, hp⟩ => hq ⟨c, hc, hp.trans (ancestors_prefix ha)⟩

theorem removeSubs_concat_get (fs : FS) (k : Key) (cs : List Str) (nm : Str) (q : Key) :
    (removeSubs fs k (cs ++ [nm])).get q = ((removeSubs fs k cs).prune (k ++ [nm])).get q := by
  rw [FS.get_prune, removeSubs_get, removeSubs_get]
  have e : underAny k (cs ++ [nm]) q = (underAny k cs q || (k ++ [nm]).isPrefixOf q) := by
    simp [underAny, List.any_append]
  rw [e]
  by_cases h1 : (k ++ [nm]) <+: q
  · rw [if_pos h1, List.isPrefixOf_iff_prefix.mpr h1, Bool.or_true, if_pos rfl]
  · rw [if_neg h1, show (k ++ [nm]).isPrefixOf q = false by rwa [← Bool.not_eq_true, List.isPrefixOf_iff_prefix],
      Bool.or_false]

theorem child_not_prefix_parent (k : Key) (c : Str) : ¬ (k ++ [c]) <+: k := by
  intro h
  have := h.length_le
  simp at this
  omega

theorem child_prefix_child {k : Key} {c c' : Str} (h : (k ++ [c']) <+: (k ++ [c])) : c' = c := by
  simpa using h.eq_of_length_le (by simp)

theorem length_filter_lt_of_imp {α : Type} (l : List α) (p q : α → Bool) (himp : ∀ x ∈ l, p x = true → q x = true)
    (x : α) (hx : x ∈ l) (hq : q x = true) (hp : p x = false) : (l.filter p).length < (l.filter q).length := by
  have e : l.filter p = (l.filter q).filter p := by
    rw [List.filter_filter]
    refine List.filter_congr fun y hy => ?_
    cases hpy : p y
    · rfl
    · rw [himp y hy hpy]; rfl
  have hsub : (l.filter p).Sublist (l.filter q) := e ▸ List.filter_sublist
  refine Nat.lt_of_le_of_ne hsub.length_le fun hlen => ?_
  have hm : x ∈ l.filter p := hsub.eq_of_length hlen ▸ List.mem_filter.mpr ⟨hx, hq⟩
  rw [List.mem_filter, hp] at hm
  cases hm.2

/-- the fuel measure of both walks (`removedir`, `keys`): the bindings strictly below a key; fewer below a bound child,
also when some bindings have been dropped -/
theorem below_child_lt {fs : FS} {k : Key} {nm : Str} (hpres : (fs.get (k ++ [nm])).isSome = true) (P : Key × Node → Bool) :
    (FS.below (fs.filter P) (k ++ [nm])).length < (fs.below k).length := by
  obtain ⟨n, hn⟩ := Option.isSome_iff_exists.mp hpres
  unfold FS.below
  rw [List.filter_filter]
  refine length_filter_lt_of_imp fs _ _ (fun x _ hx => ?_) (k ++ [nm], n) (FS.mem_of_get hn) ?_ (by simp)
  · simp only [Bool.and_eq_true, List.isPrefixOf_iff_prefix, bne_iff_ne] at hx ⊢
    refine ⟨(List.prefix_append k [nm]).trans hx.1.1, fun e => child_not_prefix_parent k nm (e ▸ hx.1.1)⟩
  · rw [Bool.and_eq_true, List.isPrefixOf_iff_prefix, bne_iff_ne]
    exact ⟨List.prefix_append _ _, by simp⟩

section removedir
variable {σ : Type} {R : σ → FS → Prop} {rec : Nat → σ → Key → Except StoreErr σ}
  {child : Nat → Key → σ → Str → Except StoreErr σ} {tail : σ → Key → Except StoreErr σ}

/-- `rec`: a recursive `removedir` with fuel; `child`: its loop body (the recursion on a sub-directory, the store's
`remove` on a file); `tail`: the removal of the emptied directory.  Invariant of the walk: after the children `done`
the state is related to `removeSubs fs k done`. -/
theorem removedir_rec_sim
    (hcongr : ∀ {s fs fs'}, R s fs → (∀ q, fs'.get q = fs.get q) → R s fs')
    (hunfold : ∀ {n s fs k}, R s fs → FS.Tree fs → k ≠ [] → fs.get k = some .dir →
      ∃ names : List Str, names.Perm (fs.children k) ∧
        rec (n + 1) s k = (names.foldlM (child n k) s >>= fun s1 => tail s1 k))
    (hdir : ∀ {n k s fs nm}, R s fs → fs.get (k ++ [nm]) = some .dir → child n k s nm = rec n s (k ++ [nm]))
    (hfile : ∀ {n k s fs nm d m}, R s fs → FS.Tree fs → fs.get (k ++ [nm]) = some (.file d m) →
      ∃ s', child n k s nm = .ok s' ∧ R s' (fs.erase (k ++ [nm])))
    (htail : ∀ {s fs k}, R s fs → FS.Tree fs → k ≠ [] → fs.get k = some .dir → (fs.children k).isEmpty = true →
      ∃ s', tail s k = .ok s' ∧ R s' (fs.erase k))
    (n : Nat) : ∀ {s fs k}, R s fs → FS.Tree fs → k ≠ [] → fs.get k = some .dir → (fs.below k).length < n →
      ∃ s', rec n s k = .ok s' ∧ R s' (fs.prune k) := by
  induction n with
  | zero => intro _ _ _ _ _ _ _ h; omega
  | succ n IH =>
    intro s fs k hR ht hk hd hsub
    obtain ⟨names, hperm, hrec⟩ := hunfold (n := n) hR ht hk hd
    have hmem : ∀ c, c ∈ names ↔ (fs.get (k ++ [c])).isSome = true := fun c =>
      hperm.mem_iff.trans (mem_children_iff fs k c)
    have walk : ∀ (rest done : List Str), (done ++ rest).Nodup → (∀ c ∈ rest, c ∈ names) →
        ∀ st, R st (removeSubs fs k done) →
        ∃ st', rest.foldlM (child n k) st = .ok st' ∧ R st' (removeSubs fs k (done ++ rest)) := by
      intro rest
      induction rest with
      | nil => intro done _ _ st hst; exact ⟨st, rfl, by rwa [List.append_nil]⟩
      | cons nm rest ih =>
        intro done hnd hin st hst
        have htd := removeSubs_tree ht k done
        have hcur : (removeSubs fs k done).get (k ++ [nm]) = fs.get (k ++ [nm]) := by
          rw [removeSubs_get, if_neg]
          rw [underAny_iff]
          rintro ⟨c', hc', hp⟩
          exact (List.nodup_append.mp hnd).2.2 nm (child_prefix_child hp ▸ hc') nm List.mem_cons_self rfl
        have hstep : ∃ st1, child n k st nm = .ok st1 ∧ R st1 ((removeSubs fs k done).prune (k ++ [nm])) := by
          cases hg : fs.get (k ++ [nm]) with
          | none => have := (hmem nm).mp (hin nm List.mem_cons_self); rw [hg] at this; cases this
          | some x =>
            rw [hg] at hcur
            cases x with
            | dir =>
              rw [hdir hst hcur]
              exact IH hst htd (by simp) hcur (Nat.lt_of_lt_of_le (below_child_lt (by rw [hg]; rfl) _) (Nat.le_of_lt_succ hsub))
            | file d m =>
              obtain ⟨st1, h1, h2⟩ := hfile (n := n) hst htd hcur
              refine ⟨st1, h1, hcongr h2 fun q => ?_⟩
              -- nothing lies below a file, so pruning at it is erasing it
              rw [FS.get_prune, FS.get_erase]
              by_cases e : q = k ++ [nm]
              · rw [if_pos e, if_pos (e ▸ List.prefix_refl _)]
              · rw [if_neg e]
                by_cases hp : (k ++ [nm]) <+: q
                · rw [if_pos hp]
                  exact (htd.nothing_below (Or.inl (by rw [hcur]; simp))
                    ((mem_ancestors _ q).mpr ⟨by simp, hp, fun e' => e e'.symm⟩)).symm
                · rw [if_neg hp]
        obtain ⟨st1, h1, h2⟩ := hstep
        rw [List.foldlM_cons, h1, List.append_cons]
        exact ih (done ++ [nm]) (by rwa [← List.append_cons]) (fun c hc => hin c (List.mem_cons_of_mem _ hc)) st1
          (hcongr h2 (removeSubs_concat_get fs k done nm))
    obtain ⟨st, hfold, hst⟩ := walk names [] (hperm.nodup_iff.mpr (children_nodup ht k)) (fun _ h => h) s
      (hcongr hR fun q => by rw [removeSubs_get]; rfl)
    rw [List.nil_append] at hst
    have htd := removeSubs_tree ht k names
    have hbelow : ∀ q, underAny k names q = true → k <+: q := by
      intro q hu
      obtain ⟨c, _, hc⟩ := (underAny_iff k names q).mp hu
      exact (List.prefix_append k [c]).trans hc
    have hkd : (removeSubs fs k names).get k = some .dir := by
      rw [removeSubs_get, if_neg, hd]
      exact fun hu => child_not_prefix_parent k _ ((underAny_iff k names k).mp hu).choose_spec.2
    have hempty : ((removeSubs fs k names).children k).isEmpty = true := by
      rw [FS.children_isEmpty]
      intro nm
      rw [removeSubs_get]
      by_cases hu : underAny k names (k ++ [nm]) = true
      · rw [if_pos hu]
      · rw [if_neg hu]
        cases hg : fs.get (k ++ [nm]) with
        | none => rfl
        | some x => exact absurd ((underAny_iff k names _).mpr ⟨nm, (hmem nm).mpr (by rw [hg]; rfl), List.prefix_refl _⟩) hu
    obtain ⟨s', h1, h2⟩ := htail hst htd hk hkd hempty
    refine ⟨s', by rw [hrec, hfold]; exact h1, hcongr h2 fun q => ?_⟩
    rw [FS.get_prune, FS.get_erase]
    by_cases e : q = k
    · rw [if_pos e, if_pos (e ▸ List.prefix_refl _)]
    · rw [if_neg e]
      by_cases hp : k <+: q
      · rw [if_pos hp]
        exact (htd.nothing_below (Or.inr hempty) ((mem_ancestors k q).mpr ⟨hk, hp, fun e' => e e'.symm⟩)).symm
      · rw [if_neg hp, removeSubs_get, if_neg fun hu => hp (hbelow q hu)]

end removedir

end Liquer
