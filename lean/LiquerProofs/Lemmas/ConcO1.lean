/-
One-step equations for the oracle evaluator of EvalO.lean, cut into the same named stages as the evaluator of Eval.lean
(`evalCallO`, `evalLinkO`, `evalPostO`, `evalAfterO`, `evalPreO` as in Lemmas/EvalStep.lean; `evalMissO` and the
continuations `consKO` … `lookKO` have their evaluator twins in Lemmas/ConcTwin.lean).

Trap: the model's `match` and the one of a statement are different matchers; asked to identify them on a scrutinee like
`parse env.dec t` or `evalParamsO …` the unifier unfolds the scrutinee (the whole parser).  So the proofs first `generalize` it.
-/
import LiquerModel.EvalO
import LiquerProofs.Lemmas.EvalStep

namespace Liquer

def OW.metaIf (w : OW) (uc : Bool) (k st : Str) : OW := if uc then w.storeMeta k st else w

@[simp] theorem OW.metaIf_true (w : OW) (k st : Str) : w.metaIf true k st = w.storeMeta k st := rfl
@[simp] theorem OW.metaIf_false (w : OW) (k st : Str) : w.metaIf false k st = w := rfl

/-- the look-up at the head of `evaluate`: only plain evaluations on the cache ask -/
def OW.askIf (w : OW) (c : Bool) (k : Str) : OW × Option EState := if c then w.ask k else (w, none)

def OW.logCall (w : OW) (st : EState) (sig : CmdSig) (args : List Val) : OW :=
  if isLibraryCommand sig.name then w else w.log (callText sig.ns sig.name (if sig.first then .none else st.data) args)

def subWO (uc : Bool) (raw : Str) (o : Outcome) (w : OW) : OW :=
  match o with
  | .st sub => w.metaIf uc raw (if sub.isError then s "error" else statusReady)
  | .parseError => w.metaIf uc raw (s "error")
  | _ => w

def evalCallO (env : Env) (n : Nat) (w1 : OW) (st : EState) (act : Action) (raw : Str) (sig : CmdSig)
    (x : List PVal × List (Str × Val) × Bool) (uc : Bool) : OW × Outcome :=
  match parseArgv sig.args x.1 x.2.1 with
  | .unmodelled => (w1, .unmodelled)
  | .fail => (w1.metaIf uc raw (s "error"),
      .st (failSt st act (mergeAttrs st.attrs sig.attrs) (x.2.2 || cmdVolatile sig.attrs) (some act.pos) (some raw)))
  | .ok args =>
    match cmdSem sig.ns sig.name st.data st.vars args with
    | .unmodelled => (w1.logCall st sig args, .unmodelled)
    | .raises => ((w1.logCall st sig args).metaIf uc raw (s "error"),
        .st (failSt st act (mergeAttrs st.attrs sig.attrs) (x.2.2 || cmdVolatile sig.attrs) (some act.pos) (some raw)))
    | .value v => ((w1.logCall st sig args).metaIf uc raw statusReady, .st (doneSt st act sig x.2.2 v [] true))
    | .stateVars v vars => ((w1.logCall st sig args).metaIf uc raw statusReady, .st (doneSt st act sig x.2.2 v vars true))
    | .nocache v => ((w1.logCall st sig args).metaIf uc raw statusReady, .st (doneSt st act sig x.2.2 v [] false))
    | .subeval y qtext =>
      (subWO uc raw (evalTextO env n (w1.logCall st sig args) qtext true).2 (evalTextO env n (w1.logCall st sig args) qtext true).1,
        subOutcome st act raw sig x.2.2 y (evalTextO env n (w1.logCall st sig args) qtext true).2)

def callKO (env : Env) (n : Nat) (st : EState) (act : Action) (raw : Str) (sig : CmdSig) (extra : Extra) (uc : Bool)
    (r : OW × (List PVal ⊕ Outcome)) : OW × Outcome :=
  match r with
  | (w1, .inr o) => (w1, o)
  | (w1, .inl given) => evalCallO env n w1 st act raw sig (applyExtra extra given) uc

theorem evalActionO_zero (env : Env) (w : OW) (st : EState) (act : Action) (raw parent : Str) (extra : Extra) (uc : Bool) :
    evalActionO env 0 w st act raw parent extra uc = (w, .unmodelled) := rfl

theorem evalActionO_succ (env : Env) (n : Nat) (w : OW) (st : EState) (act : Action) (raw parent : Str)
    (extra : Extra) (uc : Bool) :
    evalActionO env (n+1) w st act raw parent extra uc =
      match namespacesOf st.vars with
      | none => (w.metaIf uc raw (s "evaluation"), .unmodelled)
      | some nss =>
        if !(nss.getLast?.map env.reg.hasNs).getD false then (w.metaIf uc raw (s "evaluation"), .unmodelled) else
        match resolve env.reg nss act.name with
        | none => ((w.metaIf uc raw (s "evaluation")).metaIf uc raw (s "error"),
            .st (failSt st act (mergeAttrs st.attrs []) false (some act.pos) (some raw)))
        | some sig =>
          callKO env n st act raw sig extra uc (evalParamsO env n (w.metaIf uc raw (s "evaluation")) act.params raw parent) := by
  rw [evalActionO]
  dsimp only [OW.metaIf]
  generalize namespacesOf st.vars = ns
  cases ns with
  | none => rfl
  | some nss =>
    dsimp only
    by_cases hl : (!(nss.getLast?.map env.reg.hasNs).getD false) = true
    · rw [if_pos hl, if_pos hl]
    · rw [if_neg hl, if_neg hl]
      generalize resolve env.reg nss act.name = r
      cases r with
      | none => rfl
      | some sig =>
        dsimp only [callKO]
        generalize evalParamsO env n (if uc = true then w.storeMeta raw (s "evaluation") else w) act.params raw parent = pr
        rcases pr with ⟨w1, x⟩
        cases x with
        | inr o => rfl
        | inl given =>
          dsimp only [evalCallO, OW.logCall, OW.metaIf, subWO]
          -- the model names the triple of `applyExtra` by a `match` of its own: catch its first use on the left …
          generalize hpa : parseArgv sig.args _ _ = pa
          -- … and give the same call on the right the same name
          rw [show parseArgv sig.args (applyExtra extra given).1 (applyExtra extra given).2.1 = pa from hpa]
          cases pa with
          | unmodelled => rfl
          | fail => rfl
          | ok args =>
            dsimp only
            generalize cmdSem sig.ns sig.name st.data st.vars args = cs
            cases cs with
            | subeval y qtext =>
              dsimp only
              generalize evalTextO env n _ qtext true = r
              rcases r with ⟨w3, o⟩
              cases o with
              | st sub => dsimp only [subOutcome]; cases sub.isError <;> rfl
              | _ => rfl
            | _ => rfl

/-- the value of a link argument: a child context on the global cache -/
def evalLinkO (env : Env) (n : Nat) (w : OW) (lq : Query) (parent : Str) : OW × Outcome :=
  if lq.absolute || parent.isEmpty || parent == ['/'] then evalQO env n w lq (lq.encode Gen.escapeTable) .none none true
  else
    match lq with
    | .mk [.transform h as f] _ =>
      (match parse env.dec parent with
       | none => (w, .unmodelled)
       | some pq => evalTextO env n w ((Query.mk (pq.segments ++ [.transform h as f]) pq.absolute).encode Gen.escapeTable) true)
    | _ => (w, .unmodelled)

/-- what follows the conversion of the remaining parameters (`consKO` … `lookKO`: continuations of the stages) -/
def consKO (pv : PVal) (r : OW × (List PVal ⊕ Outcome)) : OW × (List PVal ⊕ Outcome) :=
  match r with
  | (w1, .inl rest) => (w1, .inl (pv :: rest))
  | other => other

def linkKO (env : Env) (n : Nat) (pos : Nat) (ps : List Param) (raw parent : Str) (r : OW × Outcome) :
    OW × (List PVal ⊕ Outcome) :=
  match r with
  | (w1, .st v) =>
    if v.isError then (w1, .inr (.raised (some pos) (some raw)))
    else consKO (.expanded v.data pos) (evalParamsO env n w1 ps raw parent)
  | (w1, .raised a b) => (w1, .inr (.raised a b))
  | (w1, .parseError) => (w1, .inr .parseError)
  | (w1, .unmodelled) => (w1, .inr .unmodelled)

theorem evalParamsO_zero (env : Env) (w : OW) (ps : List Param) (raw parent : Str) :
    evalParamsO env 0 w ps raw parent = (w, .inr .unmodelled) := rfl

theorem evalParamsO_nil (env : Env) (n : Nat) (w : OW) (raw parent : Str) :
    evalParamsO env (n+1) w [] raw parent = (w, .inl []) := rfl

theorem evalParamsO_str (env : Env) (n : Nat) (w : OW) (t : Str) (pos : Nat) (ps : List Param) (raw parent : Str) :
    evalParamsO env (n+1) w (.str t pos :: ps) raw parent = consKO (.text t pos) (evalParamsO env n w ps raw parent) := by
  simp only [evalParamsO]; rfl

theorem evalParamsO_link (env : Env) (n : Nat) (w : OW) (lq : Query) (pos : Nat) (ps : List Param) (raw parent : Str) :
    evalParamsO env (n+1) w (.link lq pos :: ps) raw parent = linkKO env n pos ps raw parent (evalLinkO env n w lq parent) := by
  simp only [evalParamsO, evalLinkO, linkKO]
  generalize (if (lq.absolute || parent.isEmpty || parent == ['/']) = true then _ else _ : OW × Outcome) = x
  rcases x with ⟨w1, o⟩
  cases o <;> rfl

theorem evalTextO_zero (env : Env) (w : OW) (t : Str) (ug : Bool) : evalTextO env 0 w t ug = (w, .unmodelled) := rfl

theorem evalTextO_succ (env : Env) (n : Nat) (w : OW) (t : Str) (ug : Bool) :
    evalTextO env (n+1) w t ug = match parse env.dec t with
      | none => (w, .parseError)
      | some q => evalQO env n w q t .none none ug := by
  rw [evalTextO]
  generalize parse env.dec t = p
  rfl

/-- the admission test after the last action -/
def admitWO (uc : Bool) (key : Str) (st3 : EState) (w2 : OW) : OW :=
  if !uc then w2
  else if st3.caching && !st3.isError && !st3.volatile then w2.store st3
  else if st3.isError then w2.storeMeta key (s "error")
  else w2.remove key

def fileWO (uc : Bool) (key : Str) (st2 : EState) (w1 : OW) : OW :=
  if !uc then w1 else if st2.caching && !st2.volatile then w1.store st2 else w1.remove key

def admitKO (uc : Bool) (key : Str) (x : OW × Outcome) : OW × Outcome :=
  match x.2 with
  | .st st2 => (admitWO uc key { st2 with query := key } x.1, .st { st2 with query := key })
  | other => (x.1, other)

def evalPostO (env : Env) (n : Nat) (w1 : OW) (st : EState) (parent : Str) (r : Option Seg) (key raw : Str)
    (extra : Extra) (uc : Bool) : OW × Outcome :=
  match r with
  | none => (w1, .st { st with query := key })
  | some (.transform _ [] (some f)) =>
    (fileWO uc key { st with filename := some f, extension := some (extensionOf f), query := key }
        (w1.metaIf uc raw (s "evaluation")),
      .st { st with filename := some f, extension := some (extensionOf f), query := key })
  | some (.transform _ [a] none) => admitKO uc key (evalActionO env n w1 st a raw parent extra uc)
  | some _ => (w1, .unmodelled)

def evalAfterO (env : Env) (n : Nat) (w1 : OW) (o : Outcome) (parent : Str) (r : Option Seg) (key raw : Str)
    (extra : Extra) (uc : Bool) : OW × Outcome :=
  match o with
  | .raised a b => (w1, .raised a b)
  | .parseError => (w1, .parseError)
  | .unmodelled => (w1, .unmodelled)
  | .st st =>
    if st.isError then (w1.metaIf uc raw (s "error"), .st { st with data := .none, query := key })
    else evalPostO env n w1 st parent r key raw extra uc

theorem evalQO_zero (env : Env) (w : OW) (q : Query) (raw : Str) (extra : Extra) (input : Option Val) (uc : Bool) :
    evalQO env 0 w q raw extra input uc = (w, .unmodelled) := rfl

def evalPreO (env : Env) (n : Nat) (w : OW) (q : Query) (raw : Str) (input : Option Val) (uc : Bool) : OW × Outcome :=
  match q.preQ with
  | none => (w, .st (initSt env input))
  | some p => evalQO env n (w.metaIf uc raw (s "evaluating parent")) p (p.encode Gen.escapeTable) .none input uc

def evalMissO (env : Env) (n : Nat) (w : OW) (q : Query) (raw : Str) (extra : Extra) (input : Option Val) (uc : Bool) :
    OW × Outcome :=
  if q.isRes then (w, .unmodelled) else
    evalAfterO env n (evalPreO env n w q raw input uc).1 (evalPreO env n w q raw input uc).2 q.preParent q.preRem
      (q.encode Gen.escapeTable) raw extra uc

def lookKO (env : Env) (n : Nat) (q : Query) (raw : Str) (extra : Extra) (input : Option Val) (uc : Bool)
    (a : OW × Option EState) : OW × Outcome :=
  if a.1.starved then (a.1, .unmodelled) else
    match a.2 with
    | some st => (a.1, .st st)
    | none => evalMissO env n a.1 q raw extra input uc

theorem evalQO_succ (env : Env) (n : Nat) (w : OW) (q : Query) (raw : Str) (extra : Extra) (input : Option Val)
    (uc : Bool) :
    evalQO env (n+1) w q raw extra input uc =
      lookKO env n q raw extra input uc (w.askIf (extra.isEmpty && input.isNone && uc) (q.encode Gen.escapeTable)) := by
  rw [evalQO]
  unfold OW.askIf lookKO
  generalize (if (extra.isEmpty && input.isNone && uc) = true then w.ask (q.encode Gen.escapeTable) else (w, none)) = a
  rcases a with ⟨w', hit⟩
  dsimp only
  generalize w'.starved = sv
  cases sv
  · cases hit with
    | some st => rfl
    | none =>
      rw [if_neg Bool.false_ne_true, if_neg Bool.false_ne_true]
      dsimp only [evalMissO]
      split
      · rfl
      · next hres =>
        have hr : q.isRes = false := by
          unfold Query.isRes; split
          · exact absurd rfl (hres _ _ _)
          · rfl
        rw [hr, if_neg Bool.false_ne_true]
        unfold evalPreO Query.preParent Query.preQ Query.preRem OW.metaIf
        generalize q.predecessor = pr
        cases pr with
        | none => rfl
        | some pr =>
          rcases pr with ⟨p, r⟩
          dsimp only
          generalize p.segments.isEmpty = e
          cases e
          · rw [if_neg Bool.false_ne_true, if_neg Bool.false_ne_true]
            dsimp only
            generalize evalQO env n _ p _ .none input uc = rec
            rcases rec with ⟨w1, o⟩
            cases o <;> rfl
          · rfl
  · rfl

end Liquer
