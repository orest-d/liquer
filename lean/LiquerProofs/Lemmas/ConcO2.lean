/-
Frame facts of the oracle evaluator: the trace only grows; the `get`s of the trace are accounted for by the answers consumed
(`WFO`: against the full answer list `A0`, a world that is not starved has consumed exactly as many answers as it asked, a
starved one has asked more than there are); and once a `get` starves, the evaluation returns `unmodelled`.
-/
import LiquerProofs.Lemmas.ConcTwin

namespace Liquer

def COp.key? : COp → Option Str
  | .get k => some k
  | _ => none

def gets (tr : List COp) : List Str := tr.filterMap COp.key?

@[simp] theorem gets_nil : gets [] = [] := rfl
@[simp] theorem gets_append (a b : List COp) : gets (a ++ b) = gets a ++ gets b := by simp [gets]
@[simp] theorem gets_get (k : Str) : gets [.get k] = [k] := rfl
@[simp] theorem gets_storeMeta (k x : Str) : gets [.storeMeta k x] = [] := rfl
@[simp] theorem gets_store (st : EState) : gets [.store st] = [] := rfl
@[simp] theorem gets_remove (k : Str) : gets [.remove k] = [] := rfl

theorem gets_prefix {a b : List COp} (h : a <+: b) : gets a <+: gets b := by
  obtain ⟨c, rfl⟩ := h; simp

/-- against the full answer list `A0`: a world that is not starved has consumed one answer per `get`, a starved one has asked
more often than there are answers -/
def WFO (A0 : List (Option EState)) (w : OW) : Prop :=
  (w.starved = true → A0.length < (gets w.trace).length) ∧
  (w.starved = false → ∃ pre, A0 = pre ++ w.answers ∧ pre.length = (gets w.trace).length)

theorem WFO.init (A : List (Option EState)) : WFO A { answers := A } :=
  ⟨fun h => by simp at h, fun _ => ⟨[], by simp, by simp⟩⟩

@[simp] theorem OW.ask_trace (w : OW) (k : Str) : (w.ask k).1.trace = w.trace ++ [.get k] := by
  unfold OW.ask; split <;> rfl

theorem OW.ask_wfo {A0 : List (Option EState)} {w : OW} (h : WFO A0 w) (k : Str) : WFO A0 (w.ask k).1 := by
  unfold OW.ask
  split
  · next a rest ha =>
    refine ⟨fun hs => ?_, fun hs => ?_⟩
    · have := h.1 hs; simp at this ⊢; omega
    · obtain ⟨pre, h1, h2⟩ := h.2 hs
      exact ⟨pre ++ [a], by simp [h1, ha], by simp [h2]⟩
  · next ha =>
    refine ⟨fun _ => ?_, fun hs => by simp at hs⟩
    cases hs : w.starved
    · obtain ⟨pre, h1, h2⟩ := h.2 hs
      simp [h1, ha, h2]
    · have := h.1 hs; simp; omega

/-- an operation that asks nothing: the trace grows by non-`get`s (or not at all), answers and starvation are untouched -/
def Quiet (w w' : OW) : Prop :=
  (∃ d, w'.trace = w.trace ++ d ∧ gets d = []) ∧ w'.starved = w.starved ∧ w'.answers = w.answers

theorem Quiet.refl (w : OW) : Quiet w w := ⟨⟨[], by simp, rfl⟩, rfl, rfl⟩

theorem Quiet.prefix {w w' : OW} (h : Quiet w w') : w.trace <+: w'.trace := by
  obtain ⟨⟨d, e, _⟩, _, _⟩ := h; exact ⟨d, e.symm⟩

theorem Quiet.starved {w w' : OW} (h : Quiet w w') : w'.starved = w.starved := h.2.1

theorem Quiet.wfo {w w' : OW} (h : Quiet w w') {A0 : List (Option EState)} (hw : WFO A0 w) : WFO A0 w' := by
  obtain ⟨⟨d, e, g⟩, s, a⟩ := h
  unfold WFO at hw ⊢
  rw [s, a, e]
  simpa [g] using hw

theorem Quiet.emit (w : OW) (op : COp) (hop : op.key? = none) : Quiet w (w.emit op) := by
  unfold OW.emit
  split
  · exact Quiet.refl w
  · exact ⟨⟨[op], rfl, by simp [gets, hop]⟩, rfl, rfl⟩

theorem Quiet.storeMeta (w : OW) (k x : Str) : Quiet w (w.storeMeta k x) := Quiet.emit w _ rfl
theorem Quiet.store (w : OW) (st : EState) : Quiet w (w.store st) := Quiet.emit w _ rfl
theorem Quiet.remove (w : OW) (k : Str) : Quiet w (w.remove k) := Quiet.emit w _ rfl
theorem Quiet.log (w : OW) (c : Str) : Quiet w (w.log c) := by
  unfold OW.log; split
  · exact Quiet.refl w
  · exact ⟨⟨[], by simp, rfl⟩, rfl, rfl⟩
theorem Quiet.metaIf (w : OW) (uc : Bool) (k x : Str) : Quiet w (w.metaIf uc k x) := by
  cases uc
  · exact Quiet.refl w
  · exact Quiet.storeMeta w k x

theorem Quiet.logCall (w : OW) (st sig args) : Quiet w (w.logCall st sig args) := by
  unfold OW.logCall; split
  · exact Quiet.refl w
  · exact Quiet.log w _

theorem Quiet.subWO (uc raw o) (w : OW) : Quiet w (subWO uc raw o w) := by
  unfold Liquer.subWO; split
  · exact Quiet.metaIf _ _ _ _
  · exact Quiet.metaIf _ _ _ _
  · exact Quiet.refl w

theorem Quiet.admitWO (uc key st3) (w : OW) : Quiet w (admitWO uc key st3 w) := by
  unfold Liquer.admitWO; split
  · exact Quiet.refl w
  · split
    · exact Quiet.store _ _
    · split
      · exact Quiet.storeMeta _ _ _
      · exact Quiet.remove _ _

/-- the frame of one evaluation with result `r` (`u` is the `unmodelled` result of its type): the trace grows, the accounting
is kept, and an evaluation that starves returns `u` -/
def OkO {α : Type} (u : α) (w : OW) (r : OW × α) : Prop :=
  w.trace <+: r.1.trace ∧ (∀ A0, WFO A0 w → WFO A0 r.1) ∧ (w.starved = false → r.1.starved = true → r.2 = u)

theorem OkO.ret {α : Type} (u : α) (w : OW) (o : α) : OkO u w (w, o) :=
  ⟨List.prefix_refl _, fun _ h => h, fun h1 h2 => by simp_all⟩

theorem OkO.prefix {α : Type} {u : α} {w : OW} {r : OW × α} (h : OkO u w r) : w.trace <+: r.1.trace := h.1

theorem OkO.wfo {α : Type} {u : α} {w : OW} {r : OW × α} (h : OkO u w r) {A0 : List (Option EState)} (hw : WFO A0 w) :
    WFO A0 r.1 := h.2.1 A0 hw

theorem OkO.after_quiet {α : Type} {u : α} {w w1 : OW} {r : OW × α} (h : Quiet w w1) (h2 : OkO u w1 r) : OkO u w r :=
  ⟨h.prefix.trans h2.1, fun A0 hw => h2.2.1 A0 (h.wfo hw), fun h1 hs => h2.2.2 (by rw [h.starved]; exact h1) hs⟩

theorem OkO.ns {α : Type} {u : α} {w w1 : OW} {o1 : α} (h : OkO u w (w1, o1)) (hs : w.starved = false) (ho : o1 ≠ u) :
    w1.starved = false := by
  cases h1 : w1.starved
  · rfl
  · exact absurd (h.2.2 hs h1) ho

theorem OkO.bind {α β : Type} {u : α} {u' : β} {w : OW} {r : OW × α} (kO : OW × α → OW × β) (h1 : OkO u w r)
    (h2 : OkO u' r.1 (kO r)) (hu : r.1.starved = true → kO (r.1, u) = (r.1, u')) : OkO u' w (kO r) := by
  refine ⟨h1.1.trans h2.1, fun A0 hw => h2.2.1 A0 (h1.2.1 A0 hw), fun hs hs2 => ?_⟩
  cases h : r.1.starved
  · exact h2.2.2 h hs2
  · have e : r = (r.1, u) := Prod.ext rfl (h1.2.2 hs h)
    rw [e, hu h]

theorem OW.ask_ok (w : OW) (k : Str) : OkO none w (w.ask k) := by
  refine ⟨by simp, fun _ h => OW.ask_wfo h k, fun hs hs2 => ?_⟩
  unfold OW.ask at hs2 ⊢
  split
  · next ha => rw [ha] at hs2; exact absurd hs2 (by simp [hs])
  · rfl

theorem Twin.frame {α : Type} {u : α} {f : World → World × α} {fO : OW → OW × α} (h : Twin u f fO) :
    ∀ w, OkO u w (fO w) := by
  induction h with
  | ret u o => exact fun w => OkO.ret u w o
  | emit op hk _ _ ih =>
    exact fun w => OkO.after_quiet (Quiet.emit w op (by cases op <;> first | rfl | exact absurd rfl (hk _))) (ih _)
  | log c _ ih => exact fun w => OkO.after_quiet (Quiet.log w c) (ih _)
  | ask k => exact fun w => w.ask_ok k
  | bind k kO _ _ hu ih1 ih2 => exact fun w => OkO.bind kO (ih1 w) (ih2 _ _) (hu _)
  | guard _ ih =>
    intro w
    dsimp only
    split
    · exact OkO.ret _ _ _
    · exact ih w

structure FrameAtO (env : Env) (n : Nat) : Prop where
  text : ∀ w t ug, OkO .unmodelled w (evalTextO env n w t ug)
  q : ∀ w q raw extra input uc, OkO .unmodelled w (evalQO env n w q raw extra input uc)
  act : ∀ w st a raw parent extra uc, OkO .unmodelled w (evalActionO env n w st a raw parent extra uc)
  params : ∀ w ps raw parent, OkO (.inr .unmodelled) w (evalParamsO env n w ps raw parent)

theorem frameO (env : Env) (n : Nat) : FrameAtO env n where
  text := fun w t ug => ((twin env n).text t ug).frame w
  q := fun w q raw extra input uc => ((twin env n).q q raw extra input uc).frame w
  act := fun w st a raw parent extra uc => ((twin env n).act st a raw parent extra uc).frame w
  params := fun w ps raw parent => ((twin env n).params ps raw parent).frame w

end Liquer
