/-
The cache combinators preserve simulation: if the parts refine their specifications, the combination
refines the combination of the specifications (congruence), for every history.
-/
import LiquerProofs.Lemmas.CacheKV

namespace Liquer

theorem no_sim : CSim noCOps noCOps (fun _ _ => True) (fun _ _ => True) := by
  intro s t op _ _
  exact ⟨trivial, by cases op <;> exact outEq_refl _⟩

theorem proxy_sim {σ τ : Type} {C : CacheOps σ} {S : CacheOps τ} {R : σ → τ → Prop} {ok : τ → CacheOp → Prop}
    (sim : CSim C S R ok) : CSim (proxyCOps C) (proxyCOps S) R ok := by
  intro s t op hr hp
  have := sim s t op hr hp
  cases op <;> exact this

section cong
variable {α β α' β' : Type} {A : CacheOps α} {B : CacheOps β} {SA : CacheOps α'} {SB : CacheOps β'}
variable {RA : α → α' → Prop} {RB : β → β' → Prop} {p : CacheOp → Prop}

/-- the condition on operations does not see the state: in `store` both parts run on the state their own `remove` left,
which is not the state the combination's condition was checked on -/
theorem combine_sim (simA : CSim A SA RA (fun _ => p)) (simB : CSim B SB RB (fun _ => p))
    (hrem : ∀ k, p (.remove k)) :
    CSim (combineOps A B) (combineOps SA SB) (fun s t => RA s.1 t.1 ∧ RB s.2 t.2) (fun _ => p) := by
  intro s t op ⟨ha, hb⟩ hp
  obtain ⟨h1, e1⟩ := simA s.1 t.1 op ha hp
  obtain ⟨h2, e2⟩ := simB s.2 t.2 op hb hp
  cases op with
  | get k =>
    dsimp only [CacheOps.step, combineOps]
    rw [CacheOut.state.inj e1]
    cases SA.get t.1 k |>.2 with
    | some v => exact ⟨⟨h1, hb⟩, outEq_refl _⟩
    | none => exact ⟨⟨h1, h2⟩, e2⟩
  | getMeta k =>
    dsimp only [CacheOps.step, combineOps]
    rw [CacheOut.metadata.inj e1]
    cases SA.getMeta t.1 k |>.2 with
    | some v => exact ⟨⟨h1, hb⟩, outEq_refl _⟩
    | none => exact ⟨⟨h1, h2⟩, e2⟩
  | contains k =>
    dsimp only [CacheOps.step, combineOps]
    rw [CacheOut.bool.inj e1]
    cases SA.contains t.1 k |>.2 with
    | true => exact ⟨⟨h1, hb⟩, outEq_refl _⟩
    | false => exact ⟨⟨h1, h2⟩, e2⟩
  | storeMeta m =>
    dsimp only [CacheOps.step, combineOps]
    rw [CacheOut.bool.inj e1]
    cases SA.storeMeta t.1 m |>.2 with
    | true => exact ⟨⟨h1, hb⟩, outEq_refl _⟩
    | false => exact ⟨⟨h1, h2⟩, e2⟩
  | remove k =>
    dsimp only [CacheOps.step, combineOps]
    rw [CacheOut.bool.inj e1, CacheOut.bool.inj e2]
    exact ⟨⟨h1, h2⟩, outEq_refl _⟩
  | keys => exact ⟨⟨h1, h2⟩, outEq_keys.2 ((outEq_keys.1 e1).append (outEq_keys.1 e2))⟩
  | clean => exact ⟨⟨h1, h2⟩, outEq_refl _⟩
  | store st =>
    -- both parts first forget the key
    have h1 : RA (A.remove s.1 st.metadata.query).1 (SA.remove t.1 st.metadata.query).1 := (simA _ _ (.remove _) ha (hrem _)).1
    have h2 : RB (B.remove s.2 st.metadata.query).1 (SB.remove t.2 st.metadata.query).1 := (simB _ _ (.remove _) hb (hrem _)).1
    obtain ⟨h3, e3⟩ := simA _ _ (.store st) h1 hp
    obtain ⟨h4, e4⟩ := simB _ _ (.store st) h2 hp
    dsimp only [CacheOps.step, combineOps]
    rw [CacheOut.res.inj e3]
    cases (SA.store (SA.remove t.1 st.metadata.query).1 st).2 with
    | true => exact ⟨⟨h3, h2⟩, outEq_refl _⟩
    | false => exact ⟨⟨h3, h4⟩, e4⟩
    | none => exact ⟨⟨h3, h4⟩, e4⟩

theorem guard_sim (g : CMeta → Bool) (simA : CSim A SA RA (fun _ => p)) (hrem : ∀ k, p (.remove k)) :
    CSim (guardOps g A) (guardOps g SA) RA (fun _ => p) := by
  intro s t op ha hp
  cases op with
  | storeMeta m =>
    dsimp only [CacheOps.step, guardOps]
    split
    · exact simA s t (.storeMeta m) ha hp
    · exact ⟨(simA s t (.remove m.query) ha (hrem _)).1, outEq_refl _⟩
  | store st =>
    have h1 := (simA s t (.remove st.metadata.query) ha (hrem _)).1
    dsimp only [CacheOps.step, guardOps]
    split
    · exact simA _ _ (.store st) h1 hp
    · exact ⟨h1, outEq_refl _⟩
  | _ => exact simA s t _ ha hp  -- every other operation is forwarded

end cong

end Liquer
