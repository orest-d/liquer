/-
Consequences of the refinement theorem in the forms the property files use: instances of the closure
hypothesis, sufficient conditions for `CanonOK`, observational transparency, `Sound` along histories,
"never retrievable" for failed / volatile / cache-disabled keys.
-/
import LiquerProofs.Lemmas.EvalRefine
import LiquerProofs.Lemmas.EvalPlain

namespace Liquer

theorem Closed.univ (env : Env) : Closed env (fun _ => True) (fun _ => True) where
  pred := fun _ _ _ _ _ _ => trivial
  act := fun _ _ _ _ _ _ => ⟨fun _ _ _ => ⟨fun _ => trivial, fun _ _ _ _ _ _ _ _ => trivial⟩, fun _ _ _ _ _ _ _ _ _ => trivial⟩
  text := fun _ _ _ _ => trivial

/-- only `sub` sub-evaluates -/
theorem SubIn.of_name (env : Env) (T : Str → Prop) {a : Action} (h : a.name ≠ s "sub") : SubIn env T a :=
  fun _ _ hr _ _ _ _ _ hc => (cmdSem_ne_subeval (by rw [resolve_name hr]; exact h) hc).elim

/-- a link-free, `sub`-free action needs nothing of the classes -/
theorem plain_act (env : Env) (C : Query → Prop) (T : Str → Prop) (parent : Str) {a : Action} (ha : a.plain = true) :
    LinksIn env C T parent a.params ∧ SubIn env T a := by
  simp only [Action.plain, Bool.and_eq_true, bne_iff_ne, ne_eq, List.all_eq_true] at ha
  refine ⟨fun lq pos hm => ?_, SubIn.of_name env T ha.1⟩
  have := ha.2 _ hm; simp [Param.isStr] at this

theorem Outcome.good_st {o : Outcome} (h : o.good) : ∃ a, o = .st a ∧ a.isError = false := by
  cases o <;> simp [Outcome.good] at h; exact ⟨_, rfl, h⟩

/-- the same-fuel form of the canonical-text hypothesis (as C02 provides it) implies the form used here.

A term of type `CanonSame env q` is applied with `@` here and wherever it is used, and to the fuel alone until the
runs have been rewritten to their results: otherwise the elaborator, looking for trailing implicit arguments or
for the shape of the resulting type, evaluates the head of `Outcome.sim (refText env (fuel + 1) _).1 _`, that is,
the parser on the canonical text. -/
theorem CanonOK.of_same {env : Env} {q : Query} (h : CanonSame env q) : CanonOK env q := by
  constructor
  · intro fuel st c hrt he
    cases fuel with
    | zero => rw [refText_zero] at hrt; cases hrt
    | succ fuel =>
      have hs := @h fuel
      rw [hrt] at hs
      obtain ⟨b, hb, hcore⟩ := Outcome.sim_st_left (hs (Or.inl he))
      exact ⟨fuel, b, _, Prod.ext hb rfl, hcore⟩
  · intro fuel st c hrq he
    have hs := @h fuel
    rw [hrq] at hs
    rcases hr : refText env (fuel+1) (q.encode Gen.escapeTable) with ⟨o, c'⟩
    rw [hr] at hs
    obtain ⟨b, hb, hcore⟩ := Outcome.sim_st_left (Outcome.sim_symm (hs (Or.inr he)))
    exact ⟨fuel+1, b, c', by rw [hr, show o = .st b from hb], hcore⟩

theorem evalQ_refines {env : Env} {C : Query → Prop} {T : Str → Prop} (hC : Closed env C T)
    (hcanon : ∀ q, C q → CanonOK env q) (n : Nat) (w : World) (q : Query) (raw : Str) (extra : Extra)
    (input : Option Val) (uc : Bool) (hS : Sound env w) (hCq : C q) (huc : uc = true → input = none) :
    Sound env (evalQ env n w q raw extra input uc).1 ∧
    ((evalQ env n w q raw extra input uc).2 ≠ .unmodelled →
      ∃ m c', (evalQ env n w q raw extra input uc).1.calls = w.calls ++ c' ∧
        c'.Sublist (refQ env m q raw extra input).2 ∧
        Outcome.sim (evalQ env n w q raw extra input uc).2 (refQ env m q raw extra input).1) :=
  (refines hC hcanon n).q w q raw extra input uc hS hCq huc

theorem evalText_refines {env : Env} {C : Query → Prop} {T : Str → Prop} (hC : Closed env C T)
    (hcanon : ∀ q, C q → CanonOK env q) (n : Nat) (w : World) (t : Str) (ug : Bool) (hS : Sound env w) (hT : T t) :
    Sound env (evalText env n w t ug).1 ∧
    ((evalText env n w t ug).2 ≠ .unmodelled →
      ∃ m c', (evalText env n w t ug).1.calls = w.calls ++ c' ∧ c'.Sublist (refText env m t).2 ∧
        Outcome.sim (evalText env n w t ug).2 (refText env m t).1) :=
  (refines hC hcanon n).text w t ug hS hT

/-- transparency against *every* modelled run of the reference interpretation -/
theorem evalQ_obs {env : Env} {C : Query → Prop} {T : Str → Prop} (hC : Closed env C T)
    (hcanon : ∀ q, C q → CanonOK env q) (n m : Nat) (w : World) (q : Query) (raw : Str) (extra : Extra)
    (input : Option Val) (uc : Bool) (hS : Sound env w) (hCq : C q) (huc : uc = true → input = none)
    (he : (evalQ env n w q raw extra input uc).2 ≠ .unmodelled)
    (hr : (refQ env m q raw extra input).1 ≠ .unmodelled) :
    (evalQ env n w q raw extra input uc).2.obs = (refQ env m q raw extra input).1.obs := by
  obtain ⟨m', c', _, _, hsim⟩ := (evalQ_refines hC hcanon n w q raw extra input uc hS hCq huc).2 he
  rw [Outcome.sim_obs hsim, refQ_det env q raw extra input (Outcome.sim_ne_unmodelled hsim he) hr]

/-- the queries and texts of a history operation are in the classes -/
def HistOp.ok (C : Query → Prop) (T : Str → Prop) : HistOp → Prop
  | .eval q _ => C q
  | .text t => T t
  | .evalOn q _ _ => C q
  | .evalExtra q _ _ => C q
  | .remove _ => True
  | .clean => True

theorem stepHist_sound {env : Env} {C : Query → Prop} {T : Str → Prop} (hC : Closed env C T)
    (hcanon : ∀ q, C q → CanonOK env q) (fuel : Nat) (w : World) (op : HistOp) (hS : Sound env w)
    (hop : op.ok C T) : Sound env (stepHist env fuel w op) := by
  cases op with
  | eval q raw => exact (evalQ_refines hC hcanon fuel w q raw .none none true hS hop (fun _ => rfl)).1
  | text t => exact (evalText_refines hC hcanon fuel w t true hS hop).1
  | evalOn q raw v => exact (evalQ_refines hC hcanon fuel w q raw .none v false hS hop (fun h => by simp at h)).1
  | evalExtra q raw e => exact (evalQ_refines hC hcanon fuel w q raw e none true hS hop (fun _ => rfl)).1
  | remove k => exact hS.remove k
  | clean => exact Sound.clean w

theorem runHist_sound {env : Env} {C : Query → Prop} {T : Str → Prop} (hC : Closed env C T)
    (hcanon : ∀ q, C q → CanonOK env q) (fuel : Nat) (h : List HistOp) :
    ∀ w, Sound env w → (∀ op ∈ h, op.ok C T) → Sound env (runHist env fuel w h) := by
  induction h with
  | nil => intro w hS _; exact hS
  | cons op h ih =>
    intro w hS hok
    exact ih _ (stepHist_sound hC hcanon fuel w op hS (hok op (List.mem_cons_self ..)))
      (fun op' hm => hok op' (List.mem_cons_of_mem _ hm))

/-- C05: in a sound world, a key whose fresh evaluation fails, is volatile or has caching switched off holds no
data (visible or hidden) -/
theorem Sound.no_data_of_bad {env : Env} {w : World} (hS : Sound env w) {k : Str} {fuel : Nat} {s : EState}
    {c : List Str} (href : refText env fuel k = (.st s, c))
    (hbad : s.isError = true ∨ s.volatile = true ∨ s.caching = false) : w.dataAt k = none := by
  cases hd : w.dataAt k with
  | none => rfl
  | some st =>
    obtain ⟨fuel', st', c', hrt, he, hv, hc, _⟩ := hS k st hd
    have := refText_det env k (m := fuel) (m' := fuel') (by rw [href]; simp) (by rw [hrt]; simp)
    rw [href, hrt] at this
    simp only [Prod.mk.injEq, Outcome.st.injEq] at this
    rw [this.1] at hbad
    simp [he, hv, hc] at hbad

/-- … and a key whose text does not parse, or whose evaluation raises, neither -/
theorem Sound.no_data_of_not_st {env : Env} {w : World} (hS : Sound env w) {k : Str} {fuel : Nat}
    (hne : (refText env fuel k).1 ≠ .unmodelled) (hns : ∀ s, (refText env fuel k).1 ≠ .st s) : w.dataAt k = none := by
  cases hd : w.dataAt k with
  | none => rfl
  | some st =>
    obtain ⟨fuel', st', c', hrt, _⟩ := hS k st hd
    have := refText_det env k (m := fuel) (m' := fuel') hne (by rw [hrt]; simp)
    rw [hrt] at this
    exact absurd (by rw [this]) (hns st')

end Liquer
