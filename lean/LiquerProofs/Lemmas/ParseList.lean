/-
Parameters (strings and links), dash-separated parameter lists and actions.

From here on every lemma about a nonterminal has the same shape: the nonterminal, run on the printed
text of `x` followed by a text `rest` from its follow set, returns `x` up to positions and leaves `rest`.
Links are handled through the hypothesis `LinkIH`, an induction on the fuel.
-/
import LiquerProofs.Lemmas.ParseDefs

namespace Liquer
open PS

/-- the round trip of every well-formed link query on less fuel than `N` -/
def LinkIH (dec : List UInt8 → List Char) (N : Nat) : Prop :=
  ∀ q : Query, wfInner q = true → ∀ (rest : Str) (p n : Nat), n < N →
    NoWs (q.encode T ++ rest) → qStop rest → 8 * (q.encode T).length + 9 ≤ n →
    ∃ q' p', parseQuery dec n ⟨q.encode T ++ rest, p⟩ = some (q', ⟨rest, p'⟩) ∧ q'.erase = q.erase

variable {dec : List UInt8 → List Char}

/-- fuel `n` suffices for a nonterminal of grammar level `k` on a text of length `L`, and is within the range
`N` of the induction hypothesis. Levels, in the order in which the mutual functions call each other on the
same text: query 9, `ZeroOrMore("/" segment)` 8, segment 7, segment with header / resource segment 6, action
path 5, `ZeroOrMore(action "/")` 4, action 3, `ZeroOrMore("-" parameter)` 2, parameter 1. A call costs one
unit; what goes on behind a consumed character (next loop iteration, query inside a link) may be up to 7
levels higher, hence the factor 8.
`parse` supplies `parseFuel = 8 * length + 16`, enough for level 9 (`parse_query`) and level 6 behind a
resource path (`resource_transform_query`). -/
def Fuel (k L n N : Nat) : Prop := 8 * L + k ≤ n ∧ n ≤ N

theorem Fuel.pos {k L n N : Nat} (h : Fuel (k + 1) L n N) : ∃ m, n = m + 1 := by
  cases n with
  | zero => exact absurd h.1 (Nat.not_succ_le_zero _)
  | succ m => exact ⟨m, rfl⟩

theorem Fuel.sub {L L' k k' n N : Nat} (h : Fuel k L (n + 1) N) (hL : L' ≤ L) (hk : k' < k) :
    Fuel k' L' n N :=
  ⟨by have := h.1; omega, Nat.le_of_succ_le h.2⟩

theorem Fuel.next {L L' k k' n N : Nat} (h : Fuel k L (n + 1) N) (hL : L' < L) (hk : k' ≤ k + 7) :
    Fuel k' L' n N :=
  ⟨by have := h.1; omega, Nat.le_of_succ_le h.2⟩

theorem param_spec (hd : DecOK dec) {N : Nat} (ih : LinkIH dec N) (x : Param)
    (hwf : wfParam x = true) (rest : Str) (hs : pieceStop rest = true)
    (hws : NoWs (x.encode T ++ rest)) (p n : Nat) (hn : Fuel 1 (x.encode T).length n N) :
    ∃ x' p', parseParameter dec n ⟨x.encode T ++ rest, p⟩ = some (x', ⟨rest, p'⟩) ∧
      x'.erase = x.erase := by
  obtain ⟨n, rfl⟩ := hn.pos
  cases x with
  | str s pos =>
    obtain ⟨p', hp'⟩ := parseParameter_str hd s rest hs hws.right p n
    exact ⟨_, p', hp', rfl⟩
  | link q pos =>
    simp only [Param.encode, List.length_append, List.length_cons, List.length_nil] at hn
    have e : (Param.link q pos).encode T ++ rest =
        ['~', 'X', '~'] ++ (q.encode T ++ ('~' :: 'E' :: rest)) := by simp [Param.encode]
    rw [e] at hws ⊢
    obtain ⟨q', p1, hq, he⟩ := ih q hwf ('~' :: 'E' :: rest) (p + 3) n hn.2 hws.right
      (Or.inr ⟨rest, rfl⟩) (by have := hn.1; omega)
    have hclose : lit Gen.linkClose ⟨'~' :: 'E' :: rest, p1⟩ = some ⟨rest, p1 + 2⟩ := by
      rw [Inst.link_shape.2]
      exact lit_append (l := ['~', 'E']) hws.right.right
    have hopen : lit Gen.linkOpen ⟨['~', 'X', '~'] ++ (q.encode T ++ ('~' :: 'E' :: rest)), p⟩ =
        some ⟨q.encode T ++ ('~' :: 'E' :: rest), p + 3⟩ := by
      rw [Inst.link_shape.1]
      exact lit_append hws
    refine ⟨.link q' p, p1 + 2, ?_, by simp [Param.erase, he]⟩
    simp only [parseParameter, skipWs_noWs hws, hopen, hq, hclose]

theorem parseDashes_cons {y : Str} {p : Nat} (hws : NoWs ('-' :: y)) (hy : y.head? ≠ some '-') :
    parseDashes ⟨'-' :: y, p⟩ = some ⟨y, p + 1⟩ := by
  have := takeWhile_dash_replicate 1 y hy
  simp only [List.replicate_one, List.singleton_append] at this
  simp [parseDashes, skipWs_noWs hws, this]

theorem parseDashes_none {y : Str} {p : Nat} (hws : NoWs y) (hy : y.head? ≠ some '-') :
    parseDashes ⟨y, p⟩ = none := by
  have := takeWhile_dash_replicate 0 y hy
  simp only [List.replicate_zero, List.nil_append] at this
  simp [parseDashes, skipWs_noWs hws, this]

theorem param_noDash (hd : DecOK dec) (x : Param) (rest' : Str)
    (h : ∀ pos, x = .str [] pos → rest'.head? ≠ some '-') :
    (x.encode T ++ rest').head? ≠ some '-' := by
  cases x with
  | link q pos => simp [Param.encode]
  | str s pos =>
    by_cases hs : s = []
    · subst hs
      simpa [Param.encode, encodeToken_nil] using h pos rfl
    · exact head?_append_ne (encodeToken_ne_nil hd hs) (dash_not_mem_encodeToken s)

theorem resParamsOK_tail {x : Param} {ps : List Param} (h : resParamsOK (x :: ps) = true) :
    resParamsOK ps = true := by
  cases ps with
  | nil => rfl
  | cons y ys =>
    cases x with
    | str s pos => simp only [resParamsOK, Bool.and_eq_true] at h; exact h.2
    | link q pos => simpa only [resParamsOK] using h

theorem resParamsOK_empty {pos : Nat} {ps : List Param} (h : resParamsOK (.str [] pos :: ps) = true) :
    ps = [] := by
  cases ps with
  | nil => rfl
  | cons y ys => simp [resParamsOK] at h

theorem pieceStop_dashParams (ps : List Param) {rest : Str} (hs : dpStop rest) :
    pieceStop (encodeDashParams T ps ++ rest) = true := by
  cases ps with
  | nil => exact pieceStop_of_dpStop hs
  | cons y ys => exact pieceStop_dash _

/-- `ZeroOrMore("-" + parameter)`; `wide` = the `Word("-")` separator of resource headers -/
theorem dashParams_spec (hd : DecOK dec) {N : Nat} (ih : LinkIH dec N) (wide : Bool) :
    ∀ (ps : List Param), wfParams ps = true → (wide = true → resParamsOK ps = true) →
      ∀ (rest : Str), dpStop rest → ∀ (p n : Nat), NoWs (encodeDashParams T ps ++ rest) →
      Fuel 2 (encodeDashParams T ps).length n N →
      ∃ ps' p', parseDashParams dec wide n ⟨encodeDashParams T ps ++ rest, p⟩ = (ps', ⟨rest, p'⟩) ∧
        eraseParams ps' = eraseParams ps := by
  intro ps
  induction ps with
  | nil =>
    intro _ _ rest hs p n hws _
    simp only [encodeDashParams, List.nil_append] at hws ⊢
    refine ⟨[], p, ?_, rfl⟩
    cases n with
    | zero => rfl
    | succ n =>
      cases wide with
      | true => simp [parseDashParams, parseDashes_none hws hs.noDash]
      | false => simp [parseDashParams, lit_ne_head hws hs.noDash]
  | cons x ps ihps =>
    intro hwf hres rest hs p n hws hn
    simp only [wfParams, Bool.and_eq_true] at hwf
    simp only [encodeDashParams, List.length_cons, List.length_append] at hn
    have e : encodeDashParams T (x :: ps) ++ rest = '-' :: (x.encode T ++ (encodeDashParams T ps ++ rest)) := by
      simp [encodeDashParams]
    rw [e] at hws ⊢
    obtain ⟨n, rfl⟩ := hn.pos
    have hsep : (if wide = true then parseDashes ⟨'-' :: (x.encode T ++ (encodeDashParams T ps ++ rest)), p⟩
        else lit ['-'] ⟨'-' :: (x.encode T ++ (encodeDashParams T ps ++ rest)), p⟩) =
        some ⟨x.encode T ++ (encodeDashParams T ps ++ rest), p + 1⟩ := by
      cases wide with
      | false => exact lit_cons hws
      | true =>
        -- `Word("-")` must not swallow the dash of the next parameter: `resParamsOK`
        refine parseDashes_cons hws (param_noDash hd x _ ?_)
        rintro pos rfl
        cases resParamsOK_empty (hres rfl)
        exact hs.noDash
    obtain ⟨x', p1, hx, hxe⟩ := param_spec hd ih x hwf.1 (encodeDashParams T ps ++ rest)
      (pieceStop_dashParams ps hs) hws.tail (p + 1) n
      (hn.sub (Nat.le_succ_of_le (Nat.le_add_right _ _)) (by decide))
    obtain ⟨ps', p2, hps, hpe⟩ := ihps hwf.2 (fun hw => resParamsOK_tail (hres hw)) rest hs p1 n
      hws.tail.right (hn.next (Nat.lt_succ_of_le (Nat.le_add_left _ _)) (by decide))
    refine ⟨x' :: ps', p2, ?_, by simp [eraseParams, hxe, hpe]⟩
    simp only [parseDashParams, hsep, hx, hps]

theorem action_spec (hd : DecOK dec) {N : Nat} (ih : LinkIH dec N) (a : Action)
    (hwf : wfAction a = true) (rest : Str) (hs : dpStop rest) (p n : Nat)
    (hws : NoWs (a.encode T ++ rest)) (hn : Fuel 3 (a.encode T).length n N) :
    ∃ a' p', parseAction dec n ⟨a.encode T ++ rest, p⟩ = some (a', ⟨rest, p'⟩) ∧ a'.erase = a.erase := by
  obtain ⟨name, ps, pos⟩ := a
  simp only [wfAction, Bool.and_eq_true] at hwf
  simp only [Action.encode, List.length_append] at hn
  have e : (Action.mk name ps pos).encode T ++ rest = name ++ (encodeDashParams T ps ++ rest) := by
    simp [Action.encode]
  rw [e] at hws ⊢
  obtain ⟨n, rfl⟩ := hn.pos
  have hid := re_identifier (p := p) hwf.1 (pieceStop_dashParams ps hs) hws
  obtain ⟨ps', p2, hps, hpe⟩ := dashParams_spec hd ih false ps hwf.2 (by simp) rest hs
    (p + name.length) n hws.right (hn.sub (Nat.le_add_left _ _) (by decide))
  refine ⟨.mk name ps' p, p2, ?_, by simp [Action.erase, hpe]⟩
  simp only [parseAction, skipWs_noWs hws, hid, hps]

end Liquer
