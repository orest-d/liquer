/-
C16, flat cache directory (`FileCache`, `XORFileCache`, `FernetFileCache`): what every crash point of
`store`, `store_metadata`, `remove` leaves readable.  The metadata file is the switch: while it is absent the key is a
miss, `remove` (and so `store`) unlinks it first, `store` publishes it last.
-/
import LiquerProofs.Lemmas.CrashGen

namespace Liquer
namespace Crash

/-- the laws the codec parameters are assumed to satisfy: decoders accept complete payloads
(nothing is assumed about what they do with anything else) -/
structure CodecOK (c : FileCfg) : Prop where
  dec_enc : ∀ b, c.dec (c.enc b) = some b
  deM_serM : ∀ m, c.deM (c.serM m) = some m
  deD_serD : ∀ t v, c.deD t (c.serD t v) = some v

/-- the same, only for the two payloads of one state (what the crash theorems need) -/
structure CodecAt (c : FileCfg) (st : CState) : Prop where
  metaOK : (c.dec (c.enc (c.serM { st.metadata with status := ready }))).bind c.deM = some { st.metadata with status := ready }
  dataOK : (c.dec (c.enc (c.serD st.metadata.typeId st.data))).bind (c.deD st.metadata.typeId) = some st.data

theorem CodecOK.at {c : FileCfg} (ok : CodecOK c) (st : CState) : CodecAt c st :=
  ⟨by simp [ok.dec_enc, ok.deM_serM], by simp [ok.dec_enc, ok.deD_serD]⟩

/-- the flat directory as a function from names to contents: `mkdir` does nothing, every content is a file -/
theorem specC : Spec execC AL.get id (· ++ ·) id where
  get_exec d s q := by
    cases s with
    | mkdir p => simp only [execC, stepGet, id]; split <;> simp [*]
    | close p => rfl
    | create p => simp only [execC, stepGet, AL.get_set, beq_iff_eq, id]
    | unlink p => simp only [execC, stepGet, AL.get_erase, beq_iff_eq]
    | append p b =>
      simp only [execC, stepGet]
      cases h : AL.get d p with
      | none =>
        dsimp only [Option.map]
        split
        · next e => exact e ▸ h
        · rfl
      | some x => simp only [AL.get_set, beq_iff_eq, Option.map_some]
    | rename a b =>
      simp only [execC, stepGet]
      cases AL.get d a with
      | none => rfl
      | some x => simp only [AL.get_set, AL.get_erase, beq_iff_eq]
  app_file _ _ := rfl
  app_nil := List.append_nil
  app_app := List.append_assoc

theorem stepLawsC : StepLaws execC AL.get id := specC.stepLaws

theorem writeFileC_eq (target : FName) (b : Data) : writeFileC target b = writeVia tmpC target b := rfl

theorem readC_congr (c : FileCfg) (d1 d2 : CDir) (k : Str)
    (hs : AL.get d1 (.state (c.h k)) = AL.get d2 (.state (c.h k)))
    (hd : ∀ e, AL.get d1 (.data (c.h k) e) = AL.get d2 (.data (c.h k) e)) : readC c d1 k = readC c d2 k := by
  simp only [readC, FileC.get, FileC.loadMeta, hs, hd]

theorem readC_absent (c : FileCfg) (d : CDir) (k : Str) (hs : AL.get d (.state (c.h k)) = none) : readC c d k = (none, none) := by
  simp only [readC, FileC.get, FileC.loadMeta, hs]

def ofKey (hk : Str) (n : FName) : Bool := n == .state hk || FileC.isDataOf hk n || n == tmpC

/-- the steps of `remove` are unlinks of files of the key -/
theorem removeStepsC_mem (c : FileCfg) (d : CDir) (k : Str) {s : Step FName} (hs : s ∈ removeStepsC c d k) :
    ∃ n, s = .unlink n ∧ ofKey (c.h k) n = true := by
  simp only [removeStepsC, List.mem_append, List.mem_map, List.mem_filter] at hs
  rcases hs with hs | ⟨e, ⟨_, he⟩, rfl⟩
  · split at hs
    · exact ⟨_, List.mem_singleton.1 hs, by simp [ofKey]⟩
    · cases hs
  · exact ⟨_, rfl, by simp [ofKey, he]⟩

theorem removeStepsC_names (c : FileCfg) (d : CDir) (k : Str) : Within (ofKey (c.h k)) (removeStepsC c d k) := by
  intro s hs n hn
  obtain ⟨m, rfl, hm⟩ := removeStepsC_mem c d k hs
  rw [List.mem_singleton.1 hn]; exact hm

theorem writeFileC_names (hk : Str) (target : FName) (b : Data) (ht : ofKey hk target = true) : Within (ofKey hk) (writeFileC target b) :=
  Within.of_writeVia b (by simp [ofKey]) ht

theorem storeStepsC_names (c : FileCfg) (d : CDir) (st : CState) : Within (ofKey (c.h st.metadata.query)) (storeStepsC c d st) :=
  ((removeStepsC_names c d _).append (writeFileC_names _ _ _ (by simp [ofKey, FileC.isDataOf]))).append
    (writeFileC_names _ _ _ (by simp [ofKey]))

/-- a key with another digest reads as before at every crash point -/
theorem frame_of_names (c : FileCfg) (steps : List (Step FName)) (k k' : Str) (hne : c.h k' ≠ c.h k)
    (hnames : Within (ofKey (c.h k)) steps) (n cut : Nat) (d : CDir) :
    readC c (crashAt execC n cut steps d) k' = readC c d k' :=
  readC_congr c _ _ k' (stepLawsC.crashAt_outside hnames (by simp [ofKey, FileC.isDataOf, tmpC, hne]) n cut d)
    fun e => stepLawsC.crashAt_outside hnames (by simp [ofKey, FileC.isDataOf, tmpC, hne]) n cut d

/-- steps that cannot bring `state_<hk>.json` into existence -/
def stateSafe (hk : Str) : Step FName → Bool
  | .create p => p != .state hk
  | .rename _ b => b != .state hk
  | _ => true

theorem absent_execC (hk : Str) (d : CDir) (s : Step FName) (hs : stateSafe hk s = true)
    (h : AL.get d (.state hk) = none) : AL.get (execC d s) (.state hk) = none := by
  by_cases hm : FName.state hk ∈ s.names
  · -- a safe step that mentions the absent file unlinks it or does nothing
    cases s with
    | mkdir p => exact h
    | close p => exact h
    | create p => simp [Step.names, stateSafe] at hm hs; exact absurd hm.symm hs
    | unlink p => rw [List.mem_singleton.1 hm]; exact stepLawsC.unlink d _
    | append p b => rw [← List.mem_singleton.1 hm, execC, h]; exact h
    | rename a b =>
      simp only [Step.names, List.mem_cons, List.not_mem_nil, or_false, stateSafe, bne_iff_ne, ne_eq] at hm hs
      rcases hm with rfl | rfl
      · rw [execC, h]; exact h
      · exact absurd rfl hs
  · rw [stepLawsC.untouched d s _ hm]; exact h

theorem absent_crashAt (hk : Str) (steps : List (Step FName)) (hsafe : ∀ s ∈ steps, stateSafe hk s = true)
    (n cut : Nat) (d : CDir) (h : AL.get d (.state hk) = none) : AL.get (crashAt execC n cut steps d) (.state hk) = none :=
  crashAt_inv execC (fun d' => AL.get d' (.state hk) = none) steps (fun s hs fs hI => absent_execC hk fs s (hsafe s hs) hI)
    (fun _ _ _ _ fs hI => absent_execC hk fs _ rfl hI) n cut d h

theorem writeFileC_safe (hk : Str) (target : FName) (b : Data) (ht : target ≠ .state hk) :
    ∀ s ∈ writeFileC target b, stateSafe hk s = true := by
  intro s hs
  simp only [writeFileC, List.mem_cons, List.not_mem_nil, or_false] at hs
  rcases hs with rfl | rfl | rfl | rfl <;> simp [stateSafe, tmpC, ht]

/-- **a protocol that begins with `remove` and goes on with safe steps**: every crash point reads as before or as a miss -/
theorem remove_then_safe (c : FileCfg) (d : CDir) (k : Str) (rest : List (Step FName))
    (hrest : ∀ s ∈ rest, stateSafe (c.h k) s = true) (n cut : Nat) :
    readC c (crashAt execC n cut (removeStepsC c d k ++ rest) d) k = readC c d k ∨
    readC c (crashAt execC n cut (removeStepsC c d k ++ rest) d) k = (none, none) := by
  have hsafe : ∀ s ∈ removeStepsC c d k ++ rest, stateSafe (c.h k) s = true := by
    intro s hs
    rcases List.mem_append.1 hs with hs | hs
    · obtain ⟨_, rfl, _⟩ := removeStepsC_mem c d k hs; rfl
    · exact hrest s hs
  cases hs : AL.get d (.state (c.h k)) with
  | none => exact Or.inr (readC_absent c _ k (absent_crashAt _ _ hsafe n cut d hs))
  | some x =>
    -- the first step unlinks the metadata file
    obtain ⟨tl, htl⟩ : ∃ tl, removeStepsC c d k ++ rest = .unlink (.state (c.h k)) :: tl := by
      simp only [removeStepsC, hs, Option.isSome_some, if_true]; exact ⟨_, rfl⟩
    rw [htl] at hsafe ⊢
    cases n with
    | zero => exact Or.inl rfl
    | succ n =>
      exact Or.inr (readC_absent c _ k (absent_crashAt _ tl (fun s hs' => hsafe s (List.mem_cons_of_mem _ hs')) n cut _
        (stepLawsC.unlink d _)))

theorem store_final (c : FileCfg) (d : CDir) (st : CState) (ok : CodecAt c st) :
    readC c ((storeStepsC c d st).foldl execC d) st.metadata.query =
      (some { metadata := { st.metadata with status := ready }, data := st.data }, some { st.metadata with status := ready }) := by
  -- each of the two writes touches only `tmpC` and its target; the metadata write comes second
  have hs : AL.get ((storeStepsC c d st).foldl execC d) (.state (c.h st.metadata.query)) =
      some (c.enc (c.serM { st.metadata with status := ready })) := by
    simp [storeStepsC, storeMetaStepsC, writeFileC_eq, stepLawsC.writeVia_final, tmpC]
  have hd : AL.get ((storeStepsC c d st).foldl execC d) (.data (c.h st.metadata.query) (c.ext st.metadata.typeId)) =
      some (c.enc (c.serD st.metadata.typeId st.data)) := by
    simp [storeStepsC, storeMetaStepsC, writeFileC_eq, stepLawsC.writeVia_final, tmpC]
  simp only [readC, FileC.get, FileC.loadMeta, hs, hd, ok.metaOK, ok.dataOK]
  simp [ready]

end Crash
end Liquer
