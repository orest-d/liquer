/-
`StoreCache` over the reference store `specOps` refines the key-value specification on **all** operations —
also `keys()` and `clean()` — for every history, provided the path scheme is injective and prefix-free on the
keys in use (`PathsOK`) **and the cache path does not start with `/`** (`to_path` strips one leading slash,
`keys()` / `clean()` compare store keys with the unstripped `path + "/"`: with such a path `keys()` is empty
and `clean()` removes nothing — `Props/C13.lean`, `storec_unnormalised_false`).

The relation `RSt2` adds to `RSt`: the store holds no two bindings of one key, every *file* of the store is
the entry of a key in use (directories are unconstrained: `keys()` skips them, `clean()` may leave them), the
specification holds no two bindings of one key and files every entry under the `query` of its own metadata.
-/
import LiquerProofs.Lemmas.CacheStoreRef

namespace Liquer

theorem FS.erase_of_get_none (fs : FS) (k : Key) (h : fs.get k = none) : fs.erase k = fs := by
  exact AL.erase_of_get_none h

theorem FS.ND_mkdirs (fs : FS) (ks : List Key) (h : AL.ND fs) : AL.ND (fs.mkdirs ks) :=
  AL.nd_iff_nodup.mpr (FS.nodup_mkdirs ks (AL.nd_iff_nodup.mp h))

/-! `clean()` only drops bindings, and drops every file -/

/-- a store obtained from another by dropping bindings (by key) -/
def FS.IsSub (s' s : FS) : Prop := ∃ q : Key → Bool, s' = s.filter (fun e => q e.1)

theorem FS.IsSub.refl (s : FS) : FS.IsSub s s := ⟨fun _ => true, (List.filter_eq_self.2 (fun _ _ => rfl)).symm⟩

theorem FS.IsSub.trans {a b c : FS} (h1 : FS.IsSub a b) (h2 : FS.IsSub b c) : FS.IsSub a c := by
  obtain ⟨q1, rfl⟩ := h1
  obtain ⟨q2, rfl⟩ := h2
  exact ⟨fun k => q2 k && q1 k, by rw [List.filter_filter]; congr 1; funext e; rw [Bool.and_comm]⟩

theorem FS.IsSub.erase (s : FS) (k : Key) : FS.IsSub (s.erase k) s := ⟨fun x => x != k, rfl⟩

theorem FS.IsSub.get {s' s : FS} (h : FS.IsSub s' s) {p : Key} {n : Node} (hg : s'.get p = some n) : s.get p = some n := by
  obtain ⟨q, rfl⟩ := h
  rw [FS.get_eq_AL, AL.get_filter s q p] at hg
  split at hg
  · exact hg
  · cases hg

theorem FS.IsSub.foldl {α : Type} (f : FS → α → FS) (hf : ∀ st a, FS.IsSub (f st a) st) (l : List α) :
    ∀ st, FS.IsSub (l.foldl f st) st := by
  induction l with
  | nil => exact fun st => FS.IsSub.refl st
  | cons a l ih => exact fun st => (ih (f st a)).trans (hf st a)

namespace StoreC

/-- one step of the first phase of `clean`: a file below the cache path is removed -/
def cleanFile (pre : Str) (st : FS) (key : Key) : FS :=
  if !(okB true (specOps.isDir st key)) && strStartsWith key pre then okB st (specOps.remove st key) else st

theorem cleanFile_sub (pre : Str) (st : FS) (key : Key) : FS.IsSub (cleanFile pre st key) st := by
  unfold cleanFile
  split
  · exact FS.IsSub.erase st key
  · exact FS.IsSub.refl st

/-- the first phase of `clean` leaves no file behind, if every file is below the cache path: a file still there at the end
was there when its key came up (later states only drop bindings), and was removed then -/
theorem foldl_cleanFile_no_file (pre : Str) (l : List Key) : ∀ (st : FS)
    (_ : ∀ p d um, st.get p = some (.file d um) → p.isEmpty = false ∧ strStartsWith p pre = true),
    ∀ p ∈ l, ∀ d um, (l.foldl (cleanFile pre) st).get p ≠ some (.file d um) := by
  induction l with
  | nil => intro _ _ p hp; cases hp
  | cons a l ih =>
    intro st hst p hp d um hg
    rw [List.foldl_cons] at hg
    have hsub := cleanFile_sub pre st a
    rcases List.mem_cons.1 hp with rfl | hp'
    · have h1 := (FS.IsSub.foldl _ (cleanFile_sub pre) l _).get hg
      have h2 := hsub.get h1
      obtain ⟨hne, hpre⟩ := hst p d um h2
      have hcond : (!(okB true (specOps.isDir st p)) && strStartsWith p pre) = true := by
        simp [okB, specOps, FS.isDirB, hne, h2, hpre]
      rw [cleanFile, hcond, if_pos rfl] at h1
      simp only [okB, specOps] at h1
      rw [FS.erase_eq_AL, FS.get_eq_AL, AL.get_erase, if_pos BEq.rfl] at h1
      cases h1
    · exact ih _ (fun p d um h => hst p d um (hsub.get h)) p hp' d um hg

theorem clean_spec (c : StoreCCfg) (fs : FS)
    (hfiles : ∀ p d um, fs.get p = some (.file d um) →
      p.isEmpty = false ∧ strStartsWith p (if c.path.isEmpty then [] else c.path ++ ['/']) = true) :
    FS.IsSub (clean c specOps fs) fs ∧ ∀ p d um, (clean c specOps fs).get p ≠ some (.file d um) := by
  simp only [clean]
  generalize (if c.path.isEmpty then [] else c.path ++ ['/']) = pre at hfiles ⊢
  change let s1 := (okB [] (specOps.keys fs)).foldl (cleanFile pre) fs; _
  intro s1
  have h1 : FS.IsSub s1 fs := FS.IsSub.foldl _ (cleanFile_sub pre) _ _
  have h1f : ∀ p d um, s1.get p ≠ some (.file d um) := fun p d um hg =>
    foldl_cleanFile_no_file pre _ fs hfiles p (AL.mem_keys_of_get (h1.get hg)) d um hg
  -- the second phase removes directories only
  suffices ∀ x, FS.IsSub x s1 → FS.IsSub x fs ∧ ∀ p d um, x.get p ≠ some (.file d um) by
    apply this
    refine FS.IsSub.foldl _ (fun st d => FS.IsSub.foldl _ (fun st key => ?_) _ _) _ _
    split
    · -- `removedir` (not recursive): the root and a directory with children stay, an empty directory is erased
      simp only [specOps, Bool.false_eq_true, ↓reduceIte]
      split
      · exact FS.IsSub.refl st
      · split
        · exact FS.IsSub.erase st key
        · exact FS.IsSub.refl st
    · exact FS.IsSub.refl st
  exact fun x hx => ⟨hx.trans h1, fun p d um hg => h1f p d um (hx.get hg)⟩

end StoreC

structure RSt2 (c : StoreCCfg) (U : Str → Prop) (fs : FS) (kv : KV) : Prop where
  base : RSt c U fs kv
  /-- the store holds at most one binding per key -/
  nd : AL.ND fs
  /-- every file of the store is the entry of a key in use (directories are not constrained) -/
  files : ∀ p d um, fs.get p = some (.file d um) → ∃ k, U k ∧ p = StoreC.toPath c k
  kvnd : AL.ND kv
  /-- entries are filed under the query of their own metadata, and only keys in use are filed -/
  query : ∀ k m d, kv.get k = some (m, d) → m.query = k ∧ U k

/-- all operations; the point operations address keys in use (`keys` and `clean` address no key and pass) -/
def okSt2 (U : Str → Prop) (kv : KV) (op : CacheOp) : Prop :=
  op.hasData = true ∧ op.typeStable kv = true ∧ ∀ k, op.key? = some k → U k

section
variable {c : StoreCCfg} {U : Str → Prop} {fs : FS} {kv : KV}

theorem RSt2.erase (paths : PathsOK c U) (R : RSt2 c U fs kv) {q : Str} (hq : U q) :
    RSt2 c U (fs.erase (StoreC.toPath c q)) (kv.erase q) := by
  refine ⟨R.base.erase paths hq, R.nd.erase _, fun p d um hg => ?_, R.kvnd.erase q, fun k m d hg => ?_⟩
  · rw [FS.erase_eq_AL, FS.get_eq_AL, AL.get_erase] at hg
    split at hg
    · cases hg
    · exact R.files p d um hg
  · rw [KV.get_erase] at hg
    split at hg
    · cases hg
    · exact R.query k m d hg

theorem RSt2.set (paths : PathsOK c U) (R : RSt2 c U fs kv) {m : CMeta} (hq : U m.query) {ks : List Key}
    (hks : ∀ k, U k → StoreC.toPath c k ∉ ks) (d : Str) {um : UMeta} (hum : um.user = c.encM m) :
    RSt2 c U ((fs.mkdirs ks).set (StoreC.toPath c m.query) (.file (c.serD m.typeId (some d)) um)) (kv.set m.query m (some d)) := by
  refine ⟨R.base.set paths hq hks d hum, (FS.ND_mkdirs _ _ R.nd).set _ _, fun p d' um' hg => ?_, R.kvnd.set _ _,
    fun k m' d' hg => ?_⟩
  · rw [FS.set_eq_AL, FS.get_eq_AL, AL.get_set] at hg
    split at hg
    · next hp => exact ⟨m.query, hq, beq_iff_eq.1 hp⟩
    · exact (FS.get_mkdirs_some _ _ _ _ hg).elim (R.files p d' um') nofun
  · rw [KV.get_set] at hg
    split at hg
    · next hk => cases hg; exact ⟨(beq_iff_eq.1 hk).symm, beq_iff_eq.1 hk ▸ hq⟩
    · exact R.query k m' d' hg

/-- what `keys()` makes of one store key -/
def StoreC.keyOf (c : StoreCCfg) (fs : FS) (key : Key) : Option Str :=
  if (c.path.isEmpty || StoreC.strStartsWith key (c.path ++ ['/'])) && !(StoreC.okB true (specOps.isDir fs key)) then
    match specOps.getMeta fs key with
    | .ok mo => (c.decM mo.user).map (·.query)
    | .error _ => none
  else none

theorem StoreC.keys_eq (c : StoreCCfg) (fs : FS) : StoreC.keys c specOps fs = (fs.map (·.1)).filterMap (StoreC.keyOf c fs) := rfl

theorem RSt2.keyOf_entry (ok : CodecS c) (hpath : ∀ r, c.path ≠ '/' :: r)
    (R : RSt2 c U fs kv) (k : Str) (m : CMeta) (d : Option Str) (hg : kv.get k = some (m, d)) :
    StoreC.keyOf c fs (StoreC.toPath c k) = some k ∧ ∃ n, fs.get (StoreC.toPath c k) = some n := by
  obtain ⟨hq, hU⟩ := R.query k m d hg
  rcases R.base.look k hU with ⟨h1, _⟩ | ⟨m', d', um, h1, h2, h3⟩
  · rw [hg] at h1; cases h1
  · obtain rfl : m = m' := (Prod.mk.inj (Option.some.inj (hg.symm.trans h1))).1
    refine ⟨?_, _, h2⟩
    simp only [StoreC.keyOf, StoreC.pref_keys c hpath k, Bool.true_and, specOps, StoreC.okB, FS.isDirB, StoreC.toPath_isEmpty,
      Bool.false_or, h2]
    simp [h3, ok.decM_encM, hq]

theorem RSt2.keyOf_mem (ok : CodecS c) (hpath : ∀ r, c.path ≠ '/' :: r)
    (R : RSt2 c U fs kv) (e : Key × Node) (he : e ∈ fs) (q : Str) (hq : StoreC.keyOf c fs e.1 = some q) :
    e.1 = StoreC.toPath c q ∧ q ∈ kv.map (·.1) := by
  have hget : fs.get e.1 = some e.2 := R.nd.get_of_mem e he
  obtain ⟨p, n⟩ := e
  cases n with
  | dir => simp [StoreC.keyOf, specOps, StoreC.okB, FS.isDirB, show fs.get p = some .dir from hget] at hq
  | file d um =>
    -- a file is the entry of a key in use, and is listed as that key
    obtain ⟨k, hU, rfl⟩ := R.files p d um hget
    rcases R.base.look k hU with ⟨_, h2⟩ | ⟨m', d', um', h1, _, _⟩
    · rw [show fs.get (StoreC.toPath c k) = _ from hget] at h2; cases h2
    · obtain rfl : k = q := Option.some.inj ((R.keyOf_entry ok hpath k m' (some d') h1).1.symm.trans hq)
      exact ⟨rfl, AL.mem_keys_of_get (l := kv) h1⟩

theorem RSt2.keys_perm (ok : CodecS c) (hpath : ∀ r, c.path ≠ '/' :: r)
    (R : RSt2 c U fs kv) : (StoreC.keys c specOps fs).Perm (kv.map (·.1)) := by
  rw [StoreC.keys_eq, List.filterMap_map]
  -- neither list repeats a key (a listed key determines its store key, `keyOf_mem`), so it is enough that they have the same members
  refine (List.perm_ext_iff_of_nodup ?_ ?_).2 ?_
  · refine (List.Pairwise.and_mem.1 R.nd).filterMap _ ?_
    rintro a a' ⟨ha, ha', hne⟩ b hb b' hb' rfl
    exact hne (((R.keyOf_mem ok hpath a ha b hb).1).trans ((R.keyOf_mem ok hpath a' ha' b hb').1).symm)
  · exact List.pairwise_map.2 R.kvnd
  · intro q
    constructor
    · intro hm
      obtain ⟨e, he, hq⟩ := List.mem_filterMap.1 hm
      exact (R.keyOf_mem ok hpath e he q hq).2
    · intro hm
      obtain ⟨v, hv⟩ := AL.get_isSome_of_mem_keys (l := kv) hm
      obtain ⟨h1, n, h2⟩ := R.keyOf_entry ok hpath q v.1 v.2 hv
      exact List.mem_filterMap.2 ⟨(StoreC.toPath c q, n), AL.mem_of_get (l := fs) h2, h1⟩

end

/-- **all operations**: `StoreCache` over the reference store simulates the key-value specification, cache path without a
leading `/` -/
theorem storec_sim2 (c : StoreCCfg) (U : Str → Prop) (ok : CodecS c) (paths : PathsOK c U) (hpath : ∀ r, c.path ≠ '/' :: r) :
    CSim (storeCOps c specOps) (kvOpsC kvCfgStore) (RSt2 c U) (okSt2 U) := by
  intro fs kv op R ⟨hdata, hstable, hU⟩
  have hpoint : ∀ k, op.key? = some k →
      RSt2 c U ((storeCOps c specOps).step fs op).1 ((kvOpsC kvCfgStore).step kv op).1 ∧
      outEq ((storeCOps c specOps).step fs op).2 ((kvOpsC kvCfgStore).step kv op).2 :=
    fun k hk => storec_step_cases ok paths R.base ⟨hdata, hstable, k, hk, hU k hk⟩ R (fun _ hq => R.erase paths hq)
      fun _ d _ _ hq hum hks => R.set paths hq hks d hum
  cases op with
  | keys => exact ⟨R, outEq_keys.2 (R.keys_perm ok hpath)⟩
  | clean =>
    refine ⟨?_, outEq_refl _⟩
    obtain ⟨hsub, hnof⟩ := StoreC.clean_spec c fs fun p d um hg => by
      obtain ⟨k, _, rfl⟩ := R.files p d um hg
      exact ⟨StoreC.toPath_isEmpty c k, StoreC.pref_clean c hpath k⟩
    show RSt2 c U (StoreC.clean c specOps fs) []
    refine ⟨⟨fun k _ => ?_, fun k hk hg => R.base.noDir k hk (hsub.get hg), nofun⟩, ?_, fun p d um hg => absurd hg (hnof p d um),
      .nil, nofun⟩
    · match hg : (StoreC.clean c specOps fs).get (StoreC.toPath c k) with
      | none => rfl
      | some .dir => rfl
      | some (.file d um) => exact absurd hg (hnof _ d um)
    · obtain ⟨q, hq⟩ := hsub
      exact hq ▸ R.nd.filter _
  | get k => exact hpoint k rfl
  | getMeta k => exact hpoint k rfl
  | contains k => exact hpoint k rfl
  | remove k => exact hpoint k rfl
  | storeMeta m => exact hpoint _ rfl
  | store st => exact hpoint _ rfl

theorem RSt2_mkdirs_nil (c : StoreCCfg) (U : Str → Prop) (ks : List Key) (hks : ∀ k, StoreC.toPath c k ∉ ks) :
    RSt2 c U (FS.mkdirs [] ks) [] := by
  have hdir : ∀ p n, (FS.mkdirs [] ks).get p = some n → n = .dir := fun p n hg => (FS.get_mkdirs_some _ _ _ _ hg).resolve_left nofun
  refine ⟨⟨fun k _ => ?_, fun k _ => ?_, nofun⟩, FS.ND_mkdirs _ _ .nil, fun p d um hg => (by cases hdir _ _ hg), .nil, nofun⟩
  · match hg : (FS.mkdirs [] ks).get (StoreC.toPath c k) with
    | none => rfl
    | some n => rw [hdir _ _ hg]; rfl
  · rw [FS.get_mkdirs_of_notMem _ _ _ (hks k)]
    nofun

/-- the state `StoreCache.__init__` leaves on the empty store is related to the empty specification -/
theorem RSt2_init (c : StoreCCfg) (U : Str → Prop) (hpath : ∀ r, c.path ≠ '/' :: r) : RSt2 c U (storeCInit c specOps []) [] := by
  have hinit : storeCInit c specOps [] =
      FS.mkdirs [] (ancestors (StoreC.splitSlash c.path) ++ [StoreC.splitSlash c.path]) := by
    simp only [storeCInit, specOps, StoreC.okB, FS.isDirB, StoreC.splitSlash_isEmpty, Bool.false_or]
    rfl
  exact hinit ▸ RSt2_mkdirs_nil c U _ (StoreC.toPath_not_init c hpath)

end Liquer
