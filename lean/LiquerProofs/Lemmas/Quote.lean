/-
Helper lemmas about `quote` / `unquote` (percent encoding) of the text model.
-/
import LiquerProofs.Lemmas.Text
namespace Liquer

theorem char_le_iff (a b : Char) : a ≤ b ↔ a.toNat ≤ b.toNat := by
  simp only [Char.le_def, UInt32.le_iff_toNat_le]; rfl

theorem char_eq_iff (a b : Char) : a = b ↔ a.toNat = b.toNat :=
  ⟨congrArg _, fun h => Char.toNat_inj.mp h⟩

theorem quoteSafe_iff (c : Char) : quoteSafe c = true ↔
    ((65 ≤ c.toNat ∧ c.toNat ≤ 90) ∨ (97 ≤ c.toNat ∧ c.toNat ≤ 122) ∨
      (48 ≤ c.toNat ∧ c.toNat ≤ 57) ∨
      c.toNat = 95 ∨ c.toNat = 46 ∨ c.toNat = 45 ∨ c.toNat = 126 ∨ c.toNat = 47) := by
  simp only [quoteSafe, Bool.or_eq_true, Bool.and_eq_true, decide_eq_true_eq, beq_iff_eq,
    char_le_iff, char_eq_iff, or_assoc]
  -- what is left are the code points of the character literals
  exact Iff.rfl

theorem quoteSafe_isAscii {c : Char} (h : quoteSafe c = true) : isAscii c = true := by
  rw [quoteSafe_iff] at h
  rw [isAscii, decide_eq_true_eq]; omega

theorem quoteSafe_ne_pct {c : Char} (h : quoteSafe c = true) : c ≠ '%' := by
  rintro rfl; exact absurd h (by decide)

theorem hexVal_hexDigitUpper {n : Nat} (h : n < 16) : hexVal? (hexDigitUpper n) = some n :=
  (by decide +kernel : ∀ n : Fin 16, hexVal? (hexDigitUpper n.val) = some n.val) ⟨n, h⟩

theorem hexDigitUpper_eq {n : Nat} {c : Char} (hn : n < 16) (h : hexDigitUpper n = c) :
    hexVal? c = some n := h ▸ hexVal_hexDigitUpper hn

theorem hexDigitUpper_ne {n : Nat} {c : Char} (hn : n < 16) (hc : hexVal? c = none) :
    hexDigitUpper n ≠ c := fun e => nomatch (hexDigitUpper_eq hn e).symm.trans hc

theorem hexDigitUpper_quoteSafe {n : Nat} (h : n < 16) : quoteSafe (hexDigitUpper n) = true :=
  (by decide +kernel : ∀ n : Fin 16, quoteSafe (hexDigitUpper n.val) = true) ⟨n, h⟩

theorem byte_hi_lt (b : UInt8) : b.toNat / 16 < 16 := by
  have := b.toNat_lt; omega

theorem byte_lo_lt (b : UInt8) : b.toNat % 16 < 16 := Nat.mod_lt _ (by decide)

theorem utf8_ascii {c : Char} (h : isAscii c = true) :
    String.utf8EncodeChar c = [UInt8.ofNat c.toNat] := by
  rw [isAscii, decide_eq_true_eq] at h
  rw [String.utf8EncodeChar]
  exact if_pos (Nat.le_of_lt_succ h)

/-- all bytes of a multi-byte encoding are lead or continuation bytes `r + base` with `0x80 ≤ base` -/
theorem utf8_high {c : Char} (h : isAscii c = false) :
    ∀ b ∈ String.utf8EncodeChar c, 128 ≤ b.toNat := by
  have byte : ∀ {r k base : Nat}, r < k → k + base ≤ 256 → 128 ≤ base →
      128 ≤ (UInt8.ofNat (r + base)).toNat := by
    intro r k base hr hk hb; rw [UInt8.toNat_ofNat']; omega
  rw [isAscii, decide_eq_false_iff_not] at h
  rw [String.utf8EncodeChar, if_neg (fun hle : c.val.toNat ≤ 127 => h (Nat.lt_succ_of_le hle))]
  repeat' split
  all_goals
    simp only [List.mem_cons, List.not_mem_nil, or_false, forall_eq_or_imp, forall_eq]
    repeat' apply And.intro
    all_goals exact byte (Nat.mod_lt _ (by decide)) (by decide) (by decide)

theorem utf8_ne_7E {c : Char} (h : quoteSafe c = false) :
    ∀ b ∈ String.utf8EncodeChar c, b.toNat ≠ 126 := by
  intro b hb h7
  cases ha : isAscii c with
  | false => exact absurd (h7 ▸ utf8_high ha b hb) (by decide)
  | true =>
    rw [utf8_ascii ha, List.mem_singleton] at hb
    rw [isAscii, decide_eq_true_eq] at ha
    rw [hb, UInt8.toNat_ofNat', Nat.mod_eq_of_lt (by omega)] at h7
    rw [(char_eq_iff c '~').mpr h7] at h
    exact absurd h (by decide)

/-- the blocks `quote` emits: a bare safe character or a percent-escaped byte -/
inductive Atom where
  | ch (c : Char)
  | pct (b : UInt8)

def Atom.str : Atom → List Char
  | .ch c => [c]
  | .pct b => pctByte b

def atomsOf (c : Char) : List Atom :=
  if quoteSafe c then [.ch c] else (String.utf8EncodeChar c).map .pct

def flatAtoms (as : List Atom) : List Char := as.flatMap Atom.str

/-- what holds of every atom of `quote` output -/
def Atom.ok : Atom → Prop
  | .ch c => quoteSafe c = true
  | .pct b => b.toNat ≠ 126

theorem quoteChar_eq (c : Char) : quoteChar c = flatAtoms (atomsOf c) := by
  unfold quoteChar atomsOf flatAtoms
  split
  · simp [Atom.str]
  · simp only [List.flatMap_map]; rfl

theorem mem_atomsOf_ch {c x : Char} (h : Atom.ch x ∈ atomsOf c) : x = c ∧ quoteSafe c = true := by
  unfold atomsOf at h
  split at h
  next hq => cases List.mem_singleton.mp h; exact ⟨rfl, hq⟩
  next => simp at h

theorem atomsOf_ok (c : Char) : ∀ a ∈ atomsOf c, a.ok := by
  intro a ha
  cases a with
  | ch x => obtain ⟨rfl, hq⟩ := mem_atomsOf_ch ha; exact hq
  | pct b =>
    unfold atomsOf at ha
    split at ha
    next => simp at ha
    next h =>
      obtain ⟨b', hb, hb'⟩ := List.mem_map.mp ha
      cases hb'
      exact utf8_ne_7E (Bool.not_eq_true _ ▸ h) b hb

theorem quote_eq (s : List Char) : quote s = flatAtoms (s.flatMap atomsOf) := by
  simp only [quote, flatAtoms, List.flatMap_assoc]
  congr 1; funext c; exact quoteChar_eq c

theorem quote_nil : quote [] = [] := rfl
theorem quote_singleton (c : Char) : quote [c] = quoteChar c := List.flatMap_singleton _ _
theorem quote_cons (c : Char) (s : List Char) : quote (c :: s) = quoteChar c ++ quote s := by
  simp [quote]
theorem quote_append (s t : List Char) : quote (s ++ t) = quote s ++ quote t := by
  simp [quote]

theorem quoteChar_ne_nil (c : Char) : quoteChar c ≠ [] := by
  unfold quoteChar
  split
  · simp
  · have := @String.utf8EncodeChar_ne_nil c
    cases h : String.utf8EncodeChar c with
    | nil => exact absurd h this
    | cons b bs => simp [pctByte]

theorem mem_quoteChar {c x : Char} (h : c ∈ quoteChar x) :
    (c = x ∧ quoteSafe x = true) ∨ c = '%' ∨ ∃ n, n < 16 ∧ c = hexDigitUpper n := by
  unfold quoteChar at h
  split at h
  next hs => exact Or.inl ⟨List.mem_singleton.mp h, hs⟩
  next =>
    obtain ⟨b, _, hb⟩ := List.mem_flatMap.mp h
    simp only [pctByte, List.mem_cons, List.not_mem_nil, or_false] at hb
    rcases hb with rfl | rfl | rfl
    · exact Or.inr (Or.inl rfl)
    · exact Or.inr (Or.inr ⟨_, byte_hi_lt b, rfl⟩)
    · exact Or.inr (Or.inr ⟨_, byte_lo_lt b, rfl⟩)

theorem mem_quote {c : Char} {s : List Char} (h : c ∈ quote s) :
    (c ∈ s ∧ quoteSafe c = true) ∨ c = '%' ∨ ∃ n, n < 16 ∧ c = hexDigitUpper n := by
  obtain ⟨x, hx, hc⟩ := List.mem_flatMap.mp h
  exact (mem_quoteChar hc).imp_left fun ⟨e, hs⟩ => e ▸ ⟨hx, hs⟩

theorem tilde_not_mem_quote (s : List Char) (h : '~' ∉ s) : '~' ∉ quote s := fun hm => by
  rcases mem_quote hm with ⟨h1, _⟩ | h1 | ⟨n, hn, h1⟩
  · exact h h1
  · cases h1
  · exact hexDigitUpper_ne hn rfl h1.symm

theorem quote_eq_nil {s : List Char} (h : quote s = []) : s = [] := by
  cases s with
  | nil => rfl
  | cons c s =>
    rw [quote_cons] at h
    exact absurd (List.append_eq_nil_iff.mp h).1 (quoteChar_ne_nil c)

/-- the trailing `.replace("%7E", "~")` / `.replace("%7e", "~")` never fire on `quote` output -/
theorem replaceAll_pct7_noop (x : Char) (hx : hexVal? x = some 14) (as : List Atom)
    (h : ∀ a ∈ as, a.ok) :
    replaceAll ['%', '7', x] ['~'] (flatAtoms as) = flatAtoms as := by
  induction as with
  | nil => exact replaceAll_nil _ _
  | cons a as ih =>
    have ih := ih (fun a ha => h a (List.mem_cons_of_mem _ ha))
    have ha := h a List.mem_cons_self
    simp only [flatAtoms, List.flatMap_cons] at ih ⊢
    cases a with
    | ch c =>
      rw [Atom.str, List.singleton_append, replaceAll_cons_ne _ _ _ _ _ (Ne.symm (quoteSafe_ne_pct ha)), ih]
    | pct b =>
      have hhi := byte_hi_lt b
      have hlo := byte_lo_lt b
      simp only [Atom.str, pctByte, List.cons_append, List.nil_append]
      rw [replaceAll_cons_noPrefix, replaceAll_cons_ne _ _ _ _ _ (hexDigitUpper_ne hhi rfl).symm,
        replaceAll_cons_ne _ _ _ _ _ (hexDigitUpper_ne hlo rfl).symm, ih]
      -- a match would mean high digit 7 and low digit 14: the byte 0x7E
      simp only [isPrefix, beq_self_eq_true, Bool.true_and, Bool.and_true, Bool.and_eq_false_imp,
        beq_iff_eq, beq_eq_false_iff_ne]
      intro h7 hxe
      have e7 := hexDigitUpper_eq hhi h7.symm
      have e14 := hexDigitUpper_eq hlo hxe.symm
      rw [show hexVal? '7' = some 7 from rfl, Option.some.injEq] at e7
      rw [hx, Option.some.injEq] at e14
      exact ha (by omega)

theorem unquoteBytes_cons_ne {c : Char} (h : c ≠ '%') (rest : List Char) :
    unquoteBytes (c :: rest) = UInt8.ofNat c.toNat :: unquoteBytes rest := by
  rw [unquoteBytes.eq_def]
  split
  · simp_all
  · simp_all
  · next heq => simp only [List.cons.injEq] at heq; obtain ⟨rfl, rfl⟩ := heq; rfl

theorem unquoteBytes_pctByte (b : UInt8) (rest : List Char) :
    unquoteBytes (pctByte b ++ rest) = b :: unquoteBytes rest := by
  simp only [pctByte, List.cons_append, List.nil_append]
  rw [unquoteBytes]
  simp only [hexVal_hexDigitUpper (byte_hi_lt b), hexVal_hexDigitUpper (byte_lo_lt b)]
  rw [Nat.div_add_mod, UInt8.ofNat_toNat]

theorem unquoteBytes_pctBytes (bs : List UInt8) (rest : List Char) :
    unquoteBytes (bs.flatMap pctByte ++ rest) = bs ++ unquoteBytes rest := by
  induction bs with
  | nil => simp
  | cons b bs ih =>
    simp only [List.flatMap_cons, List.append_assoc, unquoteBytes_pctByte, ih, List.cons_append]

theorem unquoteBytes_quoteChar (c : Char) (rest : List Char) :
    unquoteBytes (quoteChar c ++ rest) = String.utf8EncodeChar c ++ unquoteBytes rest := by
  unfold quoteChar
  split
  next h =>
    rw [List.singleton_append, unquoteBytes_cons_ne (quoteSafe_ne_pct h),
      utf8_ascii (quoteSafe_isAscii h)]
    rfl
  next h => exact unquoteBytes_pctBytes _ _

theorem unquoteBytes_quote_append (pre rest : List Char) :
    unquoteBytes (quote pre ++ rest) = pre.flatMap String.utf8EncodeChar ++ unquoteBytes rest := by
  induction pre with
  | nil => simp [quote]
  | cons c pre ih =>
    rw [quote_cons, List.append_assoc, unquoteBytes_quoteChar, ih]
    simp

theorem unquoteBytes_plain (q : List Char) (h : ∀ c ∈ q, isAscii c = true ∧ c ≠ '%') :
    unquoteBytes q = q.flatMap String.utf8EncodeChar := by
  induction q with
  | nil => simp [unquoteBytes]
  | cons c q ih =>
    have hc := h c List.mem_cons_self
    rw [unquoteBytes_cons_ne hc.2, ih (fun c hc => h c (List.mem_cons_of_mem _ hc)),
      List.flatMap_cons, utf8_ascii hc.1]
    rfl

theorem quoteChar_isAscii (c : Char) : ∀ x ∈ quoteChar c, isAscii x = true := by
  intro x hx
  rcases mem_quoteChar hx with ⟨rfl, h⟩ | rfl | ⟨n, hn, rfl⟩
  · exact quoteSafe_isAscii h
  · rfl
  · exact quoteSafe_isAscii (hexDigitUpper_quoteSafe hn)

theorem quote_isAscii (s : List Char) : ∀ x ∈ quote s, isAscii x = true := by
  intro x hx
  obtain ⟨c, _, hc⟩ := List.mem_flatMap.mp hx
  exact quoteChar_isAscii c x hc

theorem unquoteGo_ascii (dec : List UInt8 → List Char) (s acc : List Char)
    (h : ∀ c ∈ s, isAscii c = true) :
    unquoteGo dec s acc = flushRun dec (s.reverse ++ acc) := by
  induction s generalizing acc with
  | nil => simp [unquoteGo]
  | cons c s ih =>
    simp only [unquoteGo, h c List.mem_cons_self, ↓reduceIte]
    rw [ih _ (fun c hc => h c (List.mem_cons_of_mem _ hc))]
    simp

theorem unquote_ascii {dec : List UInt8 → List Char} (hd : DecOK dec) (s : List Char)
    (h : ∀ c ∈ s, isAscii c = true) : unquote dec s = dec (unquoteBytes s) := by
  unfold unquote
  rw [unquoteGo_ascii dec s [] h]
  simp only [List.append_nil, flushRun, List.isEmpty_reverse, List.reverse_reverse]
  split
  next he =>
    have : s = [] := by simpa using he
    subst this
    simp [unquoteBytes, hd.nil]
  next => rfl

/-- `q`: a pattern of the escape table, which `decode_token` puts back in place of its code before un-quoting -/
theorem unquote_quote_append {dec : List UInt8 → List Char} (hd : DecOK dec)
    (pre q : List Char) (hq : ∀ c ∈ q, isAscii c = true ∧ c ≠ '%') :
    unquote dec (quote pre ++ q) = pre ++ q := by
  rw [unquote_ascii hd]
  · rw [unquoteBytes_quote_append, unquoteBytes_plain q hq, ← List.flatMap_append]
    exact hd _
  · intro c hc
    rcases List.mem_append.mp hc with hc | hc
    · exact quote_isAscii pre c hc
    · exact (hq c hc).1

end Liquer
