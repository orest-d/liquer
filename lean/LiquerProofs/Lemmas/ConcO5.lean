/-
C12, the invariant of the concurrency model (Conc.lean): the shared cache is `Sound`, and every thread has performed a prefix
of its own operations (`get` / `store` / `remove`) and has received good answers for the `get`s it performed (`ThreadOK`).
One step of any thread preserves it, and so does every metadata-only write of the environment (any key, any status, at any
time: the cache stays `Sound`, so whatever the environment does between two steps of a thread, the answers the thread receives
later are good); hence every schedule of thread steps and environment writes does.
`ExtPrefix` (more answers only extend the trace: `extPrefix`) is a hypothesis of the step lemmas here.
-/
import LiquerProofs.Lemmas.ConcO3
import LiquerProofs.Lemmas.ConcO4

namespace Liquer

def ExtPrefix (env : Env) : Prop :=
  ∀ n A B q raw, (evalQO env n { answers := A } q raw .none none true).1.trace <+:
    (evalQO env n { answers := A ++ B } q raw .none none true).1.trace

theorem extPrefix (env : Env) : ExtPrefix env :=
  fun n A B q raw => evalQO_ext_prefix env n A B q raw .none none true

def Thread.trace (env : Env) (t : Thread) : List COp := (t.run env).1.trace

/-- the thread's own operations (everything but the progress-metadata writes) against the answers received so far -/
def Thread.own (env : Env) (t : Thread) : List COp := ownOps (t.trace env)

/-- what is known about a thread at every moment -/
structure ThreadOK (env : Env) (C : Query → Prop) (t : Thread) : Prop where
  inC : C t.q
  /-- the thread has performed a prefix of its own (`get` / `store` / `remove`) operations -/
  done_le : t.done ≤ (t.own env).length
  /-- the answers received are those of the `get`s performed -/
  cnt : (gets ((t.own env).take t.done)).length = t.answers.length
  /-- … and each is good for the key it was asked for -/
  good : GoodPairs env (t.trace env) t.answers
  /-- a result is the outcome of a run that did not starve -/
  res : ∀ o, t.result = some o → (t.run env).1.starved = false ∧ o = (t.run env).2

theorem Thread.run_wfo (env : Env) (t : Thread) : WFO t.answers (t.run env).1 :=
  ((frameO env _).q _ _ _ _ _ _).wfo (WFO.init _)

theorem ThreadOK.storesGood {env : Env} {C : Query → Prop} {T : Str → Prop} (hC : Closed env C T)
    (hcanon : ∀ q, C q → CanonOK env q) {t : Thread} (ok : ThreadOK env C t) : StoresGood env (t.trace env) :=
  (evalQO_refines hC hcanon _ t.answers t.q t.raw ok.inC ok.good).1

theorem ThreadOK.result_sim {env : Env} {C : Query → Prop} {T : Str → Prop} (hC : Closed env C T)
    (hcanon : ∀ q, C q → CanonOK env q) {t : Thread} (ok : ThreadOK env C t) {o : Outcome} (ho : t.result = some o)
    (hne : o ≠ .unmodelled) : ∃ m, Outcome.sim o (refQ env m t.q t.raw .none none).1 := by
  obtain ⟨_, rfl⟩ := ok.res o ho
  exact (evalQO_refines hC hcanon _ t.answers t.q t.raw ok.inC ok.good).2 hne

theorem ThreadOK.fresh {env : Env} {C : Query → Prop} {t : Thread} (hq : C t.q) (ha : t.answers = []) (hd : t.done = 0)
    (hr : t.result = none) : ThreadOK env C t where
  inC := hq
  done_le := by rw [hd]; exact Nat.zero_le _
  cnt := by rw [hd, ha]; simp
  good := by rw [ha]; exact GoodPairs.nil_answers _ _
  res := fun o ho => by rw [hr] at ho; simp at ho

theorem gets_eq_nil_of_meta {l : List COp} (h : ∀ op ∈ l, op.isMeta = true) : gets l = [] := by
  rw [gets, List.filterMap_eq_nil_iff]
  intro op hop
  cases op with
  | storeMeta => rfl
  | _ => exact absurd (h _ hop) Bool.false_ne_true

theorem take_succ_of_getElem? {α : Type} {l : List α} {n : Nat} {a : α} (h : l[n]? = some a) :
    l.take (n+1) = l.take n ++ [a] := by
  rw [List.take_add_one, h]; rfl

theorem ownOps_append (a b : List COp) : ownOps (a ++ b) = ownOps a ++ ownOps b := by
  simp [ownOps]

theorem gets_ownOps (tr : List COp) : gets (ownOps tr) = gets tr := by
  rw [gets, ownOps, List.filterMap_filter]
  congr 1; funext op; cases op <;> rfl

theorem mem_of_mem_ownOps {tr : List COp} {op : COp} (h : op ∈ ownOps tr) : op ∈ tr :=
  (List.mem_filter.1 h).1

theorem not_meta_of_mem_ownOps {tr : List COp} {op : COp} (h : op ∈ ownOps tr) : op.isMeta = false := by
  have := (List.mem_filter.1 h).2
  simpa using this

theorem stepThread_ok {env : Env} {C : Query → Prop} {T : Str → Prop} (hC : Closed env C T)
    (hcanon : ∀ q, C q → CanonOK env q) (hext : ExtPrefix env) {shared : World} {t : Thread} (hS : Sound env shared)
    (ok : ThreadOK env C t) :
    Sound env (stepThread env shared t).1 ∧ ThreadOK env C (stepThread env shared t).2 := by
  unfold stepThread
  split
  · exact ⟨hS, ok⟩
  · next hfin =>
    have hres : t.result = none := by
      cases h : t.result with
      | none => rfl
      | some o => simp [Thread.finished, h] at hfin
    have hW := t.run_wfo env
    have hle := ok.done_le
    have hcnt := ok.cnt
    have hgood := ok.good
    have hSG := ok.storesGood hC hcanon
    unfold Thread.own Thread.trace at hle hcnt
    unfold Thread.trace at hgood hSG
    rcases hrun : t.run env with ⟨ow, out⟩
    rw [hrun] at hW hle hcnt hgood hSG
    simp only at hW hle hcnt hgood hSG ⊢
    cases hop : (ownOps ow.trace)[t.done]? with
    | none =>
      simp only
      refine ⟨hS, ?_⟩
      have hge : (ownOps ow.trace).length ≤ t.done := by simpa using hop
      have hall : (ownOps ow.trace).take t.done = ownOps ow.trace := List.take_of_length_le hge
      rw [hall, gets_ownOps] at hcnt
      have hns : ow.starved = false := by
        cases h : ow.starved
        · rfl
        · have := hW.1 h; omega
      exact {
        inC := ok.inC
        done_le := ok.done_le
        cnt := ok.cnt
        good := ok.good
        res := fun o ho => by
          have : o = out := by simpa using ho.symm
          subst this
          show (t.run env).1.starved = false ∧ o = (t.run env).2
          rw [hrun]; exact ⟨hns, rfl⟩ }
    | some op =>
      simp only
      have hlt : t.done < (ownOps ow.trace).length := by
        rcases List.getElem?_eq_some_iff.1 hop with ⟨h, _⟩; exact h
      have hmemO : op ∈ ownOps ow.trace := List.mem_of_getElem? hop
      have hmem : op ∈ ow.trace := mem_of_mem_ownOps hmemO
      have htake := take_succ_of_getElem? hop
      have write : gets [op] = [] → ThreadOK env C { t with done := t.done + 1 } := fun hg =>
        { inC := ok.inC
          done_le := by show t.done + 1 ≤ (ownOps (t.run env).1.trace).length; rw [hrun]; exact hlt
          cnt := by
            show (gets ((ownOps (t.run env).1.trace).take (t.done + 1))).length = t.answers.length
            rw [hrun]; simp only; rw [htake, gets_append, hg, List.append_nil]; exact hcnt
          good := ok.good
          res := ok.res }
      cases op with
      | get k =>
        simp only [applyOp_get]
        have hgk : (gets ((ownOps ow.trace).take (t.done + 1))).length = t.answers.length + 1 := by
          rw [htake, gets_append]; simp [hcnt]
        have hpre1 : gets ((ownOps ow.trace).take (t.done + 1)) <+: gets ow.trace := by
          rw [← gets_ownOps ow.trace]; exact gets_prefix (List.take_prefix _ _)
        have hextp := hext (evalFuel t.raw) t.answers [shared.get k] t.q t.raw
        have hrun' : evalQO env (evalFuel t.raw) { answers := t.answers } t.q t.raw .none none true = (ow, out) := hrun
        rw [hrun'] at hextp
        simp only at hextp
        refine ⟨hS, ?_⟩
        obtain ⟨c, hc⟩ := hextp
        exact {
          inC := ok.inC
          done_le := by
            show t.done + 1 ≤ (ownOps (evalQO env (evalFuel t.raw) { answers := t.answers ++ [shared.get k] } t.q t.raw .none none true).1.trace).length
            rw [← hc, ownOps_append]; simp; omega
          cnt := by
            show (gets ((ownOps (evalQO env (evalFuel t.raw) { answers := t.answers ++ [shared.get k] } t.q t.raw .none none true).1.trace).take (t.done + 1))).length = (t.answers ++ [shared.get k]).length
            rw [← hc, ownOps_append, List.take_append_of_le_length (by omega), hgk]; simp
          good := by
            show GoodPairs env (evalQO env (evalFuel t.raw) { answers := t.answers ++ [shared.get k] } t.q t.raw .none none true).1.trace (t.answers ++ [shared.get k])
            refine hgood.snoc ⟨c, hc⟩ (pre := gets ((ownOps ow.trace).take t.done)) ?_ hcnt (hS.get_good k)
            rw [← gets_get, ← gets_append, ← htake]; exact hpre1
          res := fun o ho => by rw [show ({ t with answers := t.answers ++ [shared.get k], done := t.done + 1 } : Thread).result = t.result from rfl, hres] at ho; simp at ho }
      | storeMeta k x => exact absurd (not_meta_of_mem_ownOps hmemO) (by simp [COp.isMeta])
      | store st => exact ⟨hS.store st (hSG _ hmem), write rfl⟩
      | remove k => exact ⟨hS.remove k, write rfl⟩

def Inv (env : Env) (C : Query → Prop) (c : Config) : Prop :=
  Sound env c.shared ∧ ∀ t ∈ c.threads, ThreadOK env C t

/-- a configuration before anything ran: a `Sound` cache and fresh threads evaluating queries of the class -/
def Fresh (env : Env) (C : Query → Prop) (c : Config) : Prop :=
  Sound env c.shared ∧ ∀ t ∈ c.threads, C t.q ∧ t.answers = [] ∧ t.done = 0 ∧ t.result = none

theorem Fresh.inv {env : Env} {C : Query → Prop} {c : Config} (h : Fresh env C c) : Inv env C c :=
  ⟨h.1, fun t ht => ThreadOK.fresh (h.2 t ht).1 (h.2 t ht).2.1 (h.2 t ht).2.2.1 (h.2 t ht).2.2.2⟩

theorem stepAt_inv {env : Env} {C : Query → Prop} {T : Str → Prop} (hC : Closed env C T)
    (hcanon : ∀ q, C q → CanonOK env q) (hext : ExtPrefix env) {c : Config} (h : Inv env C c) (i : Nat) :
    Inv env C (stepAt env c i) := by
  unfold stepAt
  split
  · exact h
  · next t ht =>
    have hmem : t ∈ c.threads := List.mem_of_getElem? ht
    have := stepThread_ok hC hcanon hext h.1 (h.2 t hmem)
    refine ⟨this.1, fun t' ht' => ?_⟩
    rcases List.mem_or_eq_of_mem_set ht' with h1 | h1
    · exact h.2 t' h1
    · rw [h1]; exact this.2

/-- an environment step — anybody writes metadata for any key with any status — keeps the invariant: a metadata write never
creates data (the shared cache stays `Sound`) and the threads are untouched -/
theorem envMeta_inv {env : Env} {C : Query → Prop} {c : Config} (h : Inv env C c) (k status : Str) :
    Inv env C (envMeta c k status) :=
  ⟨h.1.storeMeta k status, h.2⟩

/-- reachability under `StepAny`: all schedules of any length, interleaved with arbitrary metadata writes of the environment -/
inductive Reach (env : Env) : Config → Config → Prop where
  | refl (c : Config) : Reach env c c
  | tail {a b c : Config} : Reach env a b → StepAny env b c → Reach env a c

theorem Reach.inv {env : Env} {C : Query → Prop} {T : Str → Prop} (hC : Closed env C T)
    (hcanon : ∀ q, C q → CanonOK env q) (hext : ExtPrefix env) {a b : Config} (hr : Reach env a b) (h : Inv env C a) :
    Inv env C b := by
  induction hr with
  | refl => exact h
  | tail _ hs ih =>
    cases hs with
    | step i hi => exact stepAt_inv hC hcanon hext ih i
    | env k status => exact envMeta_inv ih k status

/-- a step that does nothing (index out of range) is reachable too, so schedules are reachable whatever their indices -/
theorem Reach.step {env : Env} {a b : Config} (h : Reach env a b) (i : Nat) : Reach env a (stepAt env b i) := by
  by_cases hi : i < b.threads.length
  · exact Reach.tail h (StepAny.step b i hi)
  · have : stepAt env b i = b := by
      unfold stepAt
      rw [List.getElem?_eq_none (by omega)]
    rw [this]; exact h

theorem Reach.envMeta {env : Env} {a b : Config} (h : Reach env a b) (k status : Str) :
    Reach env a (envMeta b k status) := Reach.tail h (StepAny.env b k status)

theorem Reach.runEvents {env : Env} (evs : List Ev) {a b : Config} (h : Reach env a b) :
    Reach env a (runEvents env b evs) := by
  induction evs generalizing b with
  | nil => exact h
  | cons e rest ih =>
    cases e with
    | thread i => exact ih (h.step i)
    | meta_ k status => exact ih (h.envMeta k status)

theorem Reach.trans {env : Env} {a b c : Config} (h1 : Reach env a b) (h2 : Reach env b c) : Reach env a c := by
  induction h2 with
  | refl => exact h1
  | tail _ hs ih => exact Reach.tail ih hs

theorem Reach.runSchedule {env : Env} (sched : List Nat) {a b : Config} (h : Reach env a b) :
    Reach env a (runSchedule env b sched) := by
  induction sched generalizing b with
  | nil => exact h
  | cons i rest ih => exact ih (h.step i)

theorem Reach.finishAll {env : Env} (n : Nat) {a b : Config} (h : Reach env a b) : Reach env a (finishAll env n b) := by
  induction n generalizing b with
  | zero => exact h
  | succ n ih =>
    unfold Liquer.finishAll
    split
    · exact h
    · exact ih (h.step _)

theorem runEvents_inv {env : Env} {C : Query → Prop} {T : Str → Prop} (hC : Closed env C T)
    (hcanon : ∀ q, C q → CanonOK env q) (hext : ExtPrefix env) (evs : List Ev) {c : Config} (h : Inv env C c) :
    Inv env C (runEvents env c evs) := ((Reach.refl c).runEvents evs).inv hC hcanon hext h

theorem runSchedule_inv {env : Env} {C : Query → Prop} {T : Str → Prop} (hC : Closed env C T)
    (hcanon : ∀ q, C q → CanonOK env q) (hext : ExtPrefix env) (sched : List Nat) {c : Config} (h : Inv env C c) :
    Inv env C (runSchedule env c sched) := ((Reach.refl c).runSchedule sched).inv hC hcanon hext h

theorem finishAll_inv {env : Env} {C : Query → Prop} {T : Str → Prop} (hC : Closed env C T)
    (hcanon : ∀ q, C q → CanonOK env q) (hext : ExtPrefix env) (n : Nat) {c : Config} (h : Inv env C c) :
    Inv env C (finishAll env n c) := ((Reach.refl c).finishAll n).inv hC hcanon hext h

end Liquer
