/-
`XORFileCache`: the byte-wise XOR with the tiled key is an involution, and no encoded byte equals the
plain byte at its offset when the key has no zero byte.
-/
import LiquerModel.CacheFile

namespace Liquer

theorem tile_length (code : Data) (n : Nat) : (tile code n).length = n * code.length := by
  induction n with
  | zero => simp [tile]
  | succ n ih => simp [tile, ih, Nat.succ_mul, Nat.add_comm]

theorem mem_tile (code : Data) (n : Nat) (x : UInt8) (h : x ∈ tile code n) : x ∈ code := by
  induction n with
  | zero => simp [tile] at h
  | succ n ih =>
    simp only [tile, List.mem_append] at h
    exact h.elim id ih

theorem codeOfLength_length (code : Data) (hne : code ≠ []) (n : Nat) : (codeOfLength code n).length = n := by
  have hpos : 0 < code.length := List.length_pos_iff.2 hne
  unfold codeOfLength
  split
  · next h => rw [List.length_take]; exact Nat.min_eq_left h
  · rw [List.length_take, tile_length, Nat.mul_comm]
    exact Nat.min_eq_left (Nat.le_of_lt (Nat.lt_mul_div_succ n hpos))

theorem xorEnc_length (code b : Data) (hne : code ≠ []) : (xorEnc code b).length = b.length := by
  rw [xorEnc, List.length_zipWith, codeOfLength_length code hne, Nat.min_self]

theorem mem_codeOfLength (code : Data) (n : Nat) (x : UInt8) (h : x ∈ codeOfLength code n) : x ∈ code := by
  unfold codeOfLength at h
  split at h
  · exact List.mem_of_mem_take h
  · exact mem_tile code _ x (List.mem_of_mem_take h)

theorem zipWith_xor_involutive : ∀ (b c : Data), b.length = c.length →
    List.zipWith (· ^^^ ·) (List.zipWith (· ^^^ ·) b c) c = b
  | [], [], _ => rfl
  | x :: b, y :: c, h => by
    simp only [List.zipWith_cons_cons, List.cons.injEq]
    refine ⟨?_, zipWith_xor_involutive b c (by simpa using h)⟩
    rw [UInt8.xor_assoc, UInt8.xor_self, UInt8.xor_zero]
  | [], _ :: _, h => by simp at h
  | _ :: _, [], h => by simp at h

/-- **decoding (= encoding again) restores the payload**, for every non-empty key and every payload -/
theorem xor_involutive (code b : Data) (hne : code ≠ []) : xorEnc code (xorEnc code b) = b := by
  rw [xorEnc, xorEnc_length code b hne]
  exact zipWith_xor_involutive b _ (codeOfLength_length code hne _).symm

theorem xor_ne_self (x c : UInt8) (hc : c ≠ 0) : x ^^^ c ≠ x := by
  intro h
  apply hc
  have : x ^^^ (x ^^^ c) = x ^^^ x := by rw [h]
  rwa [← UInt8.xor_assoc, UInt8.xor_self, UInt8.zero_xor] at this

/-- **no encoded byte equals the plain byte at its offset** when the key is non-empty and has no zero byte -/
theorem xor_hides (code b : Data) (hne : code ≠ []) (h0 : ∀ x ∈ code, x ≠ 0) (i : Nat) (hi : i < b.length) :
    (xorEnc code b)[i]? ≠ b[i]? := by
  have hc : i < (codeOfLength code b.length).length := by rw [codeOfLength_length code hne]; exact hi
  rw [xorEnc, List.getElem?_zipWith, List.getElem?_eq_getElem hi, List.getElem?_eq_getElem hc]
  exact fun h => xor_ne_self _ _ (h0 _ (mem_codeOfLength code _ _ (List.getElem_mem hc))) (Option.some.inj h)

example : xorEnc [0x5A, 0x13] [1, 2, 3] = [0x5B, 0x11, 0x59] := by decide +kernel
example : xorEnc [0x5A, 0x13] (xorEnc [0x5A, 0x13] [1, 2, 3]) = [1, 2, 3] := by decide +kernel

end Liquer
