/-
C12, file-operation granularity (3): the flat cache directory as an instance of `ConcFile2.lean` — what a reader sees after every
prefix of every interleaving of the file operations of two `FileCache.store` writers of one key and one `store_metadata` progress
writer (each of the last two possibly absent), and the frame for other keys.  The reader is `FileC.getSplit`
(`LiquerModel/ConcFileSplit.lean`): the metadata file read after `n1` file operations, the data file after `n2 ≥ n1` of them; with
`n1 = n2` it is the atomic reader `FileC.get`.
-/
import LiquerModel.ConcFileSplit
import LiquerProofs.Lemmas.ConcFile2

namespace Liquer
namespace Crash

/-- `FileCache.store` of one thread as a writer of the entry `state_<hk>.json`, `data_<hk>.<e>` -/
def flatStore (hk e : Str) (n1 n2 : Nat) (M : Data) : Writer FName := .store [] (.unlink (.data hk e)) (.tmp n1) (.tmp n2) M

theorem storeStepsN_eq (c : FileCfg) (n1 n2 : Nat) (st : CState) :
    storeStepsN c (.tmp n1) (.tmp n2) st =
      (flatStore (c.h st.metadata.query) (c.ext st.metadata.typeId) n1 n2 (c.enc (c.serM { st.metadata with status := ready }))).steps
        (.state (c.h st.metadata.query)) (.data (c.h st.metadata.query) (c.ext st.metadata.typeId))
        (c.enc (c.serD st.metadata.typeId st.data)) := rfl

theorem storeMetaStepsN_eq (c : FileCfg) (n : Nat) (m : CMeta) (D : FName) (X : Data) :
    storeMetaStepsN c (.tmp n) m = (Writer.progress [] (.tmp n) (c.enc (c.serM m))).steps (.state (c.h m.query)) D X := rfl

/-- **the invariant, flat**: store writers A and (if `hasB`) B of the entry `hk`, `e` with the data bytes `X`, (if `hasP`) a progress
writer; after `n1 ≤ n2` file operations of any interleaving the global part holds, and no other file is ever touched -/
theorem flat_inv (hk e : Str) (X MA MB MP : Data) (PN : Data → Prop) (d0 : CDir) (a1 a2 b1 b2 tp : Nat) (hasB hasP : Bool)
    (hdist : ([a1, a2] ++ (if hasB then [b1, b2] else []) ++ (if hasP then [tp] else [])).Nodup) (hMP : hasP = true → PN MP)
    (l : List (Step FName))
    (hl : Interleave3 ((flatStore hk e a1 a2 MA).steps (.state hk) (.data hk e) X)
      (if hasB then (flatStore hk e b1 b2 MB).steps (.state hk) (.data hk e) X else [])
      (if hasP then (Writer.progress [] (.tmp tp) MP).steps (.state hk) (.data hk e) X else []) l) (n1 n2 : Nat) (hn : n1 ≤ n2) :
    (∃ t1 dd1 t2 dd2 : Prop, (dd1 → dd2) ∧
      G AL.get id (.state hk) (.data hk e) X d0 (fun b => b = MA ∨ b = MB) PN t1 dd1 (runPrefix n1 l d0) ∧
      G AL.get id (.state hk) (.data hk e) X d0 (fun b => b = MA ∨ b = MB) PN t2 dd2 (runPrefix n2 l d0)) ∧
    ∀ nm : FName, nm ≠ .state hk → nm ≠ .data hk e → (∀ x, nm ≠ .tmp x) → ∀ m, AL.get (runPrefix m l d0) nm = AL.get d0 nm := by
  obtain ⟨h1, h2⟩ := writers_inv_when stepLawsC (N := fun _ => True) (PS := fun b => b = MA ∨ b = MB) (PN := PN) (d0 := d0)
    (S := .state hk) (D := .data hk e) (wA := flatStore hk e a1 a2 MA) (wB := flatStore hk e b1 b2 MB)
    (wP := .progress [] (.tmp tp) MP) FName.tmp (hinj := fun _ _ => FName.tmp.inj) (hSD := nofun) (hS := nofun) (hD := nofun)
    (hNS := trivial) (hND := trivial) (hNt := fun _ => trivial) (lA := [a1, a2]) (lB := [b1, b2]) (lP := [tp]) hasB hasP
    (htA := rfl) (htB := rfl) (htP := rfl) hdist (hA := ⟨(fun _ h => nomatch h), Or.inl rfl, Or.inl rfl⟩)
    (hB := fun _ => ⟨(fun _ h => nomatch h), Or.inl rfl, Or.inr rfl⟩) (hP := fun h => ⟨(fun _ h => nomatch h), hMP h⟩) l hl n1 n2 hn
  exact ⟨h1, fun nm => h2 nm trivial⟩

/-- `FileCache.get` as a reader in the sense of `ConcFile2.lean`: the data file is where the extension of the record's type says -/
def flatReader (c : FileCfg) (k : Str) : Reader FName Data where
  unfile := some
  S := .state (c.h k)
  Dof m := .data (c.h k) (c.ext m.typeId)
  decM b := (c.dec b).bind c.deM
  decD t b := (c.dec b).bind (c.deD t)

theorem getSplit_via (c : FileCfg) (dM dD : CDir) (k : Str) : FileC.getSplit c dM dD k = (flatReader c k).read AL.get dM dD := by
  simp only [FileC.getSplit, FileC.loadMeta, Reader.read, flatReader, readVia, dataPart]
  cases AL.get dM (.state (c.h k)) with
  | none => rfl
  | some b =>
    simp only [Option.bind_some]
    cases (c.dec b).bind c.deM with
    | none => rfl
    | some m =>
      dsimp only
      split
      · rfl
      · cases AL.get dD (.data (c.h k) (c.ext m.typeId)) <;> rfl

theorem loadMeta_via (c : FileCfg) (d : CDir) (k : Str) :
    FileC.loadMeta c d (.state (c.h k)) = ((AL.get d (flatReader c k).S).bind (flatReader c k).unfile).bind (flatReader c k).decM := by
  simp only [FileC.loadMeta, flatReader]; cases AL.get d (.state (c.h k)) <;> rfl

/-- the five possible answers of the split reader `R`: a miss, the complete new entry (A's or B's metadata), what the atomic reader
obtains from the initial directory, or — the fifth case — the READY metadata `m0` of the initial directory (of a type with the
extension of the new type) together with the NEW bytes decoded under the type `m0` names -/
def SplitAns (c : FileCfg) (d0 : CDir) (k tid : Str) (X : Data) (newA newB : CState) (R : Option CState) : Prop :=
  R = none ∨ R = some newA ∨ R = some newB ∨ R = FileC.get c d0 k ∨
  ∃ m0 w, FileC.loadMeta c d0 (.state (c.h k)) = some m0 ∧ m0.status = ready ∧ c.ext m0.typeId = c.ext tid ∧
    (c.dec X).bind (c.deD m0.typeId) = some w ∧ R = some { metadata := m0, data := w }

theorem SplitAnsG.flat {c : FileCfg} {d0 : CDir} {k tid : Str} {X : Data} {newA newB : CState} {R : Option CState}
    (h : SplitAnsG (flatReader c k) AL.get (.data (c.h k) (c.ext tid)) X d0 newA newB R) : SplitAns c d0 k tid X newA newB R := by
  rcases h with h | h | h | h | ⟨m0, w, h1, h2, h3, h4, h5⟩
  · exact Or.inl h
  · exact Or.inr (Or.inl h)
  · exact Or.inr (Or.inr (Or.inl h))
  · exact Or.inr (Or.inr (Or.inr (Or.inl (h.trans (getSplit_via c d0 d0 k).symm))))
  · exact Or.inr (Or.inr (Or.inr (Or.inr ⟨m0, w, (loadMeta_via c d0 k).trans h1, h2, (FName.data.inj h3).2, h4, h5⟩)))

theorem stepsB_eq (c : FileCfg) (stA stB : CState) (b1 b2 : Nat)
    (hq : stB.metadata.query = stA.metadata.query) (hty : stB.metadata.typeId = stA.metadata.typeId)
    (hdata : c.enc (c.serD stB.metadata.typeId stB.data) = c.enc (c.serD stA.metadata.typeId stA.data)) :
    storeStepsN c (.tmp b1) (.tmp b2) stB =
      (flatStore (c.h stA.metadata.query) (c.ext stA.metadata.typeId) b1 b2 (c.enc (c.serM { stB.metadata with status := ready }))).steps
        (.state (c.h stA.metadata.query)) (.data (c.h stA.metadata.query) (c.ext stA.metadata.typeId))
        (c.enc (c.serD stA.metadata.typeId stA.data)) := by
  rw [storeStepsN_eq]
  generalize c.enc (c.serM { stB.metadata with status := ready }) = MB
  rw [hdata, hq, hty]

/-- **the core**: store writers A and (if `hasB`) B of one key and (if `hasP`) a progress writer; a reader that reads the metadata
file after `n1` and the data file after `n2 ≥ n1` file operations of any interleaving obtains one of the five answers — with
`n1 = n2` what it obtained from `d0`, a miss, or the complete new entry —, and every key with another digest reads as in `d0` -/
theorem flat_core (c : FileCfg) (d0 : CDir) (stA stB : CState) (okA : CodecAt c stA) (okB : CodecAt c stB)
    (hq : stB.metadata.query = stA.metadata.query) (hty : stB.metadata.typeId = stA.metadata.typeId)
    (hdata : c.enc (c.serD stB.metadata.typeId stB.data) = c.enc (c.serD stA.metadata.typeId stA.data))
    (mP : CMeta) (hPq : c.h mP.query = c.h stA.metadata.query) (a1 a2 b1 b2 tp : Nat) (hasB hasP : Bool)
    (hdist : ([a1, a2] ++ (if hasB then [b1, b2] else []) ++ (if hasP then [tp] else [])).Nodup)
    (hP : hasP = true → ∀ m, (c.dec (c.enc (c.serM mP))).bind c.deM = some m → m.status ≠ ready) (l : List (Step FName))
    (hl : Interleave3 (storeStepsN c (.tmp a1) (.tmp a2) stA) (if hasB then storeStepsN c (.tmp b1) (.tmp b2) stB else [])
      (if hasP then storeMetaStepsN c (.tmp tp) mP else []) l) (n1 n2 : Nat) (hn : n1 ≤ n2) :
    SplitAnsG (flatReader c stA.metadata.query) AL.get (.data (c.h stA.metadata.query) (c.ext stA.metadata.typeId))
      (c.enc (c.serD stA.metadata.typeId stA.data)) d0 { metadata := { stA.metadata with status := ready }, data := stA.data }
      { metadata := { stB.metadata with status := ready }, data := stA.data }
      (FileC.getSplit c (runPrefix n1 l d0) (runPrefix n2 l d0) stA.metadata.query) ∧
    (n1 = n2 →
      FileC.get c (runPrefix n2 l d0) stA.metadata.query = FileC.get c d0 stA.metadata.query ∨
      FileC.get c (runPrefix n2 l d0) stA.metadata.query = none ∨
      FileC.get c (runPrefix n2 l d0) stA.metadata.query = some { metadata := { stA.metadata with status := ready }, data := stA.data } ∨
      FileC.get c (runPrefix n2 l d0) stA.metadata.query = some { metadata := { stB.metadata with status := ready }, data := stA.data }) ∧
    ∀ k', c.h k' ≠ c.h stA.metadata.query →
      FileC.getSplit c (runPrefix n1 l d0) (runPrefix n2 l d0) k' = FileC.get c d0 k' := by
  rw [storeStepsN_eq, stepsB_eq c stA stB b1 b2 hq hty hdata, storeMetaStepsN_eq c tp mP
    (.data (c.h stA.metadata.query) (c.ext stA.metadata.typeId)) (c.enc (c.serD stA.metadata.typeId stA.data)), hPq] at hl
  obtain ⟨⟨t1, dd1, t2, dd2, hdd, hG1, hG2⟩, hun⟩ := flat_inv _ _ _ _ _ _
    (fun b => ∀ m, (c.dec b).bind c.deM = some m → m.status ≠ ready) d0 a1 a2 b1 b2 tp hasB hasP hdist hP l hl n1 n2 hn
  -- the data files of other types are never touched
  have hother : ∀ n (m : CMeta), FName.data (c.h stA.metadata.query) (c.ext m.typeId) ≠
      .data (c.h stA.metadata.query) (c.ext stA.metadata.typeId) →
      AL.get (runPrefix n l d0) (.data (c.h stA.metadata.query) (c.ext m.typeId)) = AL.get d0 (.data (c.h stA.metadata.query) (c.ext m.typeId)) :=
    fun n m hne => hun (.data (c.h stA.metadata.query) (c.ext m.typeId)) nofun hne nofun n
  have hA : (flatReader c stA.metadata.query).Ready (.data (c.h stA.metadata.query) (c.ext stA.metadata.typeId))
      (c.enc (c.serD stA.metadata.typeId stA.data)) stA.data _ _ := ⟨okA.metaOK, rfl, rfl, okA.dataOK⟩
  have hB : (flatReader c stA.metadata.query).Ready (.data (c.h stA.metadata.query) (c.ext stA.metadata.typeId))
      (c.enc (c.serD stA.metadata.typeId stA.data)) stA.data _ _ :=
    ⟨okB.metaOK, rfl, congrArg (fun t => FName.data _ (c.ext t)) hty, (congrArg (fun t => (c.dec _).bind (c.deD t)) hty).trans okA.dataOK⟩
  refine ⟨?_, fun _ => ?_, fun k' hne => ?_⟩
  · rw [getSplit_via]
    exact read_split (fun _ => rfl) hG1 hG2 hdd (hother n2) hA hB (fun _ h => h)
  · rw [show FileC.get c d0 stA.metadata.query = _ from getSplit_via c d0 d0 _,
      show FileC.get c (runPrefix n2 l d0) stA.metadata.query = _ from getSplit_via c _ _ _]
    exact read_atomic (fun _ => rfl) hG2 (hother n2) hA hB (fun _ h => h)
  · rw [getSplit_via, show FileC.get c d0 k' = _ from getSplit_via c d0 d0 k']
    unfold Reader.read
    rw [show AL.get (runPrefix n1 l d0) (flatReader c k').S = _ from hun (.state (c.h k')) (by simp [hne]) nofun nofun n1]
    congr 1; funext m
    exact congrArg (·.bind some) (hun (.data (c.h k') (c.ext m.typeId)) nofun (by simp [hne]) nofun n2)

end Crash
end Liquer
