/-
C12, world side: what a thread may do to the shared cache without breaking `Sound`, and what a `Sound` cache answers.
`GoodAt env k st` is the body of `Sound` for one key; an answer of the cache is good when it is a miss or `GoodAt` its key; a
trace operation is harmless when it writes no data (`get`, `storeMeta`, `remove`) or writes `GoodAt` data under its own key.
-/
import LiquerModel.Conc
import LiquerProofs.Lemmas.EvalBasic

namespace Liquer

/-- `st` is, up to `status`, the successful, non-volatile, cacheable reference value of the key text `k` (the body of `Sound`) -/
def GoodAt (env : Env) (k : Str) (st : EState) : Prop :=
  ∃ fuel st' c, refText env fuel k = (.st st', c) ∧ st'.isError = false ∧ st'.volatile = false ∧
    st'.caching = true ∧ st.core = st'.core

theorem sound_iff (env : Env) (w : World) : Sound env w ↔ ∀ k st, w.dataAt k = some st → GoodAt env k st := Iff.rfl

/-- an answer to `get k`: a miss, or a good value of `k` -/
def GoodAns (env : Env) (k : Str) (a : Option EState) : Prop := ∀ st, a = some st → GoodAt env k st

@[simp] theorem GoodAns.none (env : Env) (k : Str) : GoodAns env k none := fun _ h => by simp at h

/-- what one trace operation is allowed to do to a shared cache -/
def OpGood (env : Env) : COp → Prop
  | .store st => GoodAt env st.query st
  | _ => True

theorem Sound.get_good {env : Env} {w : World} (h : Sound env w) (k : Str) : GoodAns env k (w.get k) :=
  fun _ hg => h.get hg

@[simp] theorem applyOp_get (acc : World × List (Option EState)) (k : Str) :
    applyOp acc (.get k) = (acc.1, acc.2 ++ [acc.1.get k]) := rfl
@[simp] theorem applyOp_storeMeta (acc : World × List (Option EState)) (k x : Str) :
    applyOp acc (.storeMeta k x) = (acc.1.storeMeta k x, acc.2) := rfl
@[simp] theorem applyOp_store (acc : World × List (Option EState)) (st : EState) :
    applyOp acc (.store st) = (acc.1.store st, acc.2) := rfl
@[simp] theorem applyOp_remove (acc : World × List (Option EState)) (k : Str) :
    applyOp acc (.remove k) = (acc.1.remove k, acc.2) := rfl

theorem Sound.applyOp {env : Env} {acc : World × List (Option EState)} (h : Sound env acc.1) {op : COp}
    (hop : OpGood env op) : Sound env (applyOp acc op).1 := by
  cases op with
  | get k => exact h
  | storeMeta k x => exact h.storeMeta k x
  | store st => exact h.store st hop
  | remove k => exact h.remove k

theorem applyOp_answers (acc : World × List (Option EState)) (op : COp) :
    (applyOp acc op).2 = match op with
      | .get k => acc.2 ++ [acc.1.get k]
      | _ => acc.2 := by
  cases op <;> rfl

theorem foldl_metas {env : Env} (ops : List COp) (hm : ∀ op ∈ ops, op.isMeta = true)
    (acc : World × List (Option EState)) (h : Sound env acc.1) :
    Sound env (ops.foldl applyOp acc).1 ∧ (ops.foldl applyOp acc).2 = acc.2 := by
  induction ops generalizing acc with
  | nil => exact ⟨h, rfl⟩
  | cons op ops ih =>
    have hop := hm op (List.mem_cons_self ..)
    cases op with
    | storeMeta k x =>
      simp only [List.foldl_cons, applyOp_storeMeta]
      exact ih (fun o ho => hm o (List.mem_cons_of_mem _ ho)) _ (h.storeMeta k x)
    | _ => simp [COp.isMeta] at hop

theorem World.dataAt_storeMeta_self (w : World) (hen : w.enabled = true) (k status : Str) :
    (w.storeMeta k status).dataAt k = if w.metaKeepsData then w.dataAt k else none := by
  unfold World.storeMeta
  cases he : w.entry k with
  | none =>
    simp only [World.dataAt_put_enabled w hen, if_true]
    simp [World.dataAt, he]
  | some e =>
    simp only [World.dataAt_put_enabled w hen, if_true]
    simp [World.dataAt, he]

theorem World.dataAt_storeMeta_other (w : World) (k status k' : Str) (hk : k' ≠ k) :
    (w.storeMeta k status).dataAt k' = w.dataAt k' := by
  cases hen : w.enabled with
  | false => unfold World.storeMeta; split <;> rw [World.put_disabled hen]
  | true => unfold World.storeMeta; split <;> simp [World.dataAt_put_enabled w hen, hk]

end Liquer
