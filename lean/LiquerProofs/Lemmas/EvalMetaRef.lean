/-
The names of namespace `C18R` that the statements of Props/C18.lean use, as instances of Lemmas/RefStep.lean; the lemma files
of C18 up to EvalMetaAttrs.lean rest on RefStep.lean and not on the proofs about the evaluator with cache.
-/
import LiquerProofs.Lemmas.RefStep

namespace Liquer.C18R
open Liquer

def initSt (env : Env) (input : Option Val) : EState := { vars := env.defaults, data := input.getD .none }

def refLink (env : Env) (n : Nat) (lq : Query) (parent : Str) : Outcome × List Str :=
  if lq.absolute || parent.isEmpty || parent == ['/'] then refQ env n lq (lq.encode Gen.escapeTable) .none none
  else
    match lq with
    | .mk [.transform h as f] _ =>
      (match parse env.dec parent with
       | none => (.unmodelled, [])
       | some pq => refText env n ((Query.mk (pq.segments ++ [.transform h as f]) pq.absolute).encode Gen.escapeTable))
    | _ => (.unmodelled, [])

theorem refText_zero (env : Env) (t : Str) : refText env 0 t = (.unmodelled, []) := rfl

theorem refText_succ (env : Env) (n : Nat) (t : Str) :
    refText env (n+1) t = match parse env.dec t with
      | none => (.parseError, [])
      | some q => refQ env n q t .none none := by
  rw [Liquer.refText_succ]
  cases parse env.dec t <;> rfl

theorem refParams_raw_indep (env : Env) (raw' : Str) : ∀ n ps raw parent g, (refParams env n ps raw parent).1 = .inl g →
    refParams env n ps raw' parent = refParams env n ps raw parent :=
  Liquer.refParams_raw_indep env raw'

end Liquer.C18R
