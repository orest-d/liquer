/-
The terminals of the PEG model (`LiquerModel/Parse.lean`) on input without white space: literals,
character classes and regular expressions. The two facts everything later rests on are `lit_append`
and `re_append`: a terminal consumes exactly the text it was printed from when what follows cannot
extend it.
-/
import LiquerModel.WF
import LiquerProofs.Lemmas.Quote
import LiquerProofs.Inst.Grammar

namespace Liquer
open PS

/-- the text contains no white-space character (so `skipWs` is the identity on every suffix) -/
def NoWs (s : Str) : Prop := ∀ c ∈ s, isWhite c = false

theorem NoWs.nil : NoWs [] := fun _ h => nomatch h

theorem NoWs.append {a b : Str} (ha : NoWs a) (hb : NoWs b) : NoWs (a ++ b) :=
  fun c hc => (List.mem_append.mp hc).elim (ha c) (hb c)

theorem NoWs.left {a b : Str} (h : NoWs (a ++ b)) : NoWs a :=
  fun c hc => h c (List.mem_append_left _ hc)

theorem NoWs.right {a b : Str} (h : NoWs (a ++ b)) : NoWs b :=
  fun c hc => h c (List.mem_append_right _ hc)

theorem NoWs.cons {c : Char} {a : Str} (hc : isWhite c = false) (ha : NoWs a) : NoWs (c :: a) :=
  List.forall_mem_cons.mpr ⟨hc, ha⟩

theorem NoWs.tail {c : Char} {a : Str} (h : NoWs (c :: a)) : NoWs a :=
  (List.forall_mem_cons.mp h).2

theorem NoWs.head {c : Char} {a : Str} (h : NoWs (c :: a)) : isWhite c = false :=
  (List.forall_mem_cons.mp h).1

theorem NoWs.drop {a : Str} (h : NoWs a) (n : Nat) : NoWs (a.drop n) :=
  fun x hx => h x (List.mem_of_mem_drop hx)

theorem skipWs_noWs {r : Str} {p : Nat} (h : NoWs r) : (⟨r, p⟩ : PS).skipWs = ⟨r, p⟩ := by
  cases r with
  | nil => rfl
  | cons c t => simp [skipWs, List.takeWhile, h.head]

theorem lit_noWs {l r : Str} {p : Nat} (h : NoWs r) :
    lit l ⟨r, p⟩ = if isPrefix l r then some ⟨r.drop l.length, p + l.length⟩ else none := by
  simp only [lit, skipWs_noWs h]

theorem lit_append {l r : Str} {p : Nat} (h : NoWs (l ++ r)) :
    lit l ⟨l ++ r, p⟩ = some ⟨r, p + l.length⟩ := by
  rw [lit_noWs h, if_pos ((isPrefix_iff _ _).mpr ⟨r, rfl⟩), List.drop_left]

theorem lit_cons {c : Char} {r : Str} {p : Nat} (h : NoWs (c :: r)) :
    lit [c] ⟨c :: r, p⟩ = some ⟨r, p + 1⟩ :=
  lit_append (l := [c]) h

theorem lit_ne_head {a : Char} {l r : Str} {p : Nat} (h : NoWs r) (hne : r.head? ≠ some a) :
    lit (a :: l) ⟨r, p⟩ = none := by
  rw [lit_noWs h]
  cases r with
  | nil => rfl
  | cons c r =>
    have : a ≠ c := fun e => hne (e ▸ rfl)
    simp [isPrefix, this]

theorem eq_cons_of_head? {r : Str} {c : Char} (h : r.head? = some c) : ∃ t, r = c :: t := by
  cases r with
  | nil => cases h
  | cons a t => exact ⟨t, by rw [Option.some.inj h]⟩

theorem atEnd_nil {p : Nat} : atEnd ⟨[], p⟩ = true := rfl

theorem atEnd_cons {c : Char} {r : Str} {p : Nat} (h : NoWs (c :: r)) : atEnd ⟨c :: r, p⟩ = false := by
  simp [atEnd, skipWs_noWs h]

/-- the text is empty or begins with a character outside the class -/
def stopAt (rs : List (Nat × Nat)) : Str → Bool
  | [] => true
  | c :: _ => !inRanges rs c

theorem stopAt_cons {rs : List (Nat × Nat)} {c : Char} {t : Str} (h : inRanges rs c = false) :
    stopAt rs (c :: t) = true := by
  simp [stopAt, h]

/-- the text is empty or begins with one of the characters `ds` -/
def HeadIn (ds : List Char) (r : Str) : Prop := ∀ c, r.head? = some c → c ∈ ds

theorem HeadIn.nil {ds : List Char} : HeadIn ds [] := fun _ h => nomatch h

theorem HeadIn.cons {ds : List Char} {c : Char} {t : Str} (h : c ∈ ds) : HeadIn ds (c :: t) :=
  fun _ e => Option.some.inj e ▸ h

theorem HeadIn.mono {ds ds' : List Char} {r : Str} (h : HeadIn ds r) (hs : ds ⊆ ds') : HeadIn ds' r :=
  fun c e => hs (h c e)

theorem HeadIn.ne {ds : List Char} {r : Str} (h : HeadIn ds r) {a : Char} (ha : a ∉ ds) :
    r.head? ≠ some a :=
  fun e => ha (h a e)

theorem HeadIn.stopAt {ds : List Char} {r : Str} (h : HeadIn ds r) {rs : List (Nat × Nat)}
    (hall : ds.all (fun c => !inRanges rs c) = true) : stopAt rs r = true := by
  cases r with
  | nil => rfl
  | cons c t => exact List.all_eq_true.mp hall c (h c rfl)

theorem not_inRanges_of_all {rs : List (Nat × Nat)} {ds : List Char}
    (h : ds.all (fun c => !inRanges rs c) = true) {c : Char} (hc : c ∈ ds) : inRanges rs c = false := by
  simpa using List.all_eq_true.mp h c hc

theorem inRanges_single {n : Nat} {c : Char} : inRanges [(n, n)] c = true ↔ c.toNat = n := by
  simp only [inRanges, List.any_cons, List.any_nil, Bool.or_false, Bool.and_eq_true, decide_eq_true_eq]
  omega

theorem stopAt_single {d : Char} {r : Str} (h : r.head? ≠ some d) :
    stopAt [(d.toNat, d.toNat)] r = true := by
  cases r with
  | nil => rfl
  | cons c t =>
    cases hc : inRanges [(d.toNat, d.toNat)] c with
    | false => exact stopAt_cons hc
    | true => exact absurd (congrArg some ((char_eq_iff _ _).mpr (inRanges_single.mp hc))) h

theorem subRanges_sound {a b : List (Nat × Nat)} (h : Inst.subRanges a b = true) {c : Char}
    (hc : inRanges a c = true) : inRanges b c = true := by
  simp only [inRanges, List.any_eq_true, Bool.and_eq_true, decide_eq_true_eq] at hc ⊢
  obtain ⟨x, hx, h1, h2⟩ := hc
  have := List.all_eq_true.mp h x hx
  simp only [List.any_eq_true, Bool.and_eq_true, decide_eq_true_eq] at this
  obtain ⟨y, hy, h3, h4⟩ := this
  exact ⟨y, hy, by omega, by omega⟩

theorem takeClass_zero (rs : List (Nat × Nat)) (s : Str) : takeClass rs (some 0) s = ([], s) := by
  cases s <;> simp [takeClass]

theorem takeClass_nil (rs : List (Nat × Nat)) (lim : Option Nat) : takeClass rs lim [] = ([], []) := by
  rcases lim with _ | _ | k <;> simp [takeClass]

theorem takeClass_cons (rs : List (Nat × Nat)) (lim : Option Nat) (c : Char) (cs : Str) :
    takeClass rs lim (c :: cs) =
      if lim = some 0 ∨ inRanges rs c = false then ([], c :: cs)
      else (c :: (takeClass rs (lim.map (· - 1)) cs).1, (takeClass rs (lim.map (· - 1)) cs).2) := by
  rcases lim with _ | _ | k <;> cases h : inRanges rs c <;> simp [takeClass, h]

theorem takeClass_cons_none (rs : List (Nat × Nat)) (c : Char) (cs : Str) :
    takeClass rs none (c :: cs) =
      if inRanges rs c then (c :: (takeClass rs none cs).1, (takeClass rs none cs).2) else ([], c :: cs) := by
  cases h : inRanges rs c <;> simp [takeClass_cons, h]

theorem takeClass_cons_one (rs : List (Nat × Nat)) (c : Char) (cs : Str) :
    takeClass rs (some 1) (c :: cs) = if inRanges rs c then ([c], cs) else ([], c :: cs) := by
  cases h : inRanges rs c <;> simp [takeClass_cons, h, takeClass_zero]

theorem takeClass_stop {rs : List (Nat × Nat)} {s : Str} (h : stopAt rs s = true) (lim : Option Nat) :
    takeClass rs lim s = ([], s) := by
  cases s with
  | nil => exact takeClass_nil rs lim
  | cons c cs => rw [takeClass_cons, if_pos (Or.inr (by simpa [stopAt] using h))]

theorem takeClass_append (rs : List (Nat × Nat)) (rest : Str) (hstop : stopAt rs rest = true) :
    ∀ (s : Str) (lim : Option Nat),
      takeClass rs lim (s ++ rest) = ((takeClass rs lim s).1, (takeClass rs lim s).2 ++ rest)
  | [], lim => by rw [takeClass_nil, List.nil_append, takeClass_stop hstop]
  | c :: cs, lim => by
    rw [List.cons_append, takeClass_cons, takeClass_cons]
    split
    · rfl
    · rw [takeClass_append rs rest hstop cs]

theorem takeClass_spec (rs : List (Nat × Nat)) :
    ∀ (s : Str) (lim : Option Nat),
      s = (takeClass rs lim s).1 ++ (takeClass rs lim s).2 ∧
      ∀ c ∈ (takeClass rs lim s).1, inRanges rs c = true
  | [], lim => by simp [takeClass_nil]
  | c :: cs, lim => by
    rw [takeClass_cons]
    split
    · simp
    next h =>
      obtain ⟨h1, h2⟩ := takeClass_spec rs cs (lim.map (· - 1))
      refine ⟨by rw [List.cons_append, ← h1], List.forall_mem_cons.mpr ⟨?_, h2⟩⟩
      simpa using (not_or.mp h).2

theorem takeClass_run (rs : List (Nat × Nat)) {rest : Str} (hstop : stopAt rs rest = true) :
    ∀ (m : Str), (∀ c ∈ m, inRanges rs c = true) → takeClass rs none (m ++ rest) = (m, rest)
  | [], _ => takeClass_stop hstop none
  | c :: cs, hm => by
    have ⟨hc, hcs⟩ := List.forall_mem_cons.mp hm
    rw [List.cons_append, takeClass_cons_none, if_pos hc, takeClass_run rs hstop cs hcs]

theorem matchRe_nil (s : Str) : matchRe [] s = some ([], s) := rfl

theorem matchRe_cons (it : ReItem) (its : Re) (s : Str) :
    matchRe (it :: its) s =
      if (takeClass it.ranges it.max s).1.length < it.min then none
      else match matchRe its (takeClass it.ranges it.max s).2 with
        | none => none
        | some (m2, r2) => some ((takeClass it.ranges it.max s).1 ++ m2, r2) := by
  simp only [matchRe]
  rfl

theorem matchRe_cons_some {it : ReItem} {its : Re} {s m t : Str} (h : matchRe (it :: its) s = some (m, t)) :
    ∃ m2, matchRe its (takeClass it.ranges it.max s).2 = some (m2, t) ∧
      m = (takeClass it.ranges it.max s).1 ++ m2 := by
  rw [matchRe_cons] at h
  split at h
  · cases h
  · cases hm : matchRe its (takeClass it.ranges it.max s).2 with
    | none => simp [hm] at h
    | some mr =>
      simp only [hm, Option.some.injEq, Prod.mk.injEq] at h
      exact ⟨mr.1, by rw [← h.2], h.1.symm⟩

theorem matchRe_spec : ∀ (r : Re) (s m t : Str), matchRe r s = some (m, t) →
    s = m ++ t ∧ ∀ c ∈ m, ∃ it ∈ r, inRanges it.ranges c = true
  | [], s, m, t, h => by
    simp only [matchRe_nil, Option.some.injEq, Prod.mk.injEq] at h
    simp [← h.1, h.2]
  | it :: its, s, m, t, h => by
    obtain ⟨m2, hm, rfl⟩ := matchRe_cons_some h
    obtain ⟨h1, h2⟩ := takeClass_spec it.ranges s it.max
    obtain ⟨h3, h4⟩ := matchRe_spec its _ _ _ hm
    refine ⟨by rw [List.append_assoc, ← h3, ← h1], fun c hc => ?_⟩
    rcases List.mem_append.mp hc with hc | hc
    · exact ⟨it, List.mem_cons_self, h2 c hc⟩
    · obtain ⟨it', hi, hin⟩ := h4 c hc
      exact ⟨it', List.mem_cons_of_mem _ hi, hin⟩

theorem matchRe_append : ∀ (r : Re) (name m rest : Str), matchRe r name = some (m, []) →
    (∀ it ∈ r, stopAt it.ranges rest = true) → matchRe r (name ++ rest) = some (name, rest)
  | [], name, m, rest, h, _ => by
    simp only [matchRe_nil, Option.some.injEq, Prod.mk.injEq] at h
    simp [matchRe_nil, h.2]
  | it :: its, name, m, rest, h, hstop => by
    have heq := (matchRe_spec _ _ _ _ h).1
    obtain ⟨m2, hm, rfl⟩ := matchRe_cons_some h
    have hmin : ¬ (takeClass it.ranges it.max name).1.length < it.min := by
      intro hlt; rw [matchRe_cons, if_pos hlt] at h; cases h
    rw [matchRe_cons, takeClass_append it.ranges rest (hstop it List.mem_cons_self), if_neg hmin,
      matchRe_append its _ _ rest hm (fun it' hi => hstop it' (List.mem_cons_of_mem _ hi))]
    simp only [Option.some.injEq, Prod.mk.injEq, and_true]
    exact ((takeClass_spec it.ranges name it.max).1).symm

theorem fullMatch_iff (r : Re) (s : Str) : fullMatch r s = true ↔ matchRe r s = some (s, []) := by
  unfold fullMatch
  constructor
  · intro h
    split at h
    next m hm =>
      have := (matchRe_spec _ _ _ _ hm).1
      rw [hm, this, List.append_nil]
    · cases h
  · intro h; simp [h]

theorem fullMatch_mem {r : Re} {s : Str} (h : fullMatch r s = true) :
    ∀ c ∈ s, ∃ it ∈ r, inRanges it.ranges c = true :=
  (matchRe_spec r s s [] ((fullMatch_iff _ _).mp h)).2

theorem re_noWs {r : Re} {s : Str} {p : Nat} (hws : NoWs s) :
    PS.re r ⟨s, p⟩ = match matchRe r s with
      | some (m, rest) => some (m, ⟨rest, p + m.length⟩)
      | none => none := by
  simp only [PS.re, skipWs_noWs hws]
  rfl

theorem re_append {r : Re} {name rest : Str} {p : Nat} (hf : fullMatch r name = true)
    (hstop : ∀ it ∈ r, stopAt it.ranges rest = true) (hws : NoWs (name ++ rest)) :
    PS.re r ⟨name ++ rest, p⟩ = some (name, ⟨rest, p + name.length⟩) := by
  rw [re_noWs hws, matchRe_append r name name rest ((fullMatch_iff _ _).mp hf) hstop]

theorem matchRe_fail_first {it : ReItem} {its : Re} {s : Str} (hmin : 1 ≤ it.min)
    (hs : stopAt it.ranges s = true) : matchRe (it :: its) s = none := by
  rw [matchRe_cons, takeClass_stop hs]
  exact if_pos hmin

theorem re_fail_first {rs : List (Nat × Nat)} {mx : Option Nat} {its : Re} {s : Str} {p : Nat}
    (hws : NoWs s) (hs : stopAt rs s = true) : PS.re (⟨rs, 1, mx⟩ :: its) ⟨s, p⟩ = none := by
  rw [re_noWs hws, matchRe_fail_first (Nat.le_refl 1) hs]

theorem matchRe_one_some {rs : List (Nat × Nat)} {its : Re} {s m t : Str}
    (h : matchRe (⟨rs, 1, some 1⟩ :: its) s = some (m, t)) :
    ∃ c s' m', s = c :: s' ∧ inRanges rs c = true ∧ matchRe its s' = some (m', t) ∧ m = c :: m' := by
  obtain ⟨m2, h2, rfl⟩ := matchRe_cons_some h
  rw [matchRe_cons] at h
  cases s with
  | nil => simp [takeClass_nil] at h
  | cons c s' =>
    cases hc : inRanges rs c with
    | false => simp [takeClass_cons_one, hc] at h
    | true =>
      simp only [takeClass_cons_one, hc, ↓reduceIte] at h2 ⊢
      exact ⟨c, s', m2, rfl, hc, h2, rfl⟩

theorem fullMatch_first {rs : List (Nat × Nat)} {its : Re} {s : Str}
    (h : fullMatch (⟨rs, 1, some 1⟩ :: its) s = true) : ∃ c t, s = c :: t ∧ inRanges rs c = true := by
  obtain ⟨c, s', _, rfl, hc, _⟩ := matchRe_one_some ((fullMatch_iff _ _).mp h)
  exact ⟨c, s', rfl, hc⟩

end Liquer
