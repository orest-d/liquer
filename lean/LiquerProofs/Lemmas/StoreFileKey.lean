/-
The `FileStore` model `fileOps root` (POSIX tree `PFS`) at ONE plain key `k`: what a successful `store` /
`store_metadata` of another key can change (`Touch`), when the writes of `k` succeed (`fileWritable`) and what they
leave (`FEntry`, `FGone`), and the reads of `k` in those states.  The states include a metadata file without a data file
(what a failed recipe leaves), which the reference store does not have: of StoreFileRef2 only the path arithmetic of plain
keys is used, not the simulation `SimF`.
-/
import LiquerProofs.Lemmas.StoreFileRef2

namespace Liquer

theorem mdir_dropLast (root : Path) (k : Key) : (root ++ metaRel k).dropLast = root ++ (k.dropLast ++ [metaDirName]) := by
  rw [metaRel_path, List.dropLast_concat, List.append_assoc]

theorem metaRel_not_prefix_mdir (root : Path) (k : Key) : ¬ root ++ metaRel k <+: root ++ (k.dropLast ++ [metaDirName]) := by
  intro h
  have := h.length_le
  simp [metaRel] at this

theorem key_not_prefix_mdir (root : Path) {k : Key} (hk : PlainKey k) (hk0 : k ≠ []) :
    ¬ root ++ k <+: root ++ (k.dropLast ++ [metaDirName]) := by
  intro h
  have hl : (root ++ k).length = (root ++ (k.dropLast ++ [metaDirName])).length := by
    have h0 : 0 < k.length := List.length_pos_iff.mpr hk0
    simp only [List.length_append, List.length_dropLast, List.length_cons, List.length_nil]
    omega
  have := h.eq_of_length hl
  exact plain_ne_mdir hk.no_meta _ ((root_append_inj root).mp this)

theorem metaRel_ne_key (root : Path) {k : Key} (hk : PlainKey k) : root ++ metaRel k ≠ root ++ k := by
  rw [Ne, root_append_inj]; exact fun e => plain_ne_metaRel hk.no_meta _ e.symm

theorem parent_prefix_mdir (root : Path) (k : Key) : root ++ k.dropLast <+: root ++ (k.dropLast ++ [metaDirName]) := by
  rw [← List.append_assoc]; exact List.prefix_append _ _

/-- what a successful `store_metadata k` may have changed: the metadata file (which was no directory), and absent
directories on the way to it, now created -/
def TouchM (root : Path) (k : Key) (s s' : PFS) : Prop :=
  ∀ q, s'.get q = s.get q ∨ (s.get q ≠ some .dir ∧ q = root ++ metaRel k) ∨
    (s.get q = none ∧ s'.get q = some .dir ∧ q <+: root ++ (k.dropLast ++ [metaDirName]))

/-- … a successful `store k`: the same, and the data file -/
def Touch (root : Path) (k : Key) (s s' : PFS) : Prop :=
  ∀ q, s'.get q = s.get q ∨ (s.get q ≠ some .dir ∧ (q = root ++ k ∨ q = root ++ metaRel k)) ∨
    (s.get q = none ∧ s'.get q = some .dir ∧ q <+: root ++ (k.dropLast ++ [metaDirName]))

theorem TouchM.touch {root : Path} {k : Key} {s s' : PFS} (h : TouchM root k s s') : Touch root k s s' := by
  intro q
  rcases h q with a | ⟨a, b⟩ | a
  · exact Or.inl a
  · exact Or.inr (Or.inl ⟨a, Or.inr b⟩)
  · exact Or.inr (Or.inr a)

theorem Touch.refl (root : Path) (k : Key) (s : PFS) : Touch root k s s := fun _ => Or.inl rfl

variable {root : Path}

theorem File.storeMeta_touch {s s' : PFS} {k : Key} (hk : PlainKey k) (hk0 : k ≠ []) {m : UMeta}
    (h : File.storeMeta root s k m = .ok s') : TouchM root k s s' := by
  unfold File.storeMeta at h
  obtain ⟨mp, hmetaPath, h⟩ := Except.bind_ok h
  obtain ⟨s1, hmkdir, hwrite⟩ := Except.bind_ok h
  rw [File.metaPath_plain root hk hk0] at hmetaPath
  cases hmetaPath
  rw [mdir_dropLast] at hmkdir
  obtain ⟨w1, w2, rfl⟩ := PFS.write_inv hwrite
  intro q
  rw [PFS.get_set _ w1]
  by_cases e : root ++ metaRel k = q
  · subst e
    exact Or.inr (Or.inl ⟨PFS.mkdirP_notdir hmkdir w2 ▸ w2, rfl⟩)
  · rw [if_neg e, (PFS.mkdirP_get hmkdir).2]
    split
    · rename_i c
      exact Or.inr (Or.inr ⟨c.2, rfl, c.1⟩)
    · exact Or.inl rfl

theorem File.store_touch {s s' : PFS} {k : Key} (hk : PlainKey k) (hk0 : k ≠ []) {d : Data} {m : UMeta}
    (h : File.store root s k d m = .ok s') : Touch root k s s' := by
  unfold File.store at h
  obtain ⟨p, hpath, h⟩ := Except.bind_ok h
  obtain ⟨_, _hmetaPath, h⟩ := Except.bind_ok h
  obtain ⟨s1, hmkdir, h⟩ := Except.bind_ok h
  obtain ⟨s2, hwrite, hstoreMeta⟩ := Except.bind_ok h
  rw [File.path_plain root hk] at hpath
  cases hpath
  rw [compsParts_plain hk, List.dropLast_append_of_ne_nil hk0] at hmkdir
  obtain ⟨w1, w2, rfl⟩ := PFS.write_inv hwrite
  have t3 := File.storeMeta_touch hk hk0 hstoreMeta
  intro q
  by_cases e : root ++ k = q
  · subst e
    exact Or.inr (Or.inl ⟨PFS.mkdirP_notdir hmkdir w2 ▸ w2, Or.inl rfl⟩)
  · have hq2 : (s1.set (root ++ k) (.dfile d)).get q = s1.get q := by
      rw [PFS.get_set _ w1, if_neg e]
    rcases t3 q with a | ⟨a1, a2⟩ | ⟨a1, a2, a3⟩
    · rw [a, hq2, (PFS.mkdirP_get hmkdir).2]
      split
      · rename_i c
        exact Or.inr (Or.inr ⟨c.2, rfl, c.1.trans (parent_prefix_mdir root k)⟩)
      · exact Or.inl rfl
    · rw [hq2] at a1
      exact Or.inr (Or.inl ⟨PFS.mkdirP_notdir hmkdir a1 ▸ a1, Or.inr a2⟩)
    · rw [hq2] at a1
      exact Or.inr (Or.inr ⟨PFS.mkdirP_notdir hmkdir (by rw [a1]; nofun) ▸ a1, a2, a3⟩)

theorem Touch.keep_dir {k' : Key} {s s' : PFS} (h : Touch root k' s s') {q : Path} (hq : s.get q = some .dir) :
    s'.get q = some .dir := by
  rcases h q with a | ⟨a, _⟩ | ⟨a, _, _⟩
  · rw [a, hq]
  · exact absurd hq a
  · rw [hq] at a; cases a

theorem Touch.keep_some {k' : Key} {s s' : PFS} (h : Touch root k' s s') {q : Path} {x : PNode} (hq : s.get q = some x)
    (h1 : q ≠ root ++ k') (h2 : q ≠ root ++ metaRel k') : s'.get q = some x := by
  rcases h q with a | ⟨_, a | a⟩ | ⟨a, _, _⟩
  · rw [a, hq]
  · exact absurd a h1
  · exact absurd a h2
  · rw [hq] at a; cases a

theorem Touch.keep_none {k' : Key} {s s' : PFS} (h : Touch root k' s s') {q : Path} (hq : s.get q = none)
    (h1 : q ≠ root ++ k') (h2 : q ≠ root ++ metaRel k') (h3 : ¬ q <+: root ++ (k'.dropLast ++ [metaDirName])) :
    s'.get q = none := by
  rcases h q with a | ⟨_, a | a⟩ | ⟨_, _, a⟩
  · rw [a, hq]
  · exact absurd a h1
  · exact absurd a h2
  · exact absurd a h3

theorem Touch.noFile {k' : Key} {s s' : PFS} (h : Touch root k' s s') {p : Path} (hn : s.NoFile p)
    (h1 : ¬ root ++ k' <+: p) (h2 : ¬ root ++ metaRel k' <+: p) : s'.NoFile p := by
  intro a ha hap
  rcases h a with e | ⟨_, e | e⟩ | ⟨_, e, _⟩
  · rw [e]; exact hn a ha hap
  · exact absurd (e ▸ hap) h1
  · exact absurd (e ▸ hap) h2
  · exact Or.inr e

-- for the `decide` of the hypotheses `PlainKey kA …` in the examples of Props/C08
instance (c : Str) : Decidable (PlainC c) := by unfold PlainC; infer_instance
instance (k : Key) : Decidable (PlainKey k) := by unfold PlainKey; infer_instance

namespace Rcp

/-- what `FileStore.store` / `store_metadata` leave at `k`: the data file `x` (or none), the metadata file with `um`, and
the directories down to `<dir>/__metadata__` (so the next write of either file needs no `mkdir`) -/
def FEntry (root : Path) (s : PFS) (k : Key) (x : Option PNode) (um : UMeta) : Prop :=
  s.get (root ++ k) = x ∧ s.get (root ++ metaRel k) = some (.mfile um) ∧
  ∀ a, a <+: root ++ (k.dropLast ++ [metaDirName]) → s.get a = some .dir

/-- what `FileStore.remove` leaves at `k`: neither file, and still no regular file on the way to them -/
def FGone (root : Path) (s : PFS) (k : Key) : Prop :=
  s.get (root ++ k) = none ∧ s.get (root ++ metaRel k) = none ∧ s.NoFile (root ++ (k.dropLast ++ [metaDirName]))

/-- nothing prevents the `FileStore` from writing (or unlinking) the metadata file of `k`, hence its data file: no
regular file on the way to `<dir>/__metadata__/<name>.json`, which is not a directory itself -/
def fileWritable (root : Path) (s : PFS) (k : Key) : Bool :=
  !s.fileOnWay (root ++ metaRel k) && !s.isDirB (root ++ metaRel k)

theorem fileWritable_iff (s : PFS) (k : Key) :
    fileWritable root s k = true ↔
      s.NoFile (root ++ (k.dropLast ++ [metaDirName])) ∧ s.get (root ++ metaRel k) ≠ some .dir := by
  unfold fileWritable
  rw [Bool.and_eq_true, Bool.not_eq_true', Bool.not_eq_true', PFS.fileOnWay_false, mdir_dropLast]
  simp [PFS.isDirB]

theorem FEntry.noFile {s : PFS} {k : Key} {x : Option PNode} {um : UMeta} (h : FEntry root s k x um) :
    s.NoFile (root ++ (k.dropLast ++ [metaDirName])) := fun a _ ha => Or.inr (h.2.2 a ha)

theorem FEntry.writable {s : PFS} {k : Key} {x : Option PNode} {um : UMeta} (h : FEntry root s k x um) :
    fileWritable root s k = true :=
  (fileWritable_iff s k).mpr ⟨h.noFile, by rw [h.2.1]; simp⟩

theorem FGone.writable {s : PFS} {k : Key} (h : FGone root s k) : fileWritable root s k = true :=
  (fileWritable_iff s k).mpr ⟨h.2.2, by rw [h.2.1]; nofun⟩

end Rcp

open Rcp (FEntry FGone fileWritable fileWritable_iff)

theorem File.storeMeta_ok (s : PFS) {k : Key} (hk : PlainKey k) (hk0 : k ≠ []) (m : UMeta)
    (hw : fileWritable root s k = true) :
    ∃ s', File.storeMeta root s k m = .ok s' ∧ FEntry root s' k (s.get (root ++ k)) m := by
  obtain ⟨hnf, hmp⟩ := (fileWritable_iff s k).mp hw
  obtain ⟨s1, h1, h2, hget⟩ := PFS.mkdirP_write s (.mfile m) (p := root ++ metaRel k) (List.append_ne_nil_of_right_ne_nil _ (metaRel_ne_nil k))
    (by rw [mdir_dropLast]; exact hnf) hmp
  rw [mdir_dropLast] at h1 hget
  refine ⟨s1.set (root ++ metaRel k) (.mfile m), ?_, ?_, ?_, fun a ha => ?_⟩
  · simp only [File.storeMeta, File.metaPath_plain root hk hk0, bind, Except.bind, mdir_dropLast, h1, h2]
  · rw [hget, if_neg (metaRel_ne_key root hk).symm, if_neg (fun c => key_not_prefix_mdir root hk hk0 c.1)]
  · rw [hget, if_pos rfl]
  · rw [PFS.get_set _ (List.append_ne_nil_of_right_ne_nil _ (metaRel_ne_nil k)),
      if_neg (fun e : root ++ metaRel k = a => metaRel_not_prefix_mdir root k (e ▸ ha))]
    exact PFS.mkdirP_dir h1 ha

theorem File.store_ok (s : PFS) {k : Key} (hk : PlainKey k) (hk0 : k ≠ []) (d : Data) (m : UMeta)
    (hw : fileWritable root s k = true) (hp : s.get (root ++ k) ≠ some .dir) :
    ∃ s', File.store root s k d m = .ok s' ∧
      FEntry root s' k (some (.dfile d)) { m with size := some d.length, md5 := some d } := by
  obtain ⟨hnf, hmp⟩ := (fileWritable_iff s k).mp hw
  have hdl : (root ++ k).dropLast = root ++ k.dropLast := List.dropLast_append_of_ne_nil hk0
  obtain ⟨s1, h1, h2, hget⟩ := PFS.mkdirP_write s (.dfile d) (p := root ++ k) (by simp [hk0])
    (fun a ha hap => hnf a ha ((hdl ▸ hap).trans (parent_prefix_mdir root k))) hp
  rw [hdl] at h1 hget
  have hw2 : fileWritable root (s1.set (root ++ k) (.dfile d)) k = true := by
    refine (fileWritable_iff _ k).mpr ⟨fun a ha hap => ?_, ?_⟩
    · rw [hget, if_neg (fun e : a = root ++ k => key_not_prefix_mdir root hk hk0 (e ▸ hap))]
      split
      · exact Or.inr rfl
      · exact hnf a ha hap
    · rw [hget, if_neg (metaRel_ne_key root hk),
        if_neg (fun c => metaRel_not_prefix_mdir root k (c.1.trans (parent_prefix_mdir root k)))]
      exact hmp
  obtain ⟨s', hs', e⟩ := File.storeMeta_ok _ hk hk0 { m with size := some d.length, md5 := some d } hw2
  rw [hget, if_pos rfl] at e
  refine ⟨s', ?_, e⟩
  simp only [File.store, File.path_plain root hk, File.metaPath_plain root hk hk0, compsParts_plain hk, bind, Except.bind,
    hdl, h1, h2, hs']

theorem File.remove_ok (s : PFS) {k : Key} (hk : PlainKey k) (hk0 : k ≠ [])
    (hw : fileWritable root s k = true) (hp : s.get (root ++ k) ≠ some .dir) :
    ∃ s', File.remove root s k = .ok s' ∧ FGone root s' k := by
  obtain ⟨hnf, hmp⟩ := (fileWritable_iff s k).mp hw
  obtain ⟨s1, h1, g1⟩ := PFS.unlinkMissingOk_ok s (p := root ++ k) (by simp [hk0])
    (fun a ha hap => hnf a ha ((List.dropLast_append_of_ne_nil hk0 ▸ hap).trans (parent_prefix_mdir root k))) hp
  have hnf1 : s1.NoFile (root ++ (k.dropLast ++ [metaDirName])) := fun a ha hap => by
    rw [g1]
    split
    · exact Or.inl rfl
    · exact hnf a ha hap
  obtain ⟨s2, h2, g2⟩ := PFS.unlinkMissingOk_ok s1 (p := root ++ metaRel k) (List.append_ne_nil_of_right_ne_nil _ (metaRel_ne_nil k))
    (by rw [mdir_dropLast]; exact hnf1) (by rw [g1, if_neg (metaRel_ne_key root hk)]; exact hmp)
  refine ⟨s2, ?_, ?_, by rw [g2, if_pos rfl], fun a ha hap => ?_⟩
  · simp only [File.remove, File.path_plain root hk, File.metaPath_plain root hk hk0, bind, Except.bind, h1, h2]
  · rw [g2, if_neg (metaRel_ne_key root hk).symm, g1, if_pos rfl]
  · rw [g2]
    split
    · exact Or.inl rfl
    · exact hnf1 a ha hap

theorem File.contains_plain (s : PFS) {k : Key} (hk : PlainKey k) (hk0 : k ≠ []) :
    File.contains root s k = .ok (s.get (root ++ k)).isSome := by
  have hke : k.isEmpty = false := by simpa using hk0
  simp [File.contains, hke, File.path_plain root hk, bind, Except.bind, pure, Except.pure, PFS.existsB]

theorem File.isDir_plain (s : PFS) {k : Key} (hk : PlainKey k) (hk0 : k ≠ []) :
    File.isDir root s k = .ok (s.isDirB (root ++ k)) := by
  have hke : k.isEmpty = false := by simpa using hk0
  simp [File.isDir, hke, File.path_plain root hk, bind, Except.bind, pure, Except.pure]

theorem File.reads_none (s : PFS) {k : Key} (hk : PlainKey k) (hk0 : k ≠ []) (h : s.get (root ++ k) = none) :
    File.contains root s k = .ok false ∧ File.isDir root s k = .ok false := by
  rw [File.contains_plain s hk hk0, File.isDir_plain s hk hk0, PFS.isDirB, h]
  exact ⟨rfl, rfl⟩

theorem File.not_dir_of_isDir {s : PFS} {k : Key} (hk : PlainKey k) (hk0 : k ≠ []) (h : File.isDir root s k = .ok false) :
    s.get (root ++ k) ≠ some .dir := by
  rw [File.isDir_plain _ hk hk0] at h
  injection h with h
  simpa [PFS.isDirB] using h

theorem File.absent_of_contains {s : PFS} {k : Key} (hk : PlainKey k) (h : File.contains root s k = .ok false) :
    k ≠ [] ∧ s.get (root ++ k) = none := by
  have hk0 : k ≠ [] := by
    rintro rfl
    cases h
  rw [File.contains_plain s hk hk0] at h
  refine ⟨hk0, ?_⟩
  cases hg : s.get (root ++ k) with
  | none => rfl
  | some x => rw [hg] at h; cases h

theorem File.getBytes_dfile (s : PFS) {k : Key} (hk : PlainKey k) {d : Data} (h : s.get (root ++ k) = some (.dfile d)) :
    File.getBytes root s k = .ok d := by
  simp [File.getBytes, File.path_plain root hk, bind, Except.bind, h]

theorem File.getBytes_none (s : PFS) {k : Key} (hk : PlainKey k) (h : s.get (root ++ k) = none) :
    File.getBytes root s k = .error .keyNotFound := by
  simp [File.getBytes, File.path_plain root hk, bind, Except.bind, h]

/-- the metadata file is read whether or not the data file exists -/
theorem File.getMeta_mfile (s : PFS) {k : Key} (hk : PlainKey k) (hk0 : k ≠ []) {um : UMeta}
    (hd : s.get (root ++ k) ≠ some .dir) (hm : s.get (root ++ metaRel k) = some (.mfile um)) :
    File.getMeta root s k = .ok { key := k, name := keyName k, isDir := false, size := um.size, md5 := um.md5, user := um.user } := by
  have h1 : s.isDirB (root ++ k) = false := by simpa [PFS.isDirB] using hd
  have h2 : s.existsB (root ++ metaRel k) = true := by simp [PFS.existsB, hm]
  unfold File.getMeta
  simp only [File.path_plain root hk, File.metaPath_plain root hk hk0, bind, Except.bind, h1, h2, File.readMeta, hm]
  cases s.existsB (root ++ k) <;> rfl

theorem File.getMeta_absent (s : PFS) {k : Key} (hk : PlainKey k) (hk0 : k ≠ [])
    (hd : s.get (root ++ k) = none) (hm : s.get (root ++ metaRel k) = none) :
    File.getMeta root s k = .error .keyNotFound := by
  have h1 : s.isDirB (root ++ k) = false := by simp [PFS.isDirB, hd]
  have h2 : s.existsB (root ++ metaRel k) = false := by simp [PFS.existsB, hm]
  have h3 : s.existsB (root ++ k) = false := by simp [PFS.existsB, hd]
  unfold File.getMeta
  simp [File.path_plain root hk, File.metaPath_plain root hk hk0, bind, Except.bind, h1, h2, h3]

end Liquer
