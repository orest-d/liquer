/-
C12, file-operation granularity (1): interleavings — membership, inversion, the executable `merge`, and "an invariant
indexed by the positions of the threads holds after every prefix of every interleaving" (`prefix_inv3_two`) — and the link
between the step list of a `FileCache` writer with its own temporary names (`storeStepsN`) and the list `storeStepsC` of the
crash model.
-/
import LiquerModel.ConcFile
import LiquerProofs.Lemmas.CrashFlat

namespace Liquer
namespace Crash

variable {α : Type}

theorem Interleave.mem {x y l : List α} (h : Interleave x y l) : ∀ s, s ∈ l → s ∈ x ∨ s ∈ y := by
  induction h with
  | nil => intro s hs; cases hs
  | left _ ih =>
    intro s hs
    rcases List.mem_cons.mp hs with rfl | hs
    · exact Or.inl (List.mem_cons_self ..)
    · exact (ih s hs).imp_left (List.mem_cons_of_mem _)
  | right _ ih =>
    intro s hs
    rcases List.mem_cons.mp hs with rfl | hs
    · exact Or.inr (List.mem_cons_self ..)
    · exact (ih s hs).imp_right (List.mem_cons_of_mem _)

theorem Interleave3.mem {x y z l : List α} (h : Interleave3 x y z l) : ∀ s, s ∈ l → s ∈ x ∨ s ∈ y ∨ s ∈ z := by
  induction h with
  | nil => intro s hs; cases hs
  | first _ ih =>
    intro s hs
    rcases List.mem_cons.mp hs with rfl | hs
    · exact Or.inl (List.mem_cons_self ..)
    · exact (ih s hs).imp_left (List.mem_cons_of_mem _)
  | second _ ih =>
    intro s hs
    rcases List.mem_cons.mp hs with rfl | hs
    · exact Or.inr (Or.inl (List.mem_cons_self ..))
    · exact (ih s hs).imp_right (Or.imp_left (List.mem_cons_of_mem _))
  | third _ ih =>
    intro s hs
    rcases List.mem_cons.mp hs with rfl | hs
    · exact Or.inr (Or.inr (List.mem_cons_self ..))
    · exact (ih s hs).imp_right (Or.imp_right (List.mem_cons_of_mem _))

theorem Interleave.length {x y l : List α} (h : Interleave x y l) : l.length = x.length + y.length := by
  induction h with
  | nil => rfl
  | left _ ih => rw [List.length_cons, List.length_cons, ih, Nat.add_right_comm]
  | right _ ih => rw [List.length_cons, List.length_cons, ih]; rfl

theorem Interleave3.cons_inv {x y z l : List α} {s : α} (h : Interleave3 x y z (s :: l)) :
    (∃ x', x = s :: x' ∧ Interleave3 x' y z l) ∨ (∃ y', y = s :: y' ∧ Interleave3 x y' z l) ∨
    (∃ z', z = s :: z' ∧ Interleave3 x y z' l) := by
  cases h with
  | first h => exact Or.inl ⟨_, rfl, h⟩
  | second h => exact Or.inr (Or.inl ⟨_, rfl, h⟩)
  | third h => exact Or.inr (Or.inr ⟨_, rfl, h⟩)

theorem Interleave.to3 {x y l : List α} (h : Interleave x y l) : Interleave3 x y [] l := by
  induction h with
  | nil => exact .nil
  | left _ ih => exact .first ih
  | right _ ih => exact .second ih

theorem Interleave.to3' {x z l : List α} (h : Interleave x z l) : Interleave3 x [] z l := by
  induction h with
  | nil => exact .nil
  | left _ ih => exact .first ih
  | right _ ih => exact .third ih

theorem Interleave.nest {x y xy z l : List α} (h1 : Interleave x y xy) (h2 : Interleave xy z l) : Interleave3 x y z l := by
  induction h2 generalizing x y with
  | nil => cases h1; exact .nil
  | left _ ih =>
    cases h1 with
    | left h1 => exact .first (ih h1)
    | right h1 => exact .second (ih h1)
  | right _ ih => exact .third (ih h1)

theorem Interleave.left_nil (y : List α) : Interleave [] y y := by
  induction y with
  | nil => exact .nil
  | cons s y ih => exact .right ih

theorem Interleave.right_nil (x : List α) : Interleave x [] x := by
  induction x with
  | nil => exact .nil
  | cons s x ih => exact .left ih

theorem Interleave.append (x y : List α) : Interleave x y (x ++ y) := by
  induction x with
  | nil => exact Interleave.left_nil y
  | cons s x ih => exact .left ih

theorem merge_interleave (sch : List Bool) (x y : List α) : Interleave x y (merge sch x y) := by
  fun_induction merge sch x y with
  | case1 => exact Interleave.left_nil _
  | case2 => exact Interleave.right_nil _
  | case3 => exact Interleave.append _ _
  | case4 => exact .left (by assumption)
  | case5 => exact .right (by assumption)

theorem interleave_merge {x y l : List α} (h : Interleave x y l) : ∃ sch, l = merge sch x y := by
  induction h with
  | nil => exact ⟨[], rfl⟩
  | @left s x y l _ ih =>
    obtain ⟨sch, rfl⟩ := ih
    cases y with
    | nil => exact ⟨[], by cases x <;> cases sch <;> simp [merge]⟩
    | cons t y => exact ⟨true :: sch, by simp [merge]⟩
  | @right s x y l _ ih =>
    obtain ⟨sch, rfl⟩ := ih
    cases x with
    | nil => exact ⟨[], by cases y <;> cases sch <;> simp [merge]⟩
    | cons t x => exact ⟨false :: sch, by simp [merge]⟩

theorem Interleave3.append (x y z : List α) : Interleave3 x y z (x ++ y ++ z) := by
  induction x with
  | nil =>
    induction y with
    | nil =>
      induction z with
      | nil => exact .nil
      | cons s z ih => exact .third ih
    | cons s y ih => exact .second ih
  | cons s x ih => exact .first ih

theorem merge3_interleave3 (sch : List Nat) (x y z : List α) : Interleave3 x y z (merge3 sch x y z) := by
  fun_induction merge3 sch x y z with
  | case1 => exact Interleave3.append _ _ _
  | case2 => exact .first (by assumption)
  | case3 => assumption
  | case4 => exact .second (by assumption)
  | case5 => assumption
  | case6 => exact .third (by assumption)
  | case7 => assumption

theorem getElem?_cons_some {α : Type} {a s : α} {l : List α} {k : Nat} (h : (a :: l)[k]? = some s) :
    (k = 0 ∧ a = s) ∨ ∃ j, k = j + 1 ∧ l[j]? = some s := by
  cases k with
  | zero => exact Or.inl ⟨rfl, Option.some.inj h⟩
  | succ j => exact Or.inr ⟨j, rfl, h⟩

theorem drop_eq_cons {l : List α} {i : Nat} {s : α} {r : List α} (h : l.drop i = s :: r) : l[i]? = some s ∧ r = l.drop (i + 1) := by
  induction l generalizing i with
  | nil => simp at h
  | cons a l ih =>
    cases i with
    | zero => cases h; exact ⟨rfl, rfl⟩
    | succ i => exact ih h

/-- an invariant indexed by how many steps each of three threads has done, preserved by the next step of each thread:
after `n` steps of an interleaving of the remaining steps it holds at later positions, and what is left of the
interleaving is an interleaving of what is left of the threads -/
theorem prefix_inv3 {φ : Type} (exec : φ → α → φ) (la lb lp : List α) (I : Nat → Nat → Nat → φ → Prop)
    (hA : ∀ i j p d s, la[i]? = some s → I i j p d → I (i + 1) j p (exec d s))
    (hB : ∀ i j p d s, lb[j]? = some s → I i j p d → I i (j + 1) p (exec d s))
    (hP : ∀ i j p d s, lp[p]? = some s → I i j p d → I i j (p + 1) (exec d s))
    (l : List α) : ∀ (i j p : Nat) (d : φ), Interleave3 (la.drop i) (lb.drop j) (lp.drop p) l → I i j p d →
      ∀ n, ∃ i' j' p', i ≤ i' ∧ j ≤ j' ∧ p ≤ p' ∧ I i' j' p' ((l.take n).foldl exec d) ∧
        Interleave3 (la.drop i') (lb.drop j') (lp.drop p') (l.drop n) := by
  induction l with
  | nil => intro i j p d h hI n; exact ⟨i, j, p, Nat.le_refl _, Nat.le_refl _, Nat.le_refl _, by simpa using hI, by simpa using h⟩
  | cons s l ih =>
    intro i j p d h hI n
    cases n with
    | zero => exact ⟨i, j, p, Nat.le_refl _, Nat.le_refl _, Nat.le_refl _, hI, h⟩
    | succ n =>
      rcases h.cons_inv with ⟨x', hx, h'⟩ | ⟨y', hy, h'⟩ | ⟨z', hz, h'⟩
      · obtain ⟨hs, rfl⟩ := drop_eq_cons hx
        obtain ⟨i', j', p', hi, r⟩ := ih (i + 1) j p _ h' (hA i j p d s hs hI) n
        exact ⟨i', j', p', Nat.le_of_succ_le hi, r⟩
      · obtain ⟨hs, rfl⟩ := drop_eq_cons hy
        obtain ⟨i', j', p', hi, hj, r⟩ := ih i (j + 1) p _ h' (hB i j p d s hs hI) n
        exact ⟨i', j', p', hi, Nat.le_of_succ_le hj, r⟩
      · obtain ⟨hs, rfl⟩ := drop_eq_cons hz
        obtain ⟨i', j', p', hi, hj, hp, r⟩ := ih i j (p + 1) _ h' (hP i j p d s hs hI) n
        exact ⟨i', j', p', hi, hj, Nat.le_of_succ_le hp, r⟩

/-- **two prefixes**: after `n1 ≤ n2` steps of an interleaving the invariant holds at positions `(i1, j1, p1)` and
`(i2, j2, p2)` with `i1 ≤ i2`, `j1 ≤ j2`, `p1 ≤ p2` -/
theorem prefix_inv3_two {φ : Type} (exec : φ → α → φ) (la lb lp : List α) (I : Nat → Nat → Nat → φ → Prop)
    (hA : ∀ i j p d s, la[i]? = some s → I i j p d → I (i + 1) j p (exec d s))
    (hB : ∀ i j p d s, lb[j]? = some s → I i j p d → I i (j + 1) p (exec d s))
    (hP : ∀ i j p d s, lp[p]? = some s → I i j p d → I i j (p + 1) (exec d s))
    (l : List α) : ∀ (i j p : Nat) (d : φ), Interleave3 (la.drop i) (lb.drop j) (lp.drop p) l → I i j p d →
      ∀ n1 n2, n1 ≤ n2 → ∃ i1 j1 p1 i2 j2 p2, i1 ≤ i2 ∧ j1 ≤ j2 ∧ p1 ≤ p2 ∧
        I i1 j1 p1 ((l.take n1).foldl exec d) ∧ I i2 j2 p2 ((l.take n2).foldl exec d) := by
  intro i j p d h hI n1 n2 hn
  -- the first `n1` steps, then `n2 - n1` steps of what is left
  obtain ⟨i1, j1, p1, -, -, -, h1, hrest⟩ := prefix_inv3 exec la lb lp I hA hB hP l i j p d h hI n1
  obtain ⟨i2, j2, p2, hi, hj, hp, h2, -⟩ := prefix_inv3 exec la lb lp I hA hB hP _ i1 j1 p1 _ hrest h1 (n2 - n1)
  rw [← List.foldl_append, ← List.take_add, Nat.add_sub_cancel' hn] at h2
  exact ⟨i1, j1, p1, i2, j2, p2, hi, hj, hp, h1, h2⟩

theorem writeFileN_tmpC (target : FName) (b : Data) : writeFileN tmpC target b = writeFileC target b := rfl

/-- **link (exact)**: with the crash model's temporary name, on a directory that holds the metadata file of the key and exactly
one data file of the key — the one of the state's type — the two step lists coincide -/
theorem storeStepsN_eq_storeStepsC (c : FileCfg) (d : CDir) (st : CState) (x : Data)
    (hs : (AL.get d (.state (c.h st.metadata.query))).isSome = true)
    (hd : d.filter (fun e => FileC.isDataOf (c.h st.metadata.query) e.1) =
      [(.data (c.h st.metadata.query) (c.ext st.metadata.typeId), x)]) :
    storeStepsN c tmpC tmpC st = storeStepsC c d st := by
  simp [storeStepsN, storeStepsC, removeStepsC, storeMetaStepsC, hs, hd, writeFileN_tmpC]

theorem erase_erase {β : Type} (d : List (FName × β)) (n : FName) : AL.erase (AL.erase d n) n = AL.erase d n :=
  AL.erase_of_get_none (by rw [AL.get_erase, if_pos BEq.rfl])

theorem foldl_unlink_same (ns : List (FName × Data)) (n : FName) (h : ∀ e ∈ ns, e.1 = n) (d : CDir) :
    (ns.map (fun e => Step.unlink e.1)).foldl execC (AL.erase d n) = AL.erase d n := by
  induction ns with
  | nil => rfl
  | cons e ns ih =>
    simp only [List.map_cons, List.foldl_cons, execC]
    rw [h e (List.mem_cons_self ..), erase_erase]
    exact ih (fun e' he' => h e' (List.mem_cons_of_mem _ he'))

/-- the unlinks of `remove` amount to erasing the metadata file and the data file, whenever the directory holds no data
file of another type for the key -/
theorem removeStepsC_run (c : FileCfg) (d : CDir) (k : Str) (e : Str)
    (hd : ∀ f ∈ d, FileC.isDataOf (c.h k) f.1 = true → f.1 = .data (c.h k) e) :
    (removeStepsC c d k).foldl execC d = AL.erase (AL.erase d (.state (c.h k))) (.data (c.h k) e) := by
  have h1 : (if (AL.get d (.state (c.h k))).isSome then [Step.unlink (FName.state (c.h k))] else []).foldl execC d =
      AL.erase d (.state (c.h k)) := by
    split
    · rfl
    · next hn => exact (AL.erase_of_get_none (Option.not_isSome_iff_eq_none.1 hn)).symm
  rw [removeStepsC, List.foldl_append, h1]
  -- the remaining unlinks all name the data file
  cases hfil : d.filter (fun f => FileC.isDataOf (c.h k) f.1) with
  | nil =>
    refine (AL.erase_of_get_none (l := AL.erase d (.state (c.h k))) ?_).symm
    cases h : AL.get (AL.erase d (.state (c.h k))) (.data (c.h k) e) with
    | none => rfl
    | some v =>
      have : (FName.data (c.h k) e, v) ∈ d.filter (fun f => FileC.isDataOf (c.h k) f.1) :=
        List.mem_filter.2 ⟨(List.mem_filter.1 (AL.mem_of_get h)).1, by simp [FileC.isDataOf]⟩
      rw [hfil] at this; cases this
  | cons f fs =>
    have hall : ∀ g ∈ f :: fs, g.1 = .data (c.h k) e := by
      intro g hg
      rw [← hfil, List.mem_filter] at hg
      exact hd g hg.1 hg.2
    simp only [List.map_cons, List.foldl_cons, execC]
    rw [hall f (List.mem_cons_self ..)]
    exact foldl_unlink_same fs _ (fun g hg => hall g (List.mem_cons_of_mem _ hg)) _

/-- **link (effect)**: on every directory without a data file of another type for the key, the list of the thread model and
the list of the crash model lead to the same directory (the crash model omits the unlinks of missing files; `execC` makes them
no-ops) -/
theorem storeStepsN_run_eq_storeStepsC (c : FileCfg) (d : CDir) (st : CState)
    (hd : ∀ f ∈ d, FileC.isDataOf (c.h st.metadata.query) f.1 = true →
      f.1 = .data (c.h st.metadata.query) (c.ext st.metadata.typeId)) :
    (storeStepsN c tmpC tmpC st).foldl execC d = (storeStepsC c d st).foldl execC d := by
  simp only [storeStepsN, storeStepsC, storeMetaStepsC, List.foldl_append, writeFileN_tmpC]
  rw [removeStepsC_run c d _ _ hd]
  rfl


end Crash
end Liquer
