/-
C10: well-formed worlds and the vocabulary of the frame argument.

  `Inv w`          — all references of the cache entries and of the defaults are allocated, the cache entries own pairwise
                     disjoint cells, disjoint from the defaults' cells;
  `Own w lo L`     — the live cells `L` (the state in hand, the argument values) lie in `[lo, next)`, no cache entry owns
                     one of them, the defaults lie below `lo`;
  `Mod L w w'`     — one stage: only cells of `L` (and new ones) were written, entries of the cache are old entries or new;
  `Stage lo w L w' L'` — a stage that starts owning `L` and ends owning `L'` (old cells of `L'` come from `L`);
  `Post lo w w'`   — cumulative: nothing below `lo` was written since the evaluation started.
-/
import LiquerProofs.Lemmas.IsoVars

namespace Liquer.Iso

variable {w w' : World} {lo : Nat} {L L' : List Addr}

/-- `h'` is `h` after writes inside `L` and allocations -/
structure HMod (L : List Addr) (h h' : Heap) : Prop where
  frame : ∀ a, a < h.next → a ∉ L → h'.cells a = h.cells a
  mono : h.next ≤ h'.next
  wf : h.WF → h'.WF

theorem HExt.toHMod {h h' : Heap} (e : HExt h h') (L : List Addr) : HMod L h h' :=
  ⟨fun a ha _ => e.frame a ha, e.mono, e.wf⟩

theorem HMod.refl (L : List Addr) (h : Heap) : HMod L h h := (HExt.refl h).toHMod L

theorem HMod.write {h : Heap} {a : Addr} (ha : a ∈ L) (lt : a < h.next) (c : Cell) :
    HMod L h (h.write a c) :=
  ⟨fun _ _ hx => h.write_cells_ne c (fun e => hx (e ▸ ha)), Nat.le_refl _, fun w => w.write lt c⟩

theorem HMod.trans {h₁ h₂ h₃ : Heap} (a : HMod L h₁ h₂) (b : HMod L' h₂ h₃)
    (sub : ∀ x ∈ L', x < h₁.next → x ∈ L) : HMod L h₁ h₃ :=
  ⟨fun x hx hn => by rw [b.frame x (Nat.lt_of_lt_of_le hx a.mono) (fun hm => hn (sub x hm hx)), a.frame x hx hn],
   Nat.le_trans a.mono b.mono, fun w => b.wf (a.wf w)⟩

theorem HMod.mono_L {L L' : List Addr} {h h' : Heap} (a : HMod L h h') (sub : ∀ x ∈ L, x ∈ L') : HMod L' h h' :=
  ⟨fun x hx hn => a.frame x hx (fun hm => hn (sub x hm)), a.mono, a.wf⟩

structure Inv (w : World) : Prop where
  wf : w.heap.WF
  cacheLt : ∀ e ∈ w.cache, ∀ a ∈ cellsState w.heap e.2, a < w.heap.next
  dfltLt : ∀ a ∈ cellsVars w.defaults, a < w.heap.next
  cacheSep : w.cache.Pairwise (fun e e' => Disj (cellsState w.heap e.2) (cellsState w.heap e'.2))
  cacheDflt : ∀ e ∈ w.cache, Disj (cellsState w.heap e.2) (cellsVars w.defaults)

theorem Inv.md_lt (i : Inv w) {e : Str × HState} (he : e ∈ w.cache) : e.2.md < w.heap.next :=
  i.cacheLt e he _ (md_mem_cellsState _ _)

theorem Inv.calls (i : Inv w) (c : List Str) : Inv { w with calls := c } :=
  ⟨i.wf, i.cacheLt, i.dfltLt, i.cacheSep, i.cacheDflt⟩

structure Own (w : World) (lo : Nat) (L : List Addr) : Prop where
  le : lo ≤ w.heap.next
  dflt : ∀ a ∈ cellsVars w.defaults, a < lo
  rng : ∀ a ∈ L, lo ≤ a ∧ a < w.heap.next
  cache : ∀ e ∈ w.cache, Disj (cellsState w.heap e.2) L

theorem Own.calls (o : Own w lo L) (c : List Str) :
    Own { w with calls := c } lo L := ⟨o.le, o.dflt, o.rng, o.cache⟩

theorem Own.md_notin (o : Own w lo L) {e : Str × HState} (he : e ∈ w.cache) :
    e.2.md ∉ L := fun h => o.cache e he _ (md_mem_cellsState _ _) h

theorem Own.nil (i : Inv w) : Own w w.heap.next [] :=
  ⟨Nat.le_refl _, i.dfltLt, fun _ h => (nomatch h), fun _ _ => Disj.nil_right _⟩

theorem Own.sub (o : Own w lo L) (sub : ∀ a ∈ L', a ∈ L) : Own w lo L' :=
  ⟨o.le, o.dflt, fun a ha => o.rng a (sub a ha), fun e he a h1 h2 => o.cache e he a h1 (sub a h2)⟩

theorem Own.toNil (o : Own w lo L) : Own w lo [] := o.sub (fun _ h => nomatch h)

theorem Own.append {w : World} {lo : Nat} {L L' : List Addr} (o : Own w lo L) (o' : Own w lo L') : Own w lo (L ++ L') :=
  ⟨o.le, o.dflt, fun a ha => (List.mem_append.1 ha).elim (o.rng a) (o'.rng a),
   fun e he a h1 h2 => (List.mem_append.1 h2).elim (o.cache e he a h1) (o'.cache e he a h1)⟩

theorem Own.weaken {lo lo' : Nat} (o : Own w lo' L) (le : lo ≤ lo')
    (d : ∀ a ∈ cellsVars w.defaults, a < lo) : Own w lo L :=
  ⟨Nat.le_trans le o.le, d, fun a ha => ⟨Nat.le_trans le (o.rng a ha).1, (o.rng a ha).2⟩, o.cache⟩

structure Mod (L : List Addr) (w w' : World) : Prop where
  frame : ∀ a, a < w.heap.next → a ∉ L → w'.heap.cells a = w.heap.cells a
  mono : w.heap.next ≤ w'.heap.next
  dflt : w'.defaults = w.defaults
  on : w'.cacheOn = w.cacheOn
  cache : ∀ e ∈ w'.cache, e ∈ w.cache ∨ ∀ a ∈ cellsState w'.heap e.2, w.heap.next ≤ a

theorem Mod.refl (L : List Addr) (w : World) : Mod L w w :=
  ⟨fun _ _ _ => rfl, Nat.le_refl _, rfl, rfl, fun _ he => Or.inl he⟩

theorem Mod.calls (m : Mod L w w') (c : List Str) : Mod L w { w' with calls := c } :=
  ⟨m.frame, m.mono, m.dflt, m.on, m.cache⟩

theorem Mod.calls_left {L : List Addr} {w w' : World} (c : List Str) (m : Mod L { w with calls := c } w') : Mod L w w' :=
  ⟨m.frame, m.mono, m.dflt, m.on, m.cache⟩

theorem Mod.cells_eq (m : Mod L w w') {st : HState} (lt : st.md < w.heap.next)
    (n : st.md ∉ L) : cellsState w'.heap st = cellsState w.heap st :=
  cellsState_congr (m.frame _ lt n)

theorem Mod.trans {w w' w'' : World} (m1 : Mod L w w') (i' : Inv w')
    (hc : ∀ e ∈ w'.cache, Disj (cellsState w'.heap e.2) L') (m2 : Mod L' w' w'')
    (sub : ∀ a ∈ L', a < w.heap.next → a ∈ L) : Mod L w w'' := by
  refine ⟨fun a ha hn => ?_, Nat.le_trans m1.mono m2.mono, m2.dflt.trans m1.dflt, m2.on.trans m1.on, fun e he => ?_⟩
  · rw [m2.frame a (Nat.lt_of_lt_of_le ha m1.mono) (fun hm => hn (sub a hm ha)), m1.frame a ha hn]
  · rcases m2.cache e he with h | h
    · refine (m1.cache e h).imp_right (fun h' => ?_)
      rw [m2.cells_eq (i'.md_lt h) (fun hm => hc e h _ (md_mem_cellsState _ _) hm)]
      exact h'
    · exact Or.inr (fun a ha => Nat.le_trans m1.mono (h a ha))

theorem Mod.heap {h' : Heap} (hm : HMod L w.heap h') : Mod L w { w with heap := h' } :=
  ⟨hm.frame, hm.mono, rfl, rfl, fun _ he => Or.inl he⟩

theorem Inv.heap (i : Inv w) {h' : Heap} (hm : HMod L w.heap h')
    (hc : ∀ e ∈ w.cache, Disj (cellsState w.heap e.2) L) : Inv { w with heap := h' } := by
  have ce : ∀ e ∈ w.cache, cellsState h' e.2 = cellsState w.heap e.2 := fun e he =>
    cellsState_congr (hm.frame _ (i.md_lt he) (fun hx => hc e he _ (md_mem_cellsState _ _) hx))
  refine ⟨hm.wf i.wf, fun e he a ha => ?_, fun a ha => Nat.lt_of_lt_of_le (i.dfltLt a ha) hm.mono, ?_, fun e he => ?_⟩
  · exact Nat.lt_of_lt_of_le (i.cacheLt e he a (ce e he ▸ ha)) hm.mono
  · exact i.cacheSep.imp_of_mem (fun {e e'} he he' h => show Disj (cellsState h' e.2) (cellsState h' e'.2) from
      (ce e he).symm ▸ (ce e' he').symm ▸ h)
  · exact show Disj (cellsState h' e.2) _ from (ce e he).symm ▸ i.cacheDflt e he

theorem Own.heap (i : Inv w) (o : Own w lo L) {h' : Heap}
    (hm : HMod L w.heap h') (sub : ∀ a ∈ L', a ∈ L ∨ (w.heap.next ≤ a ∧ a < h'.next)) :
    Own { w with heap := h' } lo L' := by
  refine ⟨Nat.le_trans o.le hm.mono, o.dflt, fun a ha => ?_, fun e he a h1 h2 => ?_⟩
  · rcases sub a ha with h | h
    · exact ⟨(o.rng a h).1, Nat.lt_of_lt_of_le (o.rng a h).2 hm.mono⟩
    · exact ⟨Nat.le_trans o.le h.1, h.2⟩
  · have h1' : a ∈ cellsState w.heap e.2 := cellsState_congr (hm.frame _ (i.md_lt he) (o.md_notin he)) ▸ h1
    rcases sub a h2 with h | h
    · exact o.cache e he a h1' h
    · exact Nat.lt_irrefl a (Nat.lt_of_lt_of_le (i.cacheLt e he a h1') h.1)

structure Stage (lo : Nat) (w : World) (L : List Addr) (w' : World) (L' : List Addr) : Prop where
  inv : Inv w'
  mod : Mod L w w'
  own : Own w' lo L'
  sub : ∀ a ∈ L', a < w.heap.next → a ∈ L

theorem Stage.trans {w w' w'' : World} {L L' L'' : List Addr} (s1 : Stage lo w L w' L')
    (s2 : Stage lo w' L' w'' L'') : Stage lo w L w'' L'' :=
  ⟨s2.inv, s1.mod.trans s1.inv s1.own.cache s2.mod s1.sub, s2.own,
   fun a ha hlt => s1.sub a (s2.sub a ha (Nat.lt_of_lt_of_le hlt s1.mod.mono)) hlt⟩

theorem Stage.refl (i : Inv w) (o : Own w lo L) : Stage lo w L w L :=
  ⟨i, Mod.refl L w, o, fun _ h _ => h⟩

theorem Stage.sub_right {L L' L'' : List Addr} (s : Stage lo w L w' L')
    (sub : ∀ a ∈ L'', a ∈ L') : Stage lo w L w' L'' :=
  ⟨s.inv, s.mod, s.own.sub sub, fun a ha hlt => s.sub a (sub a ha) hlt⟩

theorem Stage.calls (s : Stage lo w L w' L') (c : List Str) :
    Stage lo w L { w' with calls := c } L' :=
  ⟨s.inv.calls c, s.mod.calls c, s.own.calls c, s.sub⟩

theorem Stage.calls_left (c : List Str)
    (s : Stage lo { w with calls := c } L w' L') : Stage lo w L w' L' :=
  ⟨s.inv, s.mod.calls_left c, s.own, s.sub⟩

theorem Stage.heap (i : Inv w) (o : Own w lo L) {h' : Heap}
    (hm : HMod L w.heap h') (sub : ∀ a ∈ L', a ∈ L ∨ (w.heap.next ≤ a ∧ a < h'.next)) :
    Stage lo w L { w with heap := h' } L' :=
  ⟨i.heap hm o.cache, Mod.heap hm, Own.heap i o hm sub,
   fun a ha hlt => (sub a ha).resolve_right (fun h => Nat.lt_irrefl a (Nat.lt_of_lt_of_le hlt h.1))⟩

theorem Stage.fresh {L K : List Addr} (i : Inv w) (o : Own w lo L) {h' : Heap}
    (f : Fresh w.heap h' K) : Stage lo w L { w with heap := h' } (L ++ K) :=
  Stage.heap i o (f.ext.toHMod L) (fun a ha => (List.mem_append.1 ha).imp_right (f.rng a))

theorem Own.keep {L K : List Addr} (i : Inv w) (o : Own w lo K) (m : Mod L w w')
    (hl : ∀ e ∈ w.cache, e.2.md ∉ L) : Own w' lo K := by
  refine ⟨Nat.le_trans o.le m.mono, m.dflt ▸ o.dflt,
    fun a ha => ⟨(o.rng a ha).1, Nat.lt_of_lt_of_le (o.rng a ha).2 m.mono⟩, fun e he a h1 h2 => ?_⟩
  rcases m.cache e he with h | h
  · exact o.cache e h a (m.cells_eq (i.md_lt h) (hl e h) ▸ h1) h2
  · exact Nat.lt_irrefl a (Nat.lt_of_lt_of_le (o.rng a h2).2 (h a h1))

structure Post (lo : Nat) (w w' : World) : Prop where
  le : lo ≤ w.heap.next
  frame : ∀ a, a < lo → w'.heap.cells a = w.heap.cells a
  mono : w.heap.next ≤ w'.heap.next
  dflt : w'.defaults = w.defaults
  on : w'.cacheOn = w.cacheOn
  cache : ∀ e ∈ w'.cache,
    (e ∈ w.cache ∧ ∀ a ∈ cellsState w.heap e.2, a < lo) ∨ ∀ a ∈ cellsState w'.heap e.2, lo ≤ a

theorem Post.refl (i : Inv w) : Post w.heap.next w w :=
  ⟨Nat.le_refl _, fun _ _ => rfl, Nat.le_refl _, rfl, rfl, fun e he => Or.inl ⟨he, i.cacheLt e he⟩⟩

theorem Post.calls {lo : Nat} {w w' : World} (p : Post lo w w') (c : List Str) : Post lo w { w' with calls := c } :=
  ⟨p.le, p.frame, p.mono, p.dflt, p.on, p.cache⟩

theorem Post.calls_left {lo : Nat} {w w' : World} (c : List Str) (p : Post lo { w with calls := c } w') : Post lo w w' :=
  ⟨p.le, p.frame, p.mono, p.dflt, p.on, p.cache⟩

theorem Post.cells_eq (p : Post lo w w') {st : HState} (lt : st.md < lo) :
    cellsState w'.heap st = cellsState w.heap st :=
  cellsState_congr (p.frame _ lt)

theorem Post.step {w w₁ w₂ : World} (p : Post lo w w₁) (i₁ : Inv w₁) (o : Own w₁ lo L)
    (s : Stage lo w₁ L w₂ L') : Post lo w w₂ := by
  have m := s.mod
  have lo_le : lo ≤ w₁.heap.next := Nat.le_trans p.le p.mono
  refine ⟨p.le, fun a ha => ?_, Nat.le_trans p.mono m.mono, m.dflt.trans p.dflt, m.on.trans p.on, fun e he => ?_⟩
  · rw [m.frame a (Nat.lt_of_lt_of_le ha lo_le) (fun hm => Nat.lt_irrefl a (Nat.lt_of_lt_of_le ha (o.rng a hm).1)),
      p.frame a ha]
  · rcases m.cache e he with h | h
    · refine (p.cache e h).imp_right (fun h' => ?_)
      rw [m.cells_eq (i₁.md_lt h) (o.md_notin h)]
      exact h'
    · exact Or.inr (fun a ha => Nat.le_trans lo_le (h a ha))

/-- a complete sub-evaluation is a stage with empty footprint -/
theorem Post.toStage (p : Post w.heap.next w w') (i' : Inv w')
    (o : Own w' w.heap.next L) (ow : Own w lo []) : Stage lo w [] w' L :=
  ⟨i', ⟨fun a ha _ => p.frame a ha, p.mono, p.dflt, p.on, fun e he => (p.cache e he).imp_left (·.1)⟩,
   o.weaken ow.le (p.dflt ▸ ow.dflt), fun a ha hlt => absurd hlt (Nat.not_lt.2 (o.rng a ha).1)⟩

end Liquer.Iso
