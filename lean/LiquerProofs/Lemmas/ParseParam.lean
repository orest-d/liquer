import LiquerProofs.Lemmas.ParseBasics
import LiquerProofs.Lemmas.TokenSafe
import LiquerProofs.Inst.EscapeTable

/-!
A string parameter: the canonical text `encodeToken s` followed by a delimiter is consumed by the
piece loop of `parameter`, and the collected raw text unquotes to `s`.
-/

namespace Liquer
open PS

/-- what may follow a parameter: nothing, the next parameter, the next action or segment, the end of a link -/
def pieceStop (r : Str) : Bool :=
  r.isEmpty || r.head? == some '-' || r.head? == some '/' || isPrefix ['~', 'E'] r

theorem pieceStop_cases {r : Str} (h : pieceStop r = true) :
    r = [] ∨ (∃ t, r = '-' :: t) ∨ (∃ t, r = '/' :: t) ∨ (∃ t, r = '~' :: 'E' :: t) := by
  cases r with
  | nil => exact Or.inl rfl
  | cons c t =>
    simp only [pieceStop, List.isEmpty_cons, Bool.false_or, List.head?_cons, Bool.or_eq_true,
      beq_iff_eq, Option.some.injEq] at h
    rcases h with (rfl | rfl) | h
    · exact Or.inr (Or.inl ⟨t, rfl⟩)
    · exact Or.inr (Or.inr (Or.inl ⟨t, rfl⟩))
    · exact Or.inr (Or.inr (Or.inr ((isPrefix_iff _ _).mp h)))

theorem pieceStop_head {r : Str} (h : pieceStop r = true) : HeadIn Inst.delims r := by
  rcases pieceStop_cases h with rfl | ⟨t, rfl⟩ | ⟨t, rfl⟩ | ⟨t, rfl⟩
  · exact HeadIn.nil
  all_goals exact HeadIn.cons (by simp [Inst.delims])

theorem parseEntity_noWs {r : Str} {p : Nat} (h : NoWs r) :
    parseEntity ⟨r, p⟩ = match Gen.entityTable.find? (fun e => isPrefix e.1 r) with
      | some e => some (e.2, ⟨r.drop e.1.length, p + e.1.length⟩)
      | none => none := by
  simp only [parseEntity, skipWs_noWs h]
  rfl

theorem re_pt_noWs {r : Str} {p : Nat} (h : NoWs r) :
    PS.re Gen.parameterTextRe ⟨r, p⟩ =
      if (takeClass Inst.ptR none r).1.length < 1 then none
      else some ((takeClass Inst.ptR none r).1, ⟨(takeClass Inst.ptR none r).2, p + (takeClass Inst.ptR none r).1.length⟩) := by
  rw [re_noWs h, Inst.parameterText_shape, matchRe_cons]
  simp only [matchRe_nil, List.append_nil]
  by_cases hl : (takeClass Inst.ptR none r).1.length < 1 <;> simp [hl]

theorem piece_text {c : Char} {cs : Str} {p : Nat} (h : NoWs (c :: cs)) (hc : inRanges Inst.ptR c = true) :
    parseParamPiece ⟨c :: cs, p⟩ =
      some (c :: (takeClass Inst.ptR none cs).1,
        ⟨(takeClass Inst.ptR none cs).2, p + ((takeClass Inst.ptR none cs).1.length + 1)⟩) := by
  simp only [parseParamPiece, re_pt_noWs h, takeClass_cons_none, hc, ↓reduceIte, List.length_cons]
  simp

theorem entity_literal {e : Str × Str} (he : e ∈ Gen.entityTable) : ∃ x, e.1 = ['~', x] := by
  have := List.all_eq_true.mp Inst.entity_literals e he
  simp only [Bool.and_eq_true, beq_iff_eq] at this
  obtain ⟨h1, h2⟩ := this
  match h : e.1, h1, h2 with
  | [a, b], _, h2 => simp only [List.head?_cons, Option.some.injEq] at h2; exact ⟨b, by rw [h2]⟩

theorem entity_none_of_head {r : Str} (hc : r.head? ≠ some '~') :
    Gen.entityTable.find? (fun e => isPrefix e.1 r) = none := by
  rw [List.find?_eq_none]
  intro e he
  obtain ⟨x, hx⟩ := entity_literal he
  cases r with
  | nil => simp [hx, isPrefix]
  | cons c t =>
    have : '~' ≠ c := fun e => hc (e ▸ rfl)
    simp [hx, isPrefix, this]

theorem find?_congr' {α} {p q : α → Bool} : ∀ {l : List α}, (∀ x ∈ l, p x = q x) → l.find? p = l.find? q
  | [], _ => rfl
  | a :: l, h => by
    simp only [List.find?_cons, h a List.mem_cons_self,
      find?_congr' (fun x hx => h x (List.mem_cons_of_mem _ hx))]

theorem entity_find (y : Char) (t : Str) :
    Gen.entityTable.find? (fun e => isPrefix e.1 ('~' :: y :: t)) =
      Gen.entityTable.find? (fun e => isPrefix e.1 ['~', y]) := by
  apply find?_congr'
  intro e he
  obtain ⟨x, hx⟩ := entity_literal he
  simp [hx, isPrefix]

theorem piece_none {r : Str} {p : Nat} (h : NoWs r) (h1 : stopAt Inst.ptR r = true)
    (h2 : Gen.entityTable.find? (fun e => isPrefix e.1 r) = none) (h3 : stopAt [(37, 37)] r = true) :
    parseParamPiece ⟨r, p⟩ = none := by
  simp only [parseParamPiece, Inst.parameterText_shape, Inst.percentEncoding_shape, re_fail_first h h1,
    re_fail_first h h3, parseEntity_noWs h, h2]

theorem piece_pct {a b : Char} {t : Str} {p : Nat} (h : NoWs ('%' :: a :: b :: t))
    (ha : inRanges Inst.hexR a = true) (hb : inRanges Inst.hexR b = true) :
    parseParamPiece ⟨'%' :: a :: b :: t, p⟩ = some (['%', a, b], ⟨t, p + 3⟩) := by
  have h1 : PS.re Gen.parameterTextRe ⟨'%' :: a :: b :: t, p⟩ = none := by
    rw [Inst.parameterText_shape]
    exact re_fail_first h (List.all_eq_true.mp Inst.parameterText_stops '%' (by simp))
  have h2 : parseEntity ⟨'%' :: a :: b :: t, p⟩ = none := by
    rw [parseEntity_noWs h, entity_none_of_head (by simp)]
  have h37 : inRanges [(37, 37)] '%' = true := by decide
  simp only [parseParamPiece, h1, h2, re_noWs h, Inst.percentEncoding_shape, matchRe_cons, matchRe_nil,
    takeClass_cons_one, h37]
  simp [takeClass_cons_one, ha, hb]

theorem escape_code {pe : Str × Str} (he : pe ∈ Gen.escapeTable) :
    ∃ y, pe.2 = ['~', y] ∧ y ≠ 'X' ∧
      Gen.entityTable.find? (fun e => isPrefix e.1 ['~', y]) = some (['~', y], pe.1) := by
  have := List.all_eq_true.mp Inst.entity_inverts_escape pe he
  simp only [Bool.and_eq_true, beq_iff_eq, Bool.not_eq_true'] at this
  obtain ⟨⟨h1, _⟩, h3⟩ := this
  obtain ⟨x, hx⟩ := entity_literal (List.mem_of_find?_eq_some h1)
  simp only at hx
  refine ⟨x, hx, ?_, by rw [← hx]; exact h1⟩
  rintro rfl
  rw [hx, Inst.link_shape.1] at h3
  simp [isPrefix] at h3

theorem piece_entity {pat : Str} {y : Char} {t : Str} {p : Nat} (h : NoWs ('~' :: y :: t))
    (he : (pat, ['~', y]) ∈ Gen.escapeTable) :
    parseParamPiece ⟨'~' :: y :: t, p⟩ = some (pat, ⟨t, p + 2⟩) := by
  have h1 : PS.re Gen.parameterTextRe ⟨'~' :: y :: t, p⟩ = none := by
    rw [Inst.parameterText_shape]
    exact re_fail_first h (List.all_eq_true.mp Inst.parameterText_stops '~' (by simp [Inst.delims]))
  obtain ⟨y', hy, _, hf⟩ := escape_code he
  simp only [List.cons.injEq, and_true, true_and] at hy
  subst hy
  simp [parseParamPiece, h1, parseEntity_noWs h, entity_find, hf]

theorem piece_stop {r : Str} {p : Nat} (h : NoWs r) (hs : pieceStop r = true) :
    parseParamPiece ⟨r, p⟩ = none := by
  have hd := pieceStop_head hs
  refine piece_none h ((hd.mono (List.subset_cons_self _ _)).stopAt Inst.parameterText_stops) ?_
    (hd.stopAt Inst.percent_stops)
  rcases pieceStop_cases hs with rfl | ⟨t, rfl⟩ | ⟨t, rfl⟩ | ⟨t, rfl⟩
  · exact entity_none_of_head (by simp)
  · exact entity_none_of_head (by simp)
  · exact entity_none_of_head (by simp)
  · rw [entity_find, List.find?_eq_none]
    intro e he
    have := List.all_eq_true.mp Inst.linkClose_not_entity e he
    rw [Inst.link_shape.2] at this
    simpa using this

theorem parseParamPieces_succ (n : Nat) (s : PS) :
    parseParamPieces (n + 1) s = match parseParamPiece s with
      | none => ([], s)
      | some (t, s1) =>
        if s1.rest.length < s.rest.length then
          (t ++ (parseParamPieces n s1).1, (parseParamPieces n s1).2)
        else ([], s) := by
  simp only [parseParamPieces]
  rfl

theorem parseParamPieces_fuel : ∀ (n m : Nat) (s : PS), s.rest.length ≤ n → s.rest.length ≤ m →
    parseParamPieces n s = parseParamPieces m s
  | 0, 0, _, _, _ => rfl
  | 0, m + 1, s, hn, _ | m + 1, 0, s, _, hn => by
    rw [parseParamPieces_succ]
    simp only [parseParamPieces]
    split
    · rfl
    · rw [if_neg (fun h => Nat.not_lt_zero _ (Nat.lt_of_lt_of_le h hn))]
  | n + 1, m + 1, s, hn, hm => by
    rw [parseParamPieces_succ, parseParamPieces_succ]
    split
    · rfl
    next t s1 _ =>
      split
      next hlt =>
        rw [parseParamPieces_fuel n m s1 (Nat.le_of_lt_succ (Nat.lt_of_lt_of_le hlt hn))
          (Nat.le_of_lt_succ (Nat.lt_of_lt_of_le hlt hm))]
      · rfl

theorem pieces_step {X R t : Str} {p p1 n : Nat}
    (hp : parseParamPiece ⟨X ++ R, p⟩ = some (t, ⟨R, p1⟩)) (hX : X ≠ [])
    (hn : (X ++ R).length ≤ n) :
    parseParamPieces n ⟨X ++ R, p⟩ =
      (t ++ (parseParamPieces R.length ⟨R, p1⟩).1, (parseParamPieces R.length ⟨R, p1⟩).2) := by
  have hpos : 0 < X.length := List.length_pos_iff.mpr hX
  cases n with
  | zero => simp only [List.length_append] at hn; omega
  | succ n =>
    rw [parseParamPieces_succ, hp]
    simp only [List.length_append] at hn ⊢
    rw [if_pos (by omega), parseParamPieces_fuel n R.length ⟨R, p1⟩ (by simp only; omega) (by simp)]

/-- a character of parameter text is consumed. The terminal takes the whole run `c :: m` at once; when
`m` is not empty the next iteration started behind `c` would take `m` and arrive at the same place. -/
theorem pieces_text {c : Char} {cs : Str} {p n : Nat} (h : NoWs (c :: cs))
    (hc : inRanges Inst.ptR c = true) (hn : (c :: cs).length ≤ n) :
    parseParamPieces n ⟨c :: cs, p⟩ =
      (c :: (parseParamPieces cs.length ⟨cs, p + 1⟩).1, (parseParamPieces cs.length ⟨cs, p + 1⟩).2) := by
  obtain ⟨hspec, _⟩ := takeClass_spec Inst.ptR cs none
  have hstep := pieces_step (X := c :: (takeClass Inst.ptR none cs).1) (R := (takeClass Inst.ptR none cs).2)
    (p := p) (n := n) (by rw [List.cons_append, ← hspec]; exact piece_text h hc) (by simp)
    (by rw [List.cons_append, ← hspec]; exact hn)
  rw [List.cons_append, ← hspec] at hstep
  rw [hstep]
  cases cs with
  | nil => simp [takeClass_nil]
  | cons c' cs' =>
    by_cases hc' : inRanges Inst.ptR c' = true
    · have hspec' := (takeClass_spec Inst.ptR cs' none).1
      have hstep' := pieces_step (X := c' :: (takeClass Inst.ptR none cs').1)
        (R := (takeClass Inst.ptR none cs').2) (p := p + 1) (n := (c' :: cs').length)
        (by rw [List.cons_append, ← hspec']; exact piece_text h.tail hc') (by simp)
        (by rw [List.cons_append, ← hspec']; exact Nat.le_refl _)
      rw [List.cons_append, ← hspec'] at hstep'
      rw [hstep']
      simp only [takeClass_cons_none, hc', ↓reduceIte, List.length_cons, List.cons_append]
      rw [show p + 1 + ((takeClass Inst.ptR none cs').1.length + 1) =
        p + ((takeClass Inst.ptR none cs').1.length + 1 + 1) by omega]
    · simp [takeClass_cons_none, hc']

/-- what the piece loop collects for an item: entities are replaced by their pattern -/
def Item.raw : Item → Str
  | .lit c => quoteChar c
  | .ent p _ => p

def rawI (is : List Item) : Str := is.flatMap Item.raw

theorem rawI_cons (i : Item) (is : List Item) : rawI (i :: is) = i.raw ++ rawI is := by simp [rawI]

theorem unquoteBytes_plain_append (q rest : Str) (h : ∀ c ∈ q, isAscii c = true ∧ c ≠ '%') :
    unquoteBytes (q ++ rest) = q.flatMap String.utf8EncodeChar ++ unquoteBytes rest := by
  induction q with
  | nil => simp
  | cons c q ih =>
    have hc := h c List.mem_cons_self
    rw [List.cons_append, unquoteBytes_cons_ne hc.2, ih (fun c hc => h c (List.mem_cons_of_mem _ hc)),
      List.flatMap_cons, utf8_ascii hc.1]
    rfl

theorem unquoteBytes_rawI {tbl rest : EscTable} (hf : TableFacts tbl rest) :
    ∀ items : List Item, (∀ it ∈ items, it.good tbl []) →
      unquoteBytes (rawI items) = (valI items).flatMap String.utf8EncodeChar := by
  intro items
  induction items with
  | nil => intro _; simp [rawI, valI, unquoteBytes]
  | cons it items ih =>
    intro hg
    have ih := ih (fun it h => hg it (List.mem_cons_of_mem _ h))
    rw [rawI_cons, valI_cons, List.flatMap_append]
    cases it with
    | lit c => simp only [Item.raw, Item.val, unquoteBytes_quoteChar, ih]; simp
    | ent q y =>
      have hmem : (q, ['~', y]) ∈ tbl := (hg (Item.ent q y) List.mem_cons_self).1
      simp only [Item.raw, Item.val]
      rw [unquoteBytes_plain_append q _ (hf.plain _ hmem), ih]

theorem rawI_isAscii {tbl rest : EscTable} (hf : TableFacts tbl rest) (items : List Item)
    (hg : ∀ it ∈ items, it.good tbl []) : ∀ c ∈ rawI items, isAscii c = true := by
  intro c hc
  obtain ⟨it, hit, hc⟩ := List.mem_flatMap.mp hc
  cases it with
  | lit x => exact quoteChar_isAscii x c hc
  | ent q y => exact (hf.plain _ (hg _ hit).1 c hc).1

theorem unquote_rawI {tbl rest : EscTable} (hf : TableFacts tbl rest) {dec : List UInt8 → List Char}
    (hd : DecOK dec) (items : List Item) (hg : ∀ it ∈ items, it.good tbl []) :
    unquote dec (rawI items) = valI items := by
  rw [unquote_ascii hd _ (rawI_isAscii hf items hg), unquoteBytes_rawI hf items hg]
  exact hd _

theorem bareR_of_tokSafe {c : Char} (h : tokSafe c = true) (h1 : c ≠ '%') (h2 : c ≠ '~') :
    inRanges Inst.bareR c = true := by
  simp only [Inst.bareR, inRanges, List.any_cons, List.any_nil, Bool.or_false, Bool.or_eq_true,
    Bool.and_eq_true, decide_eq_true_eq]
  rcases (tokSafe_iff c).mp h with h | h | h | h | h | h | h
  · exact Or.inl h
  · exact Or.inr (Or.inl h)
  · exact Or.inr (Or.inr (Or.inl h))
  · exact Or.inr (Or.inr (Or.inr (Or.inl (by omega))))
  · exact Or.inr (Or.inr (Or.inr (Or.inr (by omega))))
  · exact absurd ((char_eq_iff _ _).mpr h) h2
  · exact absurd ((char_eq_iff _ _).mpr h) h1

theorem ptR_of_safe {c : Char} (hq : quoteSafe c = true) (h1 : c ≠ '~') (h2 : c ≠ '/') (h3 : c ≠ '-') :
    inRanges Inst.ptR c = true :=
  subRanges_sound Inst.bare_in_parameterText
    (bareR_of_tokSafe (tokSafe_of_quoteSafe hq h2 h3) (quoteSafe_ne_pct hq) h1)

theorem pieces_pctBytes (R : Str) : ∀ (bs : List UInt8) (p n : Nat), NoWs (bs.flatMap pctByte ++ R) →
    (bs.flatMap pctByte ++ R).length ≤ n →
    ∃ p', parseParamPieces n ⟨bs.flatMap pctByte ++ R, p⟩ =
      (bs.flatMap pctByte ++ (parseParamPieces R.length ⟨R, p'⟩).1, (parseParamPieces R.length ⟨R, p'⟩).2)
  | [], p, n, _, hn => ⟨p, parseParamPieces_fuel n R.length ⟨R, p⟩ hn (Nat.le_refl _) ▸ rfl⟩
  | b :: bs, p, n, hws, hn => by
    simp only [List.flatMap_cons, List.append_assoc] at hws hn ⊢
    have hpiece : parseParamPiece ⟨pctByte b ++ (bs.flatMap pctByte ++ R), p⟩ =
        some (pctByte b, ⟨bs.flatMap pctByte ++ R, p + 3⟩) :=
      piece_pct hws (Inst.hex_covers ⟨_, byte_hi_lt b⟩) (Inst.hex_covers ⟨_, byte_lo_lt b⟩)
    rw [pieces_step hpiece (by simp [pctByte]) hn]
    obtain ⟨p', hp'⟩ := pieces_pctBytes R bs (p + 3) _ hws.right (Nat.le_refl _)
    exact ⟨p', by rw [hp']⟩

theorem pieces_items (rest : Str) (hstop : pieceStop rest = true) :
    ∀ (items : List Item), (∀ it ∈ items, it.good Gen.escapeTable []) →
      (∀ c, Item.lit c ∈ items → c ≠ '/' ∧ c ≠ '-') →
      ∀ (p n : Nat), NoWs (encI items ++ rest) → (encI items ++ rest).length ≤ n →
      ∃ p', parseParamPieces n ⟨encI items ++ rest, p⟩ = (rawI items, ⟨rest, p'⟩) := by
  intro items
  induction items with
  | nil =>
    intro _ _ p n hws _
    refine ⟨p, ?_⟩
    simp only [encI, rawI, List.flatMap_nil, List.nil_append] at hws ⊢
    cases n with
    | zero => rfl
    | succ n => rw [parseParamPieces_succ, piece_stop hws hstop]
  | cons it items ih =>
    intro hg hsep p n hws hn
    have ih := ih (fun it h => hg it (List.mem_cons_of_mem _ h))
      (fun c h => hsep c (List.mem_cons_of_mem _ h))
    rw [encI_cons, List.append_assoc] at hws hn
    rw [encI_cons, rawI_cons, List.append_assoc]
    cases it with
    | ent q y =>
      have hmem : (q, ['~', y]) ∈ Gen.escapeTable := (hg (Item.ent q y) List.mem_cons_self).1
      simp only [Item.enc, Item.raw] at hws hn ⊢
      rw [pieces_step (X := ['~', y]) (piece_entity (p := p) hws hmem) (by simp) hn]
      obtain ⟨p', hp'⟩ := ih (p + 2) _ hws.tail.tail (Nat.le_refl _)
      exact ⟨p', by rw [hp']⟩
    | lit c =>
      have hc1 : c ≠ '~' := hg (Item.lit c) List.mem_cons_self
      have hc2 := hsep c List.mem_cons_self
      simp only [Item.enc, Item.raw] at hws hn ⊢
      by_cases hq : quoteSafe c = true
      · have e : quoteChar c = [c] := by simp [quoteChar, hq]
        rw [e] at hws hn ⊢
        simp only [List.cons_append, List.nil_append] at hws hn ⊢
        rw [pieces_text hws (ptR_of_safe hq hc1 hc2.1 hc2.2) hn]
        obtain ⟨p', hp'⟩ := ih (p + 1) _ hws.tail (Nat.le_refl _)
        exact ⟨p', by rw [hp']⟩
      · have e : quoteChar c = (String.utf8EncodeChar c).flatMap pctByte := by simp [quoteChar, hq]
        rw [e] at hws hn ⊢
        obtain ⟨p1, hp1⟩ := pieces_pctBytes _ (String.utf8EncodeChar c) p n hws hn
        rw [hp1]
        obtain ⟨p', hp'⟩ := ih p1 _ hws.right (Nat.le_refl _)
        exact ⟨p', by rw [hp']⟩

theorem isWhite_false_of {P : Char → Bool} (h : Gen.whiteChars.all (fun w => !P w) = true) {c : Char}
    (hc : P c = true) : isWhite c = false := by
  cases hw : isWhite c with
  | false => rfl
  | true =>
    have hm : c ∈ Gen.whiteChars := by simpa [isWhite] using hw
    have := List.all_eq_true.mp h c hm
    simp [hc] at this

theorem noWs_of_tokSafe {s : Str} (h : ∀ c ∈ s, tokSafe c = true) : NoWs s :=
  fun c hc => isWhite_false_of Inst.tokSafe_noWhite (h c hc)

theorem encodeToken_noWs (s : Str) : NoWs (encodeToken Gen.escapeTable s) :=
  noWs_of_tokSafe (encodeToken_safe' _ Inst.escapeTable_sepCovered s)

theorem quoteChar_head {c : Char} (hc : c ≠ '~') : ∃ x t, quoteChar c = x :: t ∧ x ≠ '~' := by
  unfold quoteChar
  split
  · exact ⟨c, [], rfl, hc⟩
  · cases h : String.utf8EncodeChar c with
    | nil => exact absurd h String.utf8EncodeChar_ne_nil
    | cons b bs => exact ⟨'%', _, by simp [pctByte]; rfl, by decide⟩

theorem encI_not_linkOpen (rest : Str) (hstop : pieceStop rest = true) (items : List Item)
    (hg : ∀ it ∈ items, it.good Gen.escapeTable []) :
    isPrefix ['~', 'X', '~'] (encI items ++ rest) = false := by
  cases items with
  | nil =>
    simp only [encI, List.flatMap_nil, List.nil_append]
    rcases pieceStop_cases hstop with rfl | ⟨t, rfl⟩ | ⟨t, rfl⟩ | ⟨t, rfl⟩ <;> simp [isPrefix]
  | cons it items =>
    rw [encI_cons]
    cases it with
    | lit c =>
      obtain ⟨x, t, hx, hne⟩ := quoteChar_head (hg (Item.lit c) List.mem_cons_self)
      simp [Item.enc, hx, isPrefix, Ne.symm hne]
    | ent q y =>
      obtain ⟨y', hy, hX, _⟩ := escape_code (hg (Item.ent q y) List.mem_cons_self).1
      simp only [List.cons.injEq, and_true, true_and] at hy
      subst hy
      simp [Item.enc, isPrefix, Ne.symm hX]

theorem dash_not_mem_encodeToken (s : Str) : '-' ∉ encodeToken Gen.escapeTable s :=
  fun hm => absurd (encodeToken_safe' Gen.escapeTable Inst.escapeTable_sepCovered s _ hm) (by decide)

theorem encodeToken_ne_nil {dec : List UInt8 → List Char} (hd : DecOK dec) {s : Str} (h : s ≠ []) :
    encodeToken Gen.escapeTable s ≠ [] := by
  intro he
  have := decodeToken_encodeToken Gen.escapeTable dec Inst.escapeTable_ok hd s
  rw [he] at this
  exact h (by simpa [decodeToken, decodeTokenF] using this.symm)

theorem applyTable_nil : ∀ tbl : EscTable, applyTable tbl [] = []
  | [] => rfl
  | _ :: tbl => by
    unfold applyTable
    rw [List.foldl_cons, replaceAll_nil]
    exact applyTable_nil tbl

theorem encodeToken_nil (tbl : EscTable) : encodeToken tbl [] = [] := by
  rw [encodeToken_eq_quote, applyTable_nil]; rfl

theorem encodeToken_items (s : Str) :
    ∃ items, encodeToken Gen.escapeTable s = encI items ∧ valI items = s ∧
      (∀ it ∈ items, it.good Gen.escapeTable []) ∧ (∀ c, Item.lit c ∈ items → c ≠ '/' ∧ c ≠ '-') := by
  obtain ⟨rest, hf⟩ := tableFacts Inst.escapeTable_ok
  obtain ⟨items, h1, h2, h3⟩ := applyTable_items hf s
  have hq : ∀ q y, Item.ent q y ∈ items → quoteSafe y = true := by
    intro q y hm
    obtain ⟨c, hc, hs⟩ := hf.codes _ (h3 _ hm).1
    simp only [List.cons.injEq, and_true, true_and] at hc
    exact hc ▸ hs
  refine ⟨items, by rw [encodeToken_eq_quote, ← h1, quote_flatI items hq], h2, h3, ?_⟩
  intro c hc
  have hmem : c ∈ flatI items := List.mem_flatMap.mpr ⟨_, hc, by simp [Item.flat]⟩
  rw [h1] at hmem
  constructor
  · rintro rfl; exact sep_not_mem_applyTable Inst.escapeTable_sepCovered (Or.inl rfl) s hmem
  · rintro rfl; exact sep_not_mem_applyTable Inst.escapeTable_sepCovered (Or.inr (Or.inl rfl)) s hmem

theorem parseParameter_str {dec : List UInt8 → List Char} (hd : DecOK dec) (s rest : Str)
    (hstop : pieceStop rest = true) (hws : NoWs rest) (p n : Nat) :
    ∃ p', parseParameter dec (n + 1) ⟨encodeToken Gen.escapeTable s ++ rest, p⟩ =
      some (.str s p, ⟨rest, p'⟩) := by
  obtain ⟨trest, hf⟩ := tableFacts Inst.escapeTable_ok
  obtain ⟨items, he, hv, hg, hsep⟩ := encodeToken_items s
  have hws' : NoWs (encodeToken Gen.escapeTable s ++ rest) := (encodeToken_noWs s).append hws
  have hlink : lit Gen.linkOpen ⟨encodeToken Gen.escapeTable s ++ rest, p⟩ = none := by
    rw [lit_noWs hws', Inst.link_shape.1, he, encI_not_linkOpen rest hstop items hg]
    simp
  rw [he] at hws' hlink ⊢
  obtain ⟨p', hp'⟩ := pieces_items rest hstop items hg hsep p _ hws' (Nat.le_refl _)
  refine ⟨p', ?_⟩
  simp only [parseParameter, skipWs_noWs hws', hlink, hp', unquote_rawI hf hd items hg, hv]

end Liquer
