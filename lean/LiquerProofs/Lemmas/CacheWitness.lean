/-
Non-vacuity witnesses for the codec laws of the cache refinement theorems: an honest (if wasteful)
codec obtained from `Encodable` — a value is written as that many zero bytes.  Used by the `example`s and by the concrete
caches of C13 (`slashCfg`).
-/
import Mathlib.Tactic.DeriveEncodable
import Mathlib.Logic.Equiv.List
import LiquerProofs.Lemmas.CacheFileRef
import LiquerProofs.Lemmas.CacheSqlRef
import LiquerProofs.Lemmas.CacheStoreRef

namespace Liquer.Witness
open Liquer

instance : Encodable Char :=
  Encodable.ofLeftInjection (fun c => c.toNat) (fun n => some (Char.ofNat n)) (fun c => by simp [Char.ofNat_toNat])

deriving instance Encodable for CMeta

def unary {α : Type} [Encodable α] (a : α) : Data := List.replicate (Encodable.encode a) 0
def ofUnary {α : Type} [Encodable α] (b : Data) : Option α := Encodable.decode b.length

theorem ofUnary_unary {α : Type} [Encodable α] (a : α) : ofUnary (unary a) = some a := by
  simp [ofUnary, unary, Encodable.encodek]

def fileCfg : FileCfg :=
  { h := id, ext := id, enc := id, dec := some, serM := unary, deM := ofUnary, serD := fun _ v => unary v, deD := fun _ b => ofUnary b }

-- `simp only` rewrites with `ofUnary_unary` syntactically; handing the term to `exact` makes the unifier unfold the derived
-- `Encodable CMeta` instance to compare `fileCfg.deM (fileCfg.serM m)` with `ofUnary (unary m)`
theorem fileCfg_ok : Crash.CodecOK fileCfg :=
  ⟨fun _ => rfl, fun m => by simp only [fileCfg, ofUnary_unary], fun _ v => by simp only [fileCfg, ofUnary_unary]⟩

def sqlCfg : SqlCfg :=
  { deleteBeforeInsert := true, metaEnabled := true, enc := id, dec := some, serM := unary, deM := ofUnary,
    serD := fun _ v => unary v, deD := fun _ b => ofUnary b }

theorem sqlCfg_ok : SqlOK sqlCfg :=
  ⟨rfl, rfl, fun _ => rfl, fun m => by simp only [sqlCfg, ofUnary_unary], fun _ v => by simp only [sqlCfg, ofUnary_unary]⟩

def storeCfg (flat : Bool) : StoreCCfg :=
  { path := "cache".toList, flat := flat, h := fun k => List.replicate (Encodable.encode k) 'x',
    encM := fun m => List.replicate (Encodable.encode m) 'x', decM := fun s => Encodable.decode s.length,
    serD := fun _ v => unary v, deD := fun _ b => ofUnary b }

theorem storeCfg_ok (flat : Bool) : CodecS (storeCfg flat) :=
  ⟨fun m => by simp [storeCfg, Encodable.encodek], fun _ v => ofUnary_unary v⟩

theorem storeCfg_hinj (flat : Bool) (a b : Str) (h : (storeCfg flat).h a = (storeCfg flat).h b) : a = b := by
  have := congrArg List.length h
  simp only [storeCfg, List.length_replicate] at this
  exact Encodable.encode_injective this

theorem storeCfg_noslash (flat : Bool) (k : Str) : '/' ∉ (storeCfg flat).h k := by
  simp [storeCfg, List.mem_replicate]

end Liquer.Witness
