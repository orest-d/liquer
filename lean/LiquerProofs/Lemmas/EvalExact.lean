/-
With the global cache disabled (`NoCache()`: `enabled = false`, no data) the evaluator *is* the reference
interpretation: same outcome (exactly, `status` included), same calls, same fuel; and the world stays `NoCache`.
-/
import LiquerProofs.Lemmas.EvalRefine

namespace Liquer

/-- exact agreement of an evaluation started in `w` with a reference result -/
def Exact {α : Type} (w w' : World) (o o' : α) (c : List Str) : Prop :=
  w'.NoCache ∧ o = o' ∧ w'.calls = w.calls ++ c

structure ExactAt (env : Env) (n : Nat) : Prop where
  text : ∀ w t ug, w.NoCache →
    Exact w (evalText env n w t ug).1 (evalText env n w t ug).2 (refText env n t).1 (refText env n t).2
  q : ∀ w q raw extra input uc, w.NoCache →
    Exact w (evalQ env n w q raw extra input uc).1 (evalQ env n w q raw extra input uc).2
      (refQ env n q raw extra input).1 (refQ env n q raw extra input).2
  act : ∀ w st a raw parent extra uc, w.NoCache →
    Exact w (evalAction env n w st a raw parent extra uc).1 (evalAction env n w st a raw parent extra uc).2
      (refAction env n st a raw parent extra).1 (refAction env n st a raw parent extra).2
  params : ∀ w ps raw parent, w.NoCache →
    Exact w (evalParams env n w ps raw parent).1 (evalParams env n w ps raw parent).2
      (refParams env n ps raw parent).1 (refParams env n ps raw parent).2

theorem World.NoCache.logCall {w : World} (h : w.NoCache) (st sig args) : (w.logCall st sig args).NoCache := by
  unfold World.logCall; split
  · exact h
  · exact h.log _

theorem World.NoCache.subW {w : World} (h : w.NoCache) (uc raw o) : (subW uc raw o w).NoCache := by
  unfold Liquer.subW; split
  · exact h.metaIf _ _ _
  · exact h.metaIf _ _ _
  · exact h

theorem World.NoCache.admitW {w : World} (h : w.NoCache) (uc key st3) : (admitW uc key st3 w).NoCache := by
  unfold Liquer.admitW; split
  · exact h
  · split
    · exact h.store _
    · split
      · exact h.storeMeta _ _
      · exact h.remove _

theorem World.NoCache.fileW {w : World} (h : w.NoCache) (uc key st2) : (fileW uc key st2 w).NoCache := by
  unfold Liquer.fileW; split
  · exact h
  · split
    · exact h.store _
    · exact h.remove _

abbrev ExactR {α : Type} (w : World) (e : World × α) (r : α × List Str) : Prop := Exact w e.1 e.2 r.1 r.2

theorem ExactR.refl {α : Type} {w : World} (h : w.NoCache) (o : α) : ExactR w (w, o) (o, []) := ⟨h, rfl, by simp⟩

theorem call_exact {env : Env} {n : Nat} (ih : ExactAt env n) (w1 : World) (st act raw sig x) (uc : Bool) (hN : w1.NoCache) :
    ExactR w1 (evalCall env n w1 st act raw sig x uc) (refCall env n st act raw sig x) := by
  unfold evalCall refCall
  generalize parseArgv sig.args x.1 x.2.1 = pa
  cases pa with
  | unmodelled => exact .refl hN _
  | fail => exact ⟨hN.metaIf _ _ _, rfl, by simp⟩
  | ok args =>
    dsimp only
    generalize cmdSem sig.ns sig.name st.data st.vars args = ce
    cases ce with
    | unmodelled => exact ⟨hN.logCall _ _ _, rfl, by simp⟩
    | subeval y qt =>
      obtain ⟨h1, h2, h3⟩ := ih.text (w1.logCall st sig args) qt true (hN.logCall _ _ _)
      exact ⟨h1.subW _ _ _, by simp only [h2], by simp only [calls_subW, h3, World.calls_logCall, List.append_assoc]⟩
    | _ => exact ⟨(hN.logCall _ _ _).metaIf _ _ _, rfl, by simp⟩

theorem link_exact {env : Env} {n : Nat} (ih : ExactAt env n) (w : World) (lq : Query) (parent : Str) (hN : w.NoCache) :
    ExactR w (evalLink env n w lq parent) (refLink env n lq parent) := by
  unfold evalLink refLink
  split
  · exact ih.q w lq _ .none none true hN
  · split
    · generalize parse env.dec parent = pq
      cases pq with
      | none => exact .refl hN _
      | some pq => exact ih.text w _ true hN
    · next hne =>
      split
      · exact absurd rfl (hne _ _ _ _)
      · exact .refl hN _

theorem params_exact_step {env : Env} {n : Nat} (ih : ExactAt env n) (w : World) (ps : List Param) (raw parent : Str)
    (hN : w.NoCache) : ExactR w (evalParams env (n+1) w ps raw parent) (refParams env (n+1) ps raw parent) := by
  cases ps with
  | nil => exact .refl hN _
  | cons p ps =>
    cases p with
    | str t pos =>
      rw [evalParams_str, refParams_str]
      obtain ⟨h1, h2, h3⟩ := ih.params w ps raw parent hN
      rcases hp : evalParams env n w ps raw parent with ⟨w1, r⟩
      rcases hr : refParams env n ps raw parent with ⟨r', c⟩
      simp only [hp, hr] at h1 h2 h3
      subst h2
      cases r <;> exact ⟨h1, rfl, h3⟩
    | link lq pos =>
      rw [evalParams_link, refParams_link]
      obtain ⟨h1, h2, h3⟩ := link_exact ih w lq parent hN
      rcases hl : evalLink env n w lq parent with ⟨w1, o⟩
      rcases hr : refLink env n lq parent with ⟨o', c1⟩
      simp only [hl, hr] at h1 h2 h3
      subst h2
      cases o with
      | st v =>
        dsimp only
        split
        · exact ⟨h1, rfl, h3⟩
        · obtain ⟨g1, g2, g3⟩ := ih.params w1 ps raw parent h1
          rcases hp : evalParams env n w1 ps raw parent with ⟨w2, r⟩
          rcases hr2 : refParams env n ps raw parent with ⟨r', c2⟩
          simp only [hp, hr2] at g1 g2 g3
          subst g2
          cases r <;> exact ⟨g1, rfl, by rw [g3, h3, List.append_assoc]⟩
      | _ => exact ⟨h1, rfl, h3⟩

theorem act_exact_step {env : Env} {n : Nat} (ih : ExactAt env n) (w : World) (st : EState) (a : Action)
    (raw parent : Str) (extra : Extra) (uc : Bool) (hN : w.NoCache) :
    ExactR w (evalAction env (n+1) w st a raw parent extra uc) (refAction env (n+1) st a raw parent extra) := by
  rw [evalAction_succ, refAction_succ]
  have hN0 := hN.metaIf uc raw (s "evaluation")
  cases namespacesOf st.vars with
  | none => exact ⟨hN0, rfl, by simp⟩
  | some nss =>
    dsimp only
    split
    · exact ⟨hN0, rfl, by simp⟩
    · cases resolve env.reg nss a.name with
      | none => exact ⟨hN0.metaIf _ _ _, rfl, by simp⟩
      | some sig =>
        dsimp only
        obtain ⟨h1, h2, h3⟩ := ih.params (w.metaIf uc raw (s "evaluation")) a.params raw parent hN0
        rcases hp : evalParams env n (w.metaIf uc raw (s "evaluation")) a.params raw parent with ⟨w1, r⟩
        rcases hr2 : refParams env n a.params raw parent with ⟨r', c1⟩
        simp only [hp, hr2, World.calls_metaIf] at h1 h2 h3
        subst h2
        cases r with
        | inr o => exact ⟨h1, rfl, h3⟩
        | inl given =>
          obtain ⟨g1, g2, g3⟩ := call_exact ih w1 st a raw sig (applyExtra extra given) uc h1
          exact ⟨g1, g2, by dsimp only; rw [g3, h3, List.append_assoc]⟩

theorem text_exact_step {env : Env} {n : Nat} (ih : ExactAt env n) (w : World) (t : Str) (ug : Bool) (hN : w.NoCache) :
    ExactR w (evalText env (n+1) w t ug) (refText env (n+1) t) := by
  rw [evalText_succ, refText_succ]
  cases parse env.dec t with
  | none => exact .refl hN _
  | some q => exact ih.q w q t .none none ug hN

theorem post_exact {env : Env} {n : Nat} (ih : ExactAt env n) (w1 : World) (st parent r key raw extra uc) (hN : w1.NoCache) :
    ExactR w1 (evalPost env n w1 st parent r key raw extra uc) (refPost env n st parent r key raw extra) := by
  rcases post_cases r with rfl | ⟨h, f, rfl⟩ | ⟨h, a, rfl⟩ | ⟨he, hr⟩
  · exact .refl hN _
  · exact ⟨(hN.metaIf _ _ _).fileW _ _ _, rfl, by simp [evalPost, refPost]⟩
  · obtain ⟨h1, h2, h3⟩ := ih.act w1 st a raw parent extra uc hN
    unfold evalPost refPost
    dsimp only
    rw [h2]
    cases (refAction env n st a raw parent extra).1 with
    | st st2 => exact ⟨h1.admitW _ _ _, rfl, by simp only [calls_admitW]; exact h3⟩
    | _ => exact ⟨h1, rfl, h3⟩
  · rw [he, hr]; exact .refl hN _

theorem after_exact {env : Env} {n : Nat} (ih : ExactAt env n) (w1 : World) (o parent r key raw extra uc) (hN : w1.NoCache) :
    ExactR w1 (evalAfter env n w1 o parent r key raw extra uc) (refAfter env n o parent r key raw extra) := by
  unfold evalAfter refAfter
  cases o with
  | st st =>
    dsimp only
    split
    · exact ⟨hN.metaIf _ _ _, rfl, by simp⟩
    · exact post_exact ih w1 _ _ _ _ _ _ _ hN
  | _ => exact .refl hN _

theorem pre_exact {env : Env} {n : Nat} (ih : ExactAt env n) (w : World) (q raw input uc) (hN : w.NoCache) :
    ExactR w (evalPre env n w q raw input uc) (refPre env n q input) := by
  unfold evalPre refPre
  cases q.preQ with
  | none => exact .refl hN _
  | some p =>
    obtain ⟨h1, h2, h3⟩ := ih.q (w.metaIf uc raw (s "evaluating parent")) p _ .none input uc (hN.metaIf _ _ _)
    exact ⟨h1, h2, by simpa using h3⟩

theorem q_exact_step {env : Env} {n : Nat} (ih : ExactAt env n) (w : World) (q : Query) (raw : Str) (extra : Extra)
    (input : Option Val) (uc : Bool) (hN : w.NoCache) :
    ExactR w (evalQ env (n+1) w q raw extra input uc) (refQ env (n+1) q raw extra input) := by
  rw [evalQ_succ', refQ_succ']
  have hmiss : (if (extra.isEmpty && input.isNone && uc) = true then w.get (q.encode Gen.escapeTable) else none) = none := by
    split
    · exact hN.get _
    · rfl
  rw [hmiss]
  dsimp only
  split
  · exact .refl hN _
  · obtain ⟨h1, h2, h3⟩ := pre_exact ih w q raw input uc hN
    rw [← h2]
    obtain ⟨g1, g2, g3⟩ := after_exact ih (evalPre env n w q raw input uc).1 (evalPre env n w q raw input uc).2
      q.preParent q.preRem (q.encode Gen.escapeTable) raw extra uc h1
    exact ⟨g1, g2, by dsimp only; rw [g3, h3, List.append_assoc]⟩

theorem exactAt_zero (env : Env) : ExactAt env 0 where
  text := fun _ _ _ hN => ExactR.refl hN _
  q := fun _ _ _ _ _ _ hN => ExactR.refl hN _
  act := fun _ _ _ _ _ _ _ hN => ExactR.refl hN _
  params := fun _ _ _ _ hN => ExactR.refl hN _

/-- under `NoCache()` the evaluator and the reference interpretation coincide -/
theorem exact (env : Env) : ∀ n, ExactAt env n
  | 0 => exactAt_zero env
  | n + 1 =>
    have ih := exact env n
    { text := text_exact_step ih, q := q_exact_step ih, act := act_exact_step ih, params := params_exact_step ih }

end Liquer
