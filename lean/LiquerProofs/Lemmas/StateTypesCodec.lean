/-
Lemmas about the codec of the two own state types (`LiquerModel/StateTypesCodec.lean`), used by `Props/C11.lean`.
-/
import LiquerModel.StateTypesCodec
import LiquerProofs.Lemmas.Text

namespace Liquer.StateTypes
open Liquer

theorem utf8Strict_utf8Bytes (s : Str) : utf8Strict (utf8Bytes s) = some s := decUtf8?_encode s

/-- the strict decoder accepts nothing but encodings: what it returns encodes to the bytes it was given
(so two different byte strings never decode to the same text) -/
theorem utf8Bytes_of_utf8Strict (b : List UInt8) (s : Str) (h : utf8Strict b = some s) : utf8Bytes s = b := by
  simp only [utf8Strict, decUtf8?, Option.map_eq_some_iff] at h
  obtain ⟨a, ha, rfl⟩ := h
  have hs : (b.toByteArray.utf8Decode?).isSome = true := by simp [ha]
  have := @ByteArray.utf8Encode_get_utf8Decode? b.toByteArray hs
  simp only [ha, Option.get_some] at this
  unfold List.utf8Encode at this
  exact List.toByteArray_inj.mp this

theorem mimeOf_of_writesExt (r : Row) (e : Str) (h : r.writesExt e = true) : ∃ m, r.mimeOf e = some m := by
  rw [Row.writesExt] at h
  rw [Row.mimeOf]
  generalize r.writes = ws at h
  induction ws with
  | nil => cases h
  | cons w ws ih =>
    rw [lookup]
    split
    · exact ⟨_, rfl⟩
    · next hne =>
      rw [List.any_cons, decide_eq_false hne, Bool.false_or] at h
      exact ih h

end Liquer.StateTypes
