/-
One-step equations of the reference interpretation.  The body of the mutual block of `Ref.lean` is cut into
named pieces: those it shares with the evaluator (`initSt`, `applyExtra`, `failSt`, `doneSt`, `callOf`,
`subOutcome`) and the stages `refCall`, `refLink`, `refPost`, `refAfter`, `refPre`; the `_succ` theorems state
that the model functions are these compositions.  The pieces live on the proof side only.

How the `_succ` equations are proved: unfold the model function once, turn every scrutinee into a variable
(`generalize`, `cases`) and close the leaves by `rfl`.  Left as it stands, a scrutinee such as `parse env.dec t`
is unfolded by the unifier as far as it goes whenever two different `match` compilations of the same case
distinction are compared, and that is the whole parser.
-/
import LiquerProofs.Lemmas.EvalDefs

namespace Liquer

/-- `create_initial_state` with the injected input value -/
def initSt (env : Env) (input : Option Val) : EState := { vars := env.defaults, data := input.getD .none }

/-- extra positional / keyword parameters appended to the converted parameters; the flag marks the result volatile -/
def applyExtra (extra : Extra) (given : List PVal) : List PVal × List (Str × Val) × Bool :=
  match extra with
  | .none => (given, [], false)
  | .list vs => if vs.isEmpty then (given, [], false) else (given ++ vs.map .raw, [], true)
  | .dict kv => if kv.isEmpty then (given, [], false) else (given, kv, true)

/-- `failAt` of both models -/
def failSt (st : EState) (act : Action) (attrs : List (Str × Str)) (vol : Bool) (pos : Option Nat) (q : Option Str) : EState :=
  { st with data := .none, isError := true, status := s "error", commands := [act.toList Gen.escapeTable], attrs := attrs,
            volatile := st.volatile || vol, errPos := pos, errQuery := q }

/-- `done` of both models -/
def doneSt (st : EState) (act : Action) (sig : CmdSig) (xv : Bool) (v : Val) (vars : Vars) (caching : Bool) : EState :=
  { st with data := v, vars := st.vars.update vars, status := statusReady, commands := [act.toList Gen.escapeTable],
            attrs := mergeAttrs st.attrs sig.attrs, caching := caching && st.caching,
            volatile := st.volatile || xv || cmdVolatile sig.attrs }

/-- the call-log line of an instrumented command (library commands are not instrumented) -/
def callOf (st : EState) (sig : CmdSig) (args : List Val) : List Str :=
  if isLibraryCommand sig.name then [] else [callText sig.ns sig.name (if sig.first then .none else st.data) args]

/-- the `match o with …` after a `subeval` in both models -/
def subOutcome (st : EState) (act : Action) (raw : Str) (sig : CmdSig) (xv : Bool) (x : Val) (o : Outcome) : Outcome :=
  match o with
  | .st sub => if sub.isError then .st (failSt st act (mergeAttrs st.attrs sig.attrs) xv sub.errPos sub.errQuery)
               else .st (doneSt st act sig xv (.list [x, sub.data]) [] true)
  | .parseError => .st (failSt st act (mergeAttrs st.attrs sig.attrs) xv (some act.pos) (some raw))
  | .raised _ _ => .unmodelled
  | .unmodelled => .unmodelled

/-- conversion of the arguments and the call, reference side (own calls only) -/
def refCall (env : Env) (n : Nat) (st : EState) (act : Action) (raw : Str) (sig : CmdSig)
    (x : List PVal × List (Str × Val) × Bool) : Outcome × List Str :=
  match parseArgv sig.args x.1 x.2.1 with
  | .unmodelled => (.unmodelled, [])
  | .fail => (.st (failSt st act (mergeAttrs st.attrs sig.attrs) (x.2.2 || cmdVolatile sig.attrs) (some act.pos) (some raw)), [])
  | .ok args =>
    match cmdSem sig.ns sig.name st.data st.vars args with
    | .unmodelled => (.unmodelled, callOf st sig args)
    | .raises => (.st (failSt st act (mergeAttrs st.attrs sig.attrs) (x.2.2 || cmdVolatile sig.attrs) (some act.pos) (some raw)), callOf st sig args)
    | .value v => (.st (doneSt st act sig x.2.2 v [] true), callOf st sig args)
    | .stateVars v vars => (.st (doneSt st act sig x.2.2 v vars true), callOf st sig args)
    | .nocache v => (.st (doneSt st act sig x.2.2 v [] false), callOf st sig args)
    | .subeval y qtext => (subOutcome st act raw sig x.2.2 y (refText env n qtext).1, callOf st sig args ++ (refText env n qtext).2)

theorem refAction_zero (env : Env) (st : EState) (act : Action) (raw parent : Str) (extra : Extra) :
    refAction env 0 st act raw parent extra = (.unmodelled, []) := rfl

theorem refAction_succ (env : Env) (n : Nat) (st : EState) (act : Action) (raw parent : Str) (extra : Extra) :
    refAction env (n+1) st act raw parent extra =
      match namespacesOf st.vars with
      | none => (.unmodelled, [])
      | some nss =>
        if !(nss.getLast?.map env.reg.hasNs).getD false then (.unmodelled, []) else
        match resolve env.reg nss act.name with
        | none => (.st (failSt st act (mergeAttrs st.attrs []) false (some act.pos) (some raw)), [])
        | some sig =>
          match refParams env n act.params raw parent with
          | (.inr o, c1) => (o, c1)
          | (.inl given, c1) =>
            ((refCall env n st act raw sig (applyExtra extra given)).1,
              c1 ++ (refCall env n st act raw sig (applyExtra extra given)).2) := by
  rw [refAction]
  cases namespacesOf st.vars with
  | none => rfl
  | some nss =>
    -- `dsimp -zeta only` selects the alternative of a `match` on a constructor; the model's `let`s stay folded
    dsimp -zeta only
    generalize (!(nss.getLast?.map env.reg.hasNs).getD false) = b
    cases b with
    | true => rfl
    | false =>
      cases resolve env.reg nss act.name with
      | none => rfl
      | some sig =>
        generalize refParams env n act.params raw parent = x
        obtain ⟨r, c1⟩ := x
        cases r with
        | inr o => rfl
        | inl given =>
          -- the model threads the calls through (`c2`), `refCall` returns its own
          have hc : ∀ args, (if isLibraryCommand sig.name = true then c1
              else c1 ++ [callText sig.ns sig.name (if sig.first = true then Val.none else st.data) args]) =
              c1 ++ callOf st sig args := by
            intro args; unfold callOf; split
            · rw [List.append_nil]
            · rfl
          dsimp -zeta only
          unfold refCall
          -- the model's own `match extra with …` is `applyExtra extra given` unfolded
          generalize hpa : parseArgv sig.args _ _ = pa
          rw [show parseArgv sig.args (applyExtra extra given).1 (applyExtra extra given).2.1 = pa from hpa]
          clear hpa
          cases pa with
          | unmodelled => exact congrArg (Prod.mk _) (List.append_nil c1).symm
          | fail => exact congrArg (Prod.mk _) (List.append_nil c1).symm
          | ok args =>
            dsimp -zeta only
            generalize cmdSem sig.ns sig.name st.data st.vars args = ce
            cases ce with
            | subeval y qt =>
              dsimp -zeta only
              generalize refText env n qt = r
              obtain ⟨o, c3⟩ := r
              have hc3 : (if isLibraryCommand sig.name = true then c1
                  else c1 ++ [callText sig.ns sig.name (if sig.first = true then Val.none else st.data) args]) ++ c3 =
                  c1 ++ (callOf st sig args ++ c3) := by rw [hc, List.append_assoc]
              cases o with
              | st sub =>
                dsimp -zeta only [subOutcome]
                generalize sub.isError = e
                cases e <;> exact congrArg (Prod.mk _) hc3
              | _ => exact congrArg (Prod.mk _) hc3
            | _ => exact congrArg (Prod.mk _) (hc args)

def refLink (env : Env) (n : Nat) (lq : Query) (parent : Str) : Outcome × List Str :=
  if lq.absolute || parent.isEmpty || parent == ['/'] then refQ env n lq (lq.encode Gen.escapeTable) .none none
  else
    match lq with
    | .mk [.transform h as f] _ =>
      (match parse env.dec parent with
       | none => (.unmodelled, [])
       | some pq => refText env n ((Query.mk (pq.segments ++ [.transform h as f]) pq.absolute).encode Gen.escapeTable))
    | _ => (.unmodelled, [])

theorem refParams_zero (env : Env) (ps : List Param) (raw parent : Str) :
    refParams env 0 ps raw parent = (.inr .unmodelled, []) := rfl

theorem refParams_nil (env : Env) (n : Nat) (raw parent : Str) :
    refParams env (n+1) [] raw parent = (.inl [], []) := rfl

theorem refParams_str (env : Env) (n : Nat) (t : Str) (pos : Nat) (ps : List Param) (raw parent : Str) :
    refParams env (n+1) (.str t pos :: ps) raw parent =
      match refParams env n ps raw parent with
      | (.inl rest, c) => (.inl (.text t pos :: rest), c)
      | other => other := rfl

theorem refParams_link (env : Env) (n : Nat) (lq : Query) (pos : Nat) (ps : List Param) (raw parent : Str) :
    refParams env (n+1) (.link lq pos :: ps) raw parent =
      match refLink env n lq parent with
      | (.st v, c1) =>
        if v.isError then (.inr (.raised (some pos) (some raw)), c1)
        else
          (match refParams env n ps raw parent with
           | (.inl rest, c2) => (.inl (.expanded v.data pos :: rest), c1 ++ c2)
           | (.inr o2, c2) => (.inr o2, c1 ++ c2))
      | (.raised a b, c1) => (.inr (.raised a b), c1)
      | (.parseError, c1) => (.inr .parseError, c1)
      | (.unmodelled, c1) => (.inr .unmodelled, c1) := by
  simp only [refParams, refLink]
  generalize (if (lq.absolute || parent.isEmpty || parent == ['/']) = true then _ else _ : Outcome × List Str) = x
  rcases x with ⟨o, c1⟩
  cases o <;> rfl

theorem refText_zero (env : Env) (t : Str) : refText env 0 t = (.unmodelled, []) := rfl

theorem refText_succ (env : Env) (n : Nat) (t : Str) :
    refText env (n+1) t = match parse env.dec t with
      | none => (.parseError, [])
      | some q => refQ env n q t .none none := by
  rw [refText]
  generalize parse env.dec t = x
  cases x <;> rfl

/-- the last step of a query applied to the successful state of its predecessor, reference side (own calls only) -/
def refPost (env : Env) (n : Nat) (st : EState) (parent : Str) (r : Option Seg) (key raw : Str) (extra : Extra) :
    Outcome × List Str :=
  match r with
  | none => (.st { st with query := key }, [])
  | some (.transform _ [] (some f)) =>
    (.st { st with filename := some f, extension := some (extensionOf f), query := key }, [])
  | some (.transform _ [a] none) =>
    (match (refAction env n st a raw parent extra).1 with
     | .st st2 => (.st { st2 with query := key }, (refAction env n st a raw parent extra).2)
     | other => (other, (refAction env n st a raw parent extra).2))
  | some _ => (.unmodelled, [])

/-- what follows the evaluation of the predecessor, reference side (own calls only) -/
def refAfter (env : Env) (n : Nat) (o : Outcome) (parent : Str) (r : Option Seg) (key raw : Str) (extra : Extra) :
    Outcome × List Str :=
  match o with
  | .raised a b => (.raised a b, [])
  | .parseError => (.parseError, [])
  | .unmodelled => (.unmodelled, [])
  | .st st =>
    if st.isError then (.st { st with data := .none, query := key }, [])
    else refPost env n st parent r key raw extra

theorem refQ_zero (env : Env) (q : Query) (raw : Str) (extra : Extra) (input : Option Val) :
    refQ env 0 q raw extra input = (.unmodelled, []) := rfl

theorem refQ_succ (env : Env) (n : Nat) (q : Query) (raw : Str) (extra : Extra) (input : Option Val) :
    refQ env (n+1) q raw extra input =
      if q.isRes then (.unmodelled, []) else
      match q.predecessor with
      | none => refAfter env n (.st (initSt env input)) [] none (q.encode Gen.escapeTable) raw extra
      | some (p, r) =>
        if p.segments.isEmpty then refAfter env n (.st (initSt env input)) [] r (q.encode Gen.escapeTable) raw extra
        else
          ((refAfter env n (refQ env n p (p.encode Gen.escapeTable) .none input).1 (p.encode Gen.escapeTable) r
              (q.encode Gen.escapeTable) raw extra).1,
            (refQ env n p (p.encode Gen.escapeTable) .none input).2 ++
            (refAfter env n (refQ env n p (p.encode Gen.escapeTable) .none input).1 (p.encode Gen.escapeTable) r
              (q.encode Gen.escapeTable) raw extra).2) := by
  simp only [refQ]
  split
  · simp [Query.isRes]
  · next hres =>
    have hr : q.isRes = false := by
      unfold Query.isRes; split
      · exact absurd rfl (hres _ _ _)
      · rfl
    rw [hr]
    cases q.predecessor with
    | none => rfl
    | some pr =>
      obtain ⟨p, r⟩ := pr
      dsimp -zeta only
      generalize p.segments.isEmpty = b
      cases b with
      | true => rfl
      | false =>
        -- only here do the calls of the predecessor have to be threaded through `refAfter`
        generalize refQ env n p _ .none input = x
        obtain ⟨o, c⟩ := x
        simp only [Bool.false_eq_true, ↓reduceIte]
        have hnil : ∀ o : Outcome, (o, c) = (o, c ++ []) := fun o => congrArg (Prod.mk o) (List.append_nil c).symm
        unfold refAfter refPost
        cases o with
        | st st =>
          dsimp -zeta only
          generalize st.isError = e
          cases e with
          | true => exact hnil _
          | false =>
            simp only [Bool.false_eq_true, ↓reduceIte]
            rcases r with _ | ⟨h, _ | ⟨a, _ | ⟨b, rest⟩⟩, _ | f⟩ | ⟨h, ns⟩
            case some.transform.cons.nil.none =>
              dsimp -zeta only
              generalize refAction env n st a raw _ extra = y
              obtain ⟨o2, c2⟩ := y
              cases o2 <;> rfl
            all_goals exact hnil _
        | _ => exact hnil _

/-- the last step of the query (`none`: no step, the query is its predecessor with another key) -/
def Query.preRem (q : Query) : Option Seg :=
  match q.predecessor with
  | some (_, r) => r
  | none => none

/-- the predecessor that is evaluated (`none`: the evaluation starts from the initial state) -/
def Query.preQ (q : Query) : Option Query :=
  match q.predecessor with
  | some (p, _) => if p.segments.isEmpty then none else some p
  | none => none

/-- `parent_query` of the last action -/
def Query.preParent (q : Query) : Str :=
  match q.preQ with
  | some p => p.encode Gen.escapeTable
  | none => []

/-- the predecessor stage in one piece: the initial state, or the evaluation of the non-empty predecessor -/
def refPre (env : Env) (m : Nat) (q : Query) (input : Option Val) : Outcome × List Str :=
  match q.preQ with
  | none => (.st (initSt env input), [])
  | some p => refQ env m p (p.encode Gen.escapeTable) .none input

/-- the form the inductions use: one equation instead of the three cases of `refQ_succ` -/
theorem refQ_succ' (env : Env) (n : Nat) (q : Query) (raw : Str) (extra : Extra) (input : Option Val) :
    refQ env (n+1) q raw extra input =
      if q.isRes then (.unmodelled, []) else
        ((refAfter env n (refPre env n q input).1 q.preParent q.preRem (q.encode Gen.escapeTable) raw extra).1,
          (refPre env n q input).2 ++
          (refAfter env n (refPre env n q input).1 q.preParent q.preRem (q.encode Gen.escapeTable) raw extra).2) := by
  rw [refQ_succ]
  unfold refPre Query.preParent Query.preQ Query.preRem
  split
  · rfl
  · cases hp : q.predecessor with
    | none => simp
    | some pr =>
      rcases pr with ⟨p, r⟩
      cases hpe : p.segments.isEmpty <;> simp only [hpe, Bool.false_eq_true, if_true, if_false, List.nil_append]

theorem Query.preQ_some {q p : Query} (h : q.preQ = some p) :
    ∃ r, q.predecessor = some (p, r) ∧ p.segments.isEmpty = false := by
  unfold Query.preQ at h
  split at h
  · next p' r hp =>
    split at h
    · simp at h
    · next hpe => simp at h; subst h; exact ⟨r, hp, by simpa using hpe⟩
  · simp at h

theorem Query.preQ_of_pred {q p : Query} {r : Option Seg} (h : q.predecessor = some (p, r))
    (hpe : p.segments.isEmpty = false) : q.preQ = some p := by
  simp [Query.preQ, h, hpe]

theorem Query.preRem_some {q : Query} {r : Seg} (h : q.preRem = some r) :
    ∃ p, q.predecessor = some (p, some r) := by
  unfold Query.preRem at h
  split at h
  · next p' r' hp => subst h; exact ⟨p', hp⟩
  · simp at h

theorem Query.predecessor_not_isRes {q : Query} {x} (h : q.predecessor = some x) : q.isRes = false := by
  unfold Query.isRes
  split
  · simp [Query.predecessor] at h
  · rfl

/-- the outcome that aborts the conversion of the parameters is never a state -/
theorem refParams_inr_not_st (env : Env) : ∀ n ps raw parent e, (refParams env n ps raw parent).1 ≠ .inr (.st e)
  | 0, ps, raw, parent, e => by simp [refParams_zero]
  | n + 1, [], raw, parent, e => by simp [refParams_nil]
  | n + 1, .str t pos :: ps, raw, parent, e => by
    rw [refParams_str]
    have ih := refParams_inr_not_st env n ps raw parent e
    rcases hp : refParams env n ps raw parent with ⟨r, c⟩
    rw [hp] at ih
    cases r with
    | inl g => simp
    | inr o => exact ih
  | n + 1, .link lq pos :: ps, raw, parent, e => by
    rw [refParams_link]
    have ih := refParams_inr_not_st env n ps raw parent e
    rcases refLink env n lq parent with ⟨o, c1⟩
    cases o with
    | st v =>
      simp only
      split
      · simp
      · rcases hp : refParams env n ps raw parent with ⟨r, c⟩
        rw [hp] at ih
        cases r with
        | inl g => simp
        | inr o => exact ih
    | _ => simp

/-- converted parameters do not depend on the as-typed text -/
theorem refParams_raw_indep (env : Env) (raw' : Str) : ∀ n ps raw parent g, (refParams env n ps raw parent).1 = .inl g →
    refParams env n ps raw' parent = refParams env n ps raw parent
  | 0, ps, raw, parent, g, h => by simp [refParams_zero] at h
  | n + 1, [], raw, parent, g, h => by simp [refParams_nil]
  | n + 1, .str t pos :: ps, raw, parent, g, h => by
    rw [refParams_str] at h ⊢
    rw [refParams_str]
    have ih := refParams_raw_indep env raw' n ps raw parent
    rcases hp : refParams env n ps raw parent with ⟨r, c⟩
    rw [hp] at h ih
    cases r with
    | inl g' => rw [ih g' rfl]
    | inr o => simp at h
  | n + 1, .link lq pos :: ps, raw, parent, g, h => by
    rw [refParams_link] at h ⊢
    rw [refParams_link]
    have ih := refParams_raw_indep env raw' n ps raw parent
    generalize refLink env n lq parent = x at h ⊢
    rcases x with ⟨o, c1⟩
    cases o with
    | st v =>
      simp only at h ⊢
      cases hv : v.isError
      · simp only [hv, Bool.false_eq_true, if_false] at h ⊢
        rcases hp : refParams env n ps raw parent with ⟨r, c⟩
        rw [hp] at h ih
        cases r with
        | inl g' => rw [ih g' rfl]
        | inr o => simp at h
      · simp [hv] at h
    | _ => simp at h

/-- a state returned by the call of a command is the error state or the state after success -/
theorem refCall_st {env : Env} {n : Nat} {st : EState} {act : Action} {raw : Str} {sig : CmdSig}
    {x : List PVal × List (Str × Val) × Bool} {s : EState} (h : (refCall env n st act raw sig x).1 = .st s) :
    (∃ vol pos q, s = failSt st act (mergeAttrs st.attrs sig.attrs) vol pos q) ∨
      ∃ v vars c, s = doneSt st act sig x.2.2 v vars c := by
  unfold refCall at h
  generalize parseArgv sig.args x.1 x.2.1 = pa at h
  cases pa with
  | unmodelled => cases h
  | fail => cases h; exact .inl ⟨_, _, _, rfl⟩
  | ok args =>
    dsimp only at h
    generalize cmdSem sig.ns sig.name st.data st.vars args = ce at h
    cases ce with
    | unmodelled => cases h
    | raises => cases h; exact .inl ⟨_, _, _, rfl⟩
    | subeval y qt =>
      dsimp only [subOutcome] at h
      generalize (refText env n qt).1 = o at h
      cases o with
      | st sub =>
        dsimp only at h
        split at h <;> cases h
        · exact .inl ⟨_, _, _, rfl⟩
        · exact .inr ⟨_, _, _, rfl⟩
      | parseError => cases h; exact .inl ⟨_, _, _, rfl⟩
      | _ => cases h
    | _ => cases h; exact .inr ⟨_, _, _, rfl⟩

/-- the action up to the call, once the command is resolved -/
theorem refAction_resolved (env : Env) (n : Nat) (st : EState) (act : Action) (raw parent : Str) (extra : Extra)
    (nss : List Str) (sig : CmdSig) (hns : namespacesOf st.vars = some nss)
    (hl : (nss.getLast?.map env.reg.hasNs).getD false = true)
    (hr : resolve env.reg nss act.name = some sig) :
    refAction env (n+1) st act raw parent extra =
      match refParams env n act.params raw parent with
      | (.inr o, c1) => (o, c1)
      | (.inl given, c1) =>
        ((refCall env n st act raw sig (applyExtra extra given)).1,
          c1 ++ (refCall env n st act raw sig (applyExtra extra given)).2) := by
  rw [refAction_succ]; simp only [hns, hl, hr, Bool.not_true, Bool.false_eq_true, if_false]

/-- a state returned by an action: the command is unknown, or the state comes from the call of the resolved command
on the converted parameters -/
theorem refAction_inv {env : Env} {n : Nat} {st : EState} {a : Action} {raw parent : Str} {extra : Extra} {s : EState}
    (h : (refAction env (n+1) st a raw parent extra).1 = .st s) :
    ∃ nss, namespacesOf st.vars = some nss ∧ (nss.getLast?.map env.reg.hasNs).getD false = true ∧
      ((resolve env.reg nss a.name = none ∧ s = failSt st a (mergeAttrs st.attrs []) false (some a.pos) (some raw)) ∨
        ∃ sig g c1, resolve env.reg nss a.name = some sig ∧ refParams env n a.params raw parent = (.inl g, c1) ∧
          (refCall env n st a raw sig (applyExtra extra g)).1 = .st s) := by
  rw [refAction_succ] at h
  cases hns : namespacesOf st.vars with
  | none => rw [hns] at h; cases h
  | some nss =>
    rw [hns] at h
    cases hl : (nss.getLast?.map env.reg.hasNs).getD false with
    | false => simp [hl] at h
    | true =>
      simp only [hl, Bool.not_true, Bool.false_eq_true, if_false] at h
      refine ⟨nss, rfl, hl, ?_⟩
      cases hr : resolve env.reg nss a.name with
      | none => rw [hr] at h; cases h; exact .inl ⟨rfl, rfl⟩
      | some sig =>
        rw [hr] at h
        have hni := refParams_inr_not_st env n a.params raw parent s
        rcases hp : refParams env n a.params raw parent with ⟨r, c1⟩
        rw [hp] at h hni
        cases r with
        | inr o => cases h; exact absurd rfl hni
        | inl g => exact .inr ⟨sig, g, c1, rfl, rfl, h⟩

end Liquer
