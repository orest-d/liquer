/-
C12, file-operation granularity (2): the invariant of concurrently running writers of ONE entry, for any executor with
`StepLaws` (the flat cache directory and the directory tree are the two instances).

The entry is a metadata file `S` and a data file `D`.  A writer (`Writer`) is a *store* writer — steps that do not concern
the entry (`pre`: the `mkdir`s of the tree), unlink `S`, one more step (`mid`: the unlink of `D`, or a `mkdir`), write-close-rename
the data `X` through its own temporary, write-close-rename its ready metadata through its own temporary — or a *progress* writer
(write-close-rename metadata that does not say `ready`), or does nothing.  All store writers write the same data bytes `X`.

* local part (`Writer.loc`): what the writer's own temporaries hold at each of its positions; nobody else touches them;
* global part (`G t dd`), with two monotone ghost flags: `t` = "somebody has already touched `S`" (executed its `unlink` or
  published by `rename`), `dd` = "somebody has already published `D`":
  - `¬ t`: `S` and `D` are those of the initial state;
  - `t`: `S` is absent, or holds a progress record, or holds the ready record of a store writer **and** `dd`
    (a store writer publishes its data before its metadata);
  - `D` is absent, or complete, or nobody has published yet and it is the initial one.
-/
import LiquerProofs.Lemmas.ConcFile1

namespace Liquer
namespace Crash

variable {ν φ β : Type}

/-- what the temporary file of `writeVia tmp _ b` holds when its writer stands at position `q` of these four steps -/
def TmpAt (get : φ → ν → Option β) (file : Data → β) (tmp : ν) (b : Data) (q : Nat) (d : φ) : Prop :=
  (q = 1 → get d tmp = some (file [])) ∧ ((q = 2 ∨ q = 3) → get d tmp = some (file b))

section laws
variable {exec : φ → Step ν → φ} {get : φ → ν → Option β} {file : Data → β} (L : StepLaws exec get file)
include L

omit L in
theorem TmpAt.outside {tmp : ν} {b : Data} {q : Nat} (d : φ) (h : q = 0 ∨ 4 ≤ q) : TmpAt get file tmp b q d := by
  rcases h with rfl | h
  · exact ⟨nofun, fun e => e.elim nofun nofun⟩
  · exact ⟨fun e => absurd (e ▸ h) (by decide), fun e => e.elim (fun e => absurd (e ▸ h) (by decide)) (fun e => absurd (e ▸ h) (by decide))⟩

theorem TmpAt.frame {tmp : ν} {b : Data} {q : Nat} {d : φ} (s : Step ν) (hs : tmp ∉ s.names) (h : TmpAt get file tmp b q d) :
    TmpAt get file tmp b q (exec d s) := by
  unfold TmpAt; rw [L.untouched d s tmp hs]; exact h

/-- the step at position `q` of `writeVia tmp target b`: the first three touch `tmp` only; when the `rename` runs `tmp` is complete -/
theorem TmpAt.step {tmp target : ν} {b : Data} {q : Nat} {s : Step ν} {d : φ} (hs : (writeVia tmp target b)[q]? = some s)
    (h : TmpAt get file tmp b q d) :
    TmpAt get file tmp b (q + 1) (exec d s) ∧
      ((q < 3 ∧ s.names = [tmp]) ∨ (q = 3 ∧ s = .rename tmp target ∧ get d tmp = some (file b))) := by
  rcases getElem?_cons_some hs with ⟨rfl, rfl⟩ | ⟨q1, rfl, h1⟩
  · exact ⟨⟨fun _ => L.create d tmp, fun e => e.elim nofun nofun⟩, Or.inl ⟨by decide, rfl⟩⟩
  rcases getElem?_cons_some h1 with ⟨rfl, rfl⟩ | ⟨q2, rfl, h2⟩
  · exact ⟨⟨nofun, fun _ => L.append d tmp [] b (h.1 rfl)⟩, Or.inl ⟨by decide, rfl⟩⟩
  rcases getElem?_cons_some h2 with ⟨rfl, rfl⟩ | ⟨q3, rfl, h3⟩
  · exact ⟨⟨nofun, fun _ => by rw [L.close]; exact h.2 (Or.inl rfl)⟩, Or.inl ⟨by decide, rfl⟩⟩
  rcases getElem?_cons_some h3 with ⟨rfl, rfl⟩ | ⟨q4, rfl, h4⟩
  · exact ⟨TmpAt.outside _ (Or.inr (Nat.le_refl 4)), Or.inr ⟨rfl, rfl, h.2 (Or.inr rfl)⟩⟩
  cases h4

end laws

/-- the global part at the state `d`, started from `d0`: `X` the complete data bytes all store writers write, `PS` / `PN` the
metadata payloads of the store / progress writers, `t` = somebody has touched `S`, `dd` = somebody has published `D` -/
structure G (get : φ → ν → Option β) (file : Data → β) (S D : ν) (X : Data) (d0 : φ) (PS PN : Data → Prop) (t dd : Prop) (d : φ) :
    Prop where
  same : ¬ t → get d S = get d0 S ∧ get d D = get d0 D
  st : t → get d S = none ∨ (∃ b, get d S = some (file b) ∧ PN b) ∨ (∃ b, get d S = some (file b) ∧ PS b ∧ dd)
  dat : get d D = none ∨ get d D = some (file X) ∨ (¬ dd ∧ get d D = get d0 D)

namespace G
variable {get : φ → ν → Option β} {file : Data → β} {S D : ν} {X : Data} {d0 : φ} {PS PN : Data → Prop} {t dd : Prop} {d d' : φ}

theorem flags {t' dd' : Prop} (h : G get file S D X d0 PS PN t dd d) (h1 : t ↔ t') (h2 : dd ↔ dd') :
    G get file S D X d0 PS PN t' dd' d := by
  rw [← propext h1, ← propext h2]; exact h

theorem init : G get file S D X d0 PS PN False False d0 :=
  ⟨fun _ => ⟨rfl, rfl⟩, fun h => h.elim, Or.inr (Or.inr ⟨fun h => h, rfl⟩)⟩

theorem keep (h : G get file S D X d0 PS PN t dd d) (hS : get d' S = get d S) (hD : get d' D = get d D) :
    G get file S D X d0 PS PN t dd d' := by
  refine ⟨fun ht => ?_, fun ht => ?_, ?_⟩
  · rw [hS, hD]; exact h.same ht
  · rw [hS]; exact h.st ht
  · rw [hD]; exact h.dat

theorem unlinkS (h : G get file S D X d0 PS PN t dd d) (hS : get d' S = none) (hD : get d' D = get d D) :
    G get file S D X d0 PS PN True dd d' :=
  ⟨fun ht => (ht trivial).elim, fun _ => Or.inl hS, by rw [hD]; exact h.dat⟩

/-- the unlink of `D`, by a writer that has unlinked `S` before -/
theorem unlinkD (h : G get file S D X d0 PS PN t dd d) (ht : t) (hS : get d' S = get d S) (hD : get d' D = none) :
    G get file S D X d0 PS PN t dd d' :=
  ⟨fun hn => (hn ht).elim, fun _ => by rw [hS]; exact h.st ht, Or.inl hD⟩

/-- the `rename` that publishes the complete data, by a writer that has unlinked `S` before -/
theorem publishD (h : G get file S D X d0 PS PN t dd d) (ht : t) (hS : get d' S = get d S) (hD : get d' D = some (file X)) :
    G get file S D X d0 PS PN t True d' := by
  refine ⟨fun hn => (hn ht).elim, fun _ => ?_, Or.inr (Or.inl hD)⟩
  rw [hS]
  exact (h.st ht).imp_right (Or.imp_right fun ⟨b, hb, hp, _⟩ => ⟨b, hb, hp, trivial⟩)

/-- the `rename` that publishes a metadata record: a progress record, or a ready record after the data -/
theorem publishS (h : G get file S D X d0 PS PN t dd d) {M : Data} (hM : PN M ∨ (PS M ∧ dd)) (hS : get d' S = some (file M))
    (hD : get d' D = get d D) : G get file S D X d0 PS PN True dd d' :=
  ⟨fun ht => (ht trivial).elim, fun _ => Or.inr (hM.imp (fun h => ⟨M, hS, h⟩) (fun h => ⟨M, hS, h⟩)), by rw [hD]; exact h.dat⟩

end G

inductive Writer (ν : Type) where
  | idle
  | store (pre : List (Step ν)) (mid : Step ν) (t1 t2 : ν) (M : Data)
  | progress (pre : List (Step ν)) (t : ν) (M : Data)

namespace Writer

def steps (S D : ν) (X : Data) : Writer ν → List (Step ν)
  | idle => []
  | store pre mid t1 t2 M => pre ++ (.unlink S :: mid :: (writeVia t1 D X ++ writeVia t2 S M))
  | progress pre t M => pre ++ writeVia t S M

def tmps : Writer ν → List ν
  | idle => []
  | store _ _ t1 t2 _ => [t1, t2]
  | progress _ t _ => [t]

/-- position `q` of the whole list is position `q - pre.length` of the steps that concern the entry: `0` unlink, `1` `mid`,
`2`–`5` the data through `t1`, `6`–`9` the metadata through `t2` (a progress writer: `0`–`3`) -/
def loc (get : φ → ν → Option β) (file : Data → β) (X : Data) : Writer ν → Nat → φ → Prop
  | idle, _, _ => True
  | store pre _ t1 t2 M, q, d => TmpAt get file t1 X (q - pre.length - 2) d ∧ TmpAt get file t2 M (q - pre.length - 6) d
  | progress pre t M, q, d => TmpAt get file t M (q - pre.length) d

/-- the writer at position `q` has run its `unlink S` (a store writer: position `0` of its ten steps) or its `rename` onto `S`
(a progress writer: position `3` of its four) -/
def touched : Writer ν → Nat → Prop
  | idle, _ => False
  | store pre .., q => 1 ≤ q - pre.length
  | progress pre .., q => 4 ≤ q - pre.length

/-- the writer at position `q` has run its `rename` onto `D` (position `5`) -/
def published : Writer ν → Nat → Prop
  | store pre .., q => 6 ≤ q - pre.length
  | _, _ => False

theorem not_touched_zero (w : Writer ν) : ¬ w.touched 0 := by
  cases w <;> simp only [touched, Nat.zero_sub] <;> decide

theorem not_published_zero (w : Writer ν) : ¬ w.published 0 := by
  cases w <;> simp only [published, Nat.zero_sub] <;> decide

theorem loc_zero {get : φ → ν → Option β} {file : Data → β} {X : Data} (w : Writer ν) (d : φ) : w.loc get file X 0 d := by
  cases w with
  | idle => trivial
  | store => simp only [loc, Nat.zero_sub]; exact ⟨TmpAt.outside _ (Or.inl rfl), TmpAt.outside _ (Or.inl rfl)⟩
  | progress => simp only [loc, Nat.zero_sub]; exact TmpAt.outside _ (Or.inl rfl)

theorem touched_mono (w : Writer ν) {q q' : Nat} (h : q ≤ q') : w.touched q → w.touched q' := by
  cases w with
  | idle => exact id
  | store pre => exact fun h1 => Nat.le_trans h1 (Nat.sub_le_sub_right h _)
  | progress pre => exact fun h1 => Nat.le_trans h1 (Nat.sub_le_sub_right h _)

theorem published_mono (w : Writer ν) {q q' : Nat} (h : q ≤ q') : w.published q → w.published q' := by
  cases w with
  | store pre => exact fun h1 => Nat.le_trans h1 (Nat.sub_le_sub_right h _)
  | _ => exact id

/-- the steps that do not concern the entry -/
def quiet : Writer ν → List (Step ν)
  | idle => []
  | store pre mid .. => mid :: pre
  | progress pre .. => pre

theorem mem_steps {S D : ν} {X : Data} {w : Writer ν} {s : Step ν} (hs : s ∈ w.steps S D X) :
    s ∈ w.quiet ∨ ∀ n ∈ s.names, n = S ∨ n = D ∨ n ∈ w.tmps := by
  have hv : ∀ {tmp target : ν} {b : Data}, s ∈ writeVia tmp target b → ∀ n ∈ s.names, n = tmp ∨ n = target := by
    intro tmp target b h n hn
    simp only [writeVia, List.mem_cons, List.not_mem_nil, or_false] at h
    rcases h with rfl | rfl | rfl | rfl
    · exact Or.inl (List.mem_singleton.1 hn)
    · exact Or.inl (List.mem_singleton.1 hn)
    · exact Or.inl (List.mem_singleton.1 hn)
    · simpa [Step.names] using hn
  cases w with
  | idle => cases hs
  | store pre mid t1 t2 M =>
    simp only [steps, List.mem_append, List.mem_cons] at hs
    rcases hs with hs | rfl | rfl | hs | hs
    · exact Or.inl (List.mem_cons_of_mem _ hs)
    · exact Or.inr fun n hn => Or.inl (List.mem_singleton.1 hn)
    · exact Or.inl (List.mem_cons_self ..)
    · exact Or.inr fun n hn => (hv hs n hn).elim (fun e => by simp [tmps, e]) (fun e => Or.inr (Or.inl e))
    · exact Or.inr fun n hn => (hv hs n hn).elim (fun e => by simp [tmps, e]) Or.inl
  | progress pre t M =>
    rcases List.mem_append.1 hs with hs | hs
    · exact Or.inl hs
    · exact Or.inr fun n hn => (hv hs n hn).elim (fun e => by simp [tmps, e]) Or.inl

/-- the steps of `pre` and (unless it is the unlink of `D`) `mid` mention none of the names `N` (`S`, `D`, everybody's
temporaries); the payload is one `G` knows -/
def OK (D : ν) (N : ν → Prop) (PS PN : Data → Prop) : Writer ν → Prop
  | idle => True
  | store pre mid _ _ M => (∀ s ∈ pre, ∀ n ∈ s.names, ¬ N n) ∧ (mid = .unlink D ∨ ∀ n ∈ mid.names, ¬ N n) ∧ PS M
  | progress pre _ M => (∀ s ∈ pre, ∀ n ∈ s.names, ¬ N n) ∧ PN M

theorem OK.quiet {D : ν} {N : ν → Prop} {PS PN : Data → Prop} {w : Writer ν} (hw : w.OK D N PS PN) :
    ∀ s ∈ w.quiet, s = .unlink D ∨ ∀ n ∈ s.names, ¬ N n := by
  intro s hs
  cases w with
  | idle => cases hs
  | store pre mid t1 t2 M =>
    rcases List.mem_cons.1 hs with rfl | hs
    · exact hw.2.1
    · exact Or.inr (hw.1 s hs)
  | progress pre t M => exact Or.inr (hw.1 s hs)

theorem not_mem_names {S D : ν} {X : Data} {N : ν → Prop} {PS PN : Data → Prop} {w : Writer ν} (hw : w.OK D N PS PN)
    {n : ν} (hN : N n) (hS : n ≠ S) (hD : n ≠ D) (ht : n ∉ w.tmps) : ∀ s ∈ w.steps S D X, n ∉ s.names := by
  intro s hs hn
  rcases mem_steps hs with h | h
  · rcases hw.quiet s h with rfl | h
    · exact hD (List.mem_singleton.1 hn)
    · exact h n hn hN
  · rcases h n hn with h | h | h
    · exact hS h
    · exact hD h
    · exact ht h

def when (b : Bool) (w : Writer ν) : Writer ν := if b then w else idle

theorem when_steps (b : Bool) (w : Writer ν) (S D : ν) (X : Data) : (w.when b).steps S D X = if b then w.steps S D X else [] := by
  cases b <;> rfl

theorem when_tmps (b : Bool) (w : Writer ν) : (w.when b).tmps = if b then w.tmps else [] := by
  cases b <;> rfl

theorem OK.when {D : ν} {N : ν → Prop} {PS PN : Data → Prop} {w : Writer ν} {b : Bool} (h : b = true → w.OK D N PS PN) :
    (w.when b).OK D N PS PN := by
  cases b
  · trivial
  · exact h rfl

section laws
variable {exec : φ → Step ν → φ} {get : φ → ν → Option β} {file : Data → β} (L : StepLaws exec get file)
include L

theorem loc_frame {X : Data} (w : Writer ν) {q : Nat} {d : φ} (s : Step ν) (hs : ∀ n ∈ w.tmps, n ∉ s.names)
    (h : w.loc get file X q d) : w.loc get file X q (exec d s) := by
  cases w with
  | idle => trivial
  | store pre mid t1 t2 M => exact ⟨h.1.frame L s (hs t1 (by simp [tmps])), h.2.frame L s (hs t2 (by simp [tmps]))⟩
  | progress pre t M => exact h.frame L s (hs t (by simp [tmps]))

variable {S D : ν} {X : Data} {d0 : φ} {PS PN : Data → Prop} {N : ν → Prop}

theorem store_step {mid : Step ν} {t1 t2 : ν} {M : Data} (hmid : mid = .unlink D ∨ (S ∉ mid.names ∧ D ∉ mid.names)) (hM : PS M)
    (hSD : S ≠ D) (hS1 : S ≠ t1) (hS2 : S ≠ t2) (hD1 : D ≠ t1) (hD2 : D ≠ t2)
    {k : Nat} {s : Step ν} (hs : (.unlink S :: mid :: (writeVia t1 D X ++ writeVia t2 S M))[k]? = some s) {d : φ} {t dd : Prop}
    (hL1 : TmpAt get file t1 X (k - 2) d) (hL2 : TmpAt get file t2 M (k - 6) d) (hG : G get file S D X d0 PS PN t dd d)
    (ht : 1 ≤ k → t) (hdd : 6 ≤ k → dd) :
    (TmpAt get file t1 X (k + 1 - 2) (exec d s) ∧ TmpAt get file t2 M (k + 1 - 6) (exec d s)) ∧
      G get file S D X d0 PS PN True (dd ∨ 5 ≤ k) (exec d s) := by
  have un : ∀ {n}, n ∉ s.names → get (exec d s) n = get d n := L.untouched d s _
  have ne1 : ∀ {a b : ν}, a ≠ b → a ∉ [b] := fun h hm => h (List.mem_singleton.1 hm)
  have ne2 : ∀ {a b c : ν}, a ≠ b → a ≠ c → a ∉ [b, c] := fun h1 h2 hm => (List.mem_cons.1 hm).elim h1 (ne1 h2)
  rcases getElem?_cons_some hs with ⟨rfl, rfl⟩ | ⟨k1, rfl, hs1⟩
  · exact ⟨⟨TmpAt.outside _ (Or.inl rfl), TmpAt.outside _ (Or.inl rfl)⟩,
      (hG.unlinkS (L.unlink d S) (un (ne1 hSD.symm))).flags Iff.rfl (or_iff_left (by decide)).symm⟩
  have ht1 : t := ht (Nat.le_add_left 1 k1)
  rcases getElem?_cons_some hs1 with ⟨rfl, rfl⟩ | ⟨j, rfl, hs2⟩
  · refine ⟨⟨TmpAt.outside _ (Or.inl rfl), TmpAt.outside _ (Or.inl rfl)⟩, G.flags ?_ (iff_true_intro ht1) (or_iff_left (by decide)).symm⟩
    rcases hmid with rfl | hmid
    · exact hG.unlinkD ht1 (un (ne1 hSD)) (L.unlink d D)
    · exact hG.keep (un hmid.1) (un hmid.2)
  rcases Nat.lt_or_ge j 4 with hj | hj
  · -- the data through `t1`
    rw [List.getElem?_append_left hj] at hs2
    obtain ⟨h1, hcase⟩ := TmpAt.step L hs2 hL1
    refine ⟨⟨h1, TmpAt.outside _ (Or.inl (Nat.sub_eq_zero_of_le (Nat.succ_le_of_lt (Nat.add_lt_add_right hj 2))))⟩, ?_⟩
    rcases hcase with ⟨hj3, hn⟩ | ⟨rfl, rfl, htmp⟩
    · exact (hG.keep (un (hn ▸ ne1 hS1)) (un (hn ▸ ne1 hD1))).flags (iff_true_intro ht1)
        (or_iff_left (Nat.not_le_of_lt (Nat.add_lt_add_right hj3 2))).symm
    · exact (hG.publishD ht1 (un (ne2 hS1 hSD)) (L.rename d _ _ _ htmp)).flags (iff_true_intro ht1)
        (iff_of_true trivial (Or.inr (Nat.le_refl 5)))
  · -- the metadata through `t2`: the data has been published
    obtain ⟨i, rfl⟩ : ∃ i, j = i + 4 := ⟨j - 4, (Nat.sub_add_cancel hj).symm⟩
    rw [List.getElem?_append_right hj] at hs2
    have hd : dd := hdd (Nat.le_add_left 6 i)
    obtain ⟨h2, hcase⟩ := TmpAt.step L hs2 hL2
    refine ⟨⟨TmpAt.outside _ (Or.inr (Nat.le_add_left 4 (i + 1))), h2⟩, ?_⟩
    rcases hcase with ⟨hj3, hn⟩ | ⟨-, rfl, htmp⟩
    · exact (hG.keep (un (hn ▸ ne1 hS2)) (un (hn ▸ ne1 hD2))).flags (iff_true_intro ht1) (iff_of_true hd (Or.inl hd))
    · exact (hG.publishS (Or.inr ⟨hM, hd⟩) (L.rename d _ _ _ htmp) (un (ne2 hD2 hSD.symm))).flags Iff.rfl (iff_of_true hd (Or.inl hd))

/-- **one step of a writer** standing at position `q`: its local part moves on, the global part is kept, the flags grow -/
theorem step (w : Writer ν) (hw : w.OK D N PS PN) (hnd : (S :: D :: w.tmps).Nodup) (hN : ∀ n ∈ S :: D :: w.tmps, N n)
    {q : Nat} {s : Step ν} (hs : (w.steps S D X)[q]? = some s) {d : φ} {t dd : Prop}
    (hL : w.loc get file X q d) (hG : G get file S D X d0 PS PN t dd d) (ht : w.touched q → t) (hdd : w.published q → dd) :
    w.loc get file X (q + 1) (exec d s) ∧
      G get file S D X d0 PS PN (t ∨ w.touched (q + 1)) (dd ∨ w.published (q + 1)) (exec d s) := by
  have hNS : N S := hN S (List.mem_cons_self ..)
  have hND : N D := hN D (List.mem_cons_of_mem _ (List.mem_cons_self ..))
  have quiet : ∀ pre : List (Step ν), (∀ s ∈ pre, ∀ n ∈ s.names, ¬ N n) → pre[q]? = some s →
      G get file S D X d0 PS PN t dd (exec d s) := fun pre hpre hs' =>
    have hq := hpre s (List.mem_of_getElem? hs')
    hG.keep (L.untouched d s S fun hm => hq S hm hNS) (L.untouched d s D fun hm => hq D hm hND)
  cases w with
  | idle => cases hs
  | store pre mid t1 t2 M =>
    simp only [tmps, List.nodup_cons, List.mem_cons, List.not_mem_nil, or_false, not_or, List.nodup_nil, and_true,
      not_false_eq_true] at hnd
    obtain ⟨⟨hSD, hS1, hS2⟩, ⟨hD1, hD2⟩, -⟩ := hnd
    simp only [steps, touched, published, loc] at hs hL ht hdd ⊢
    rcases Nat.lt_or_ge q pre.length with hq | hq
    · rw [List.getElem?_append_left hq] at hs
      rw [Nat.sub_eq_zero_of_le hq]
      exact ⟨⟨TmpAt.outside _ (Or.inl rfl), TmpAt.outside _ (Or.inl rfl)⟩, (quiet pre hw.1 hs).flags
        (or_iff_left (by decide)).symm (or_iff_left (by decide)).symm⟩
    · rw [List.getElem?_append_right hq] at hs
      rw [Nat.succ_sub hq]
      generalize q - pre.length = k at hs hL ht hdd
      obtain ⟨h1, h2⟩ := store_step L (hw.2.1.imp_right fun h => ⟨fun hm => h S hm hNS, fun hm => h D hm hND⟩) hw.2.2
        hSD hS1 hS2 hD1 hD2 hs hL.1 hL.2 hG ht hdd
      exact ⟨h1, h2.flags (iff_of_true trivial (Or.inr (Nat.le_add_left 1 k))) (or_congr Iff.rfl Nat.succ_le_succ_iff.symm)⟩
  | progress pre tp M =>
    simp only [tmps, List.nodup_cons, List.mem_cons, List.not_mem_nil, or_false, not_or, List.nodup_nil, and_true,
      not_false_eq_true] at hnd
    obtain ⟨⟨hSD, hSt⟩, hDt⟩ := hnd
    simp only [steps, touched, published, loc, or_false] at hs hL ht ⊢
    rcases Nat.lt_or_ge q pre.length with hq | hq
    · rw [List.getElem?_append_left hq] at hs
      rw [Nat.sub_eq_zero_of_le hq]
      exact ⟨TmpAt.outside _ (Or.inl rfl), (quiet pre hw.1 hs).flags (or_iff_left (by decide)).symm Iff.rfl⟩
    · rw [List.getElem?_append_right hq] at hs
      rw [Nat.succ_sub hq]
      generalize q - pre.length = k at hs hL ht
      obtain ⟨h1, hcase⟩ := TmpAt.step L hs hL
      refine ⟨h1, ?_⟩
      rcases hcase with ⟨hj3, hn⟩ | ⟨rfl, rfl, htmp⟩
      · exact (hG.keep (L.untouched d s S (by simp [hn, hSt])) (L.untouched d s D (by simp [hn, hDt]))).flags
          (or_iff_left fun h => absurd (Nat.le_of_succ_le_succ h) (Nat.not_le_of_lt hj3)).symm Iff.rfl
      · exact (hG.publishS (Or.inl hw.2) (L.rename d _ _ _ htmp)
          (L.untouched d _ D (by simp [Step.names, hDt, Ne.symm hSD]))).flags (iff_of_true trivial (Or.inr (Nat.le_refl 4))) Iff.rfl

end laws
end Writer

def Inv (get : φ → ν → Option β) (file : Data → β) (S D : ν) (X : Data) (d0 : φ) (PS PN : Data → Prop) (wA wB wP : Writer ν)
    (i j p : Nat) (d : φ) : Prop :=
  wA.loc get file X i d ∧ wB.loc get file X j d ∧ wP.loc get file X p d ∧
  G get file S D X d0 PS PN (wA.touched i ∨ wB.touched j ∨ wP.touched p) (wA.published i ∨ wB.published j ∨ wP.published p) d

/-- `S`, `D`, the temporaries `own` of one writer and the temporaries `rest` of the others are pairwise different names of `N` -/
def Sep (S D : ν) (N : ν → Prop) (own rest : List ν) : Prop :=
  (S :: D :: (own ++ rest)).Nodup ∧ ∀ n ∈ S :: D :: (own ++ rest), N n

theorem Sep.perm {S D : ν} {N : ν → Prop} {own rest own' rest' : List ν} (h : Sep S D N own rest)
    (hp : (own ++ rest).Perm (own' ++ rest')) : Sep S D N own' rest' :=
  ⟨((hp.cons D).cons S).nodup_iff.1 h.1, fun n hn => h.2 n (((hp.cons D).cons S).mem_iff.2 hn)⟩

section laws
variable {exec : φ → Step ν → φ} {get : φ → ν → Option β} {file : Data → β} (L : StepLaws exec get file)
variable {S D : ν} {X : Data} {d0 : φ} {PS PN : Data → Prop} {N : ν → Prop} {wA wB wP : Writer ν}

theorem Inv.swap12 {i j p : Nat} {d : φ} (h : Inv get file S D X d0 PS PN wA wB wP i j p d) :
    Inv get file S D X d0 PS PN wB wA wP j i p d :=
  ⟨h.2.1, h.1, h.2.2.1, h.2.2.2.flags or_left_comm or_left_comm⟩

theorem Inv.swap13 {i j p : Nat} {d : φ} (h : Inv get file S D X d0 PS PN wA wB wP i j p d) :
    Inv get file S D X d0 PS PN wP wB wA p j i d :=
  ⟨h.2.2.1, h.2.1, h.1, h.2.2.2.flags (or_comm.trans (or_assoc.trans or_left_comm)) (or_comm.trans (or_assoc.trans or_left_comm))⟩

theorem Inv.init : Inv get file S D X d0 PS PN wA wB wP 0 0 0 d0 :=
  ⟨wA.loc_zero d0, wB.loc_zero d0, wP.loc_zero d0, G.init.flags
    ⟨False.elim, fun h => h.elim wA.not_touched_zero (Or.elim · wB.not_touched_zero wP.not_touched_zero)⟩
    ⟨False.elim, fun h => h.elim wA.not_published_zero (Or.elim · wB.not_published_zero wP.not_published_zero)⟩⟩

include L in
theorem Inv.stepFirst (hA : wA.OK D N PS PN) (hsep : Sep S D N wA.tmps (wB.tmps ++ wP.tmps)) {i j p : Nat} {d : φ} {s : Step ν}
    (hs : (wA.steps S D X)[i]? = some s) (h : Inv get file S D X d0 PS PN wA wB wP i j p d) :
    Inv get file S D X d0 PS PN wA wB wP (i + 1) j p (exec d s) := by
  obtain ⟨hnd, hN⟩ := hsep
  obtain ⟨hLA, hLB, hLP, hG⟩ := h
  have hsub : (S :: D :: wA.tmps).Sublist (S :: D :: (wA.tmps ++ (wB.tmps ++ wP.tmps))) :=
    ((List.sublist_append_left ..).cons_cons D).cons_cons S
  obtain ⟨hLA', hG'⟩ := wA.step L hA (hnd.sublist hsub) (fun n hn => hN n (hsub.subset hn)) hs hLA hG Or.inl Or.inl
  -- the temporaries of the other writers are not mentioned
  have hfr : ∀ n ∈ wB.tmps ++ wP.tmps, n ∉ s.names := by
    intro n hn
    have h1 := List.nodup_cons.1 hnd
    have h2 := List.nodup_cons.1 h1.2
    have hmem : n ∈ wA.tmps ++ (wB.tmps ++ wP.tmps) := List.mem_append_right _ hn
    exact Writer.not_mem_names hA (hN n (List.mem_cons_of_mem _ (List.mem_cons_of_mem _ hmem)))
      (fun e => h1.1 (by rw [← e]; exact List.mem_cons_of_mem _ hmem)) (fun e => h2.1 (by rw [← e]; exact hmem))
      (fun h' => (List.nodup_append.1 h2.2).2.2 n h' n hn rfl) s (List.mem_of_getElem? hs)
  refine ⟨hLA', wB.loc_frame L s (fun n hn => hfr n (List.mem_append_left _ hn)) hLB,
    wP.loc_frame L s (fun n hn => hfr n (List.mem_append_right _ hn)) hLP, hG'.flags ?_ ?_⟩
  · exact ⟨fun h => h.elim (Or.imp_left (wA.touched_mono (Nat.le_succ i))) Or.inl, fun h => h.elim Or.inr (Or.inl ∘ Or.inr)⟩
  · exact ⟨fun h => h.elim (Or.imp_left (wA.published_mono (Nat.le_succ i))) Or.inl, fun h => h.elim Or.inr (Or.inl ∘ Or.inr)⟩

include L in
/-- **three writers, two prefixes**: after `n1 ≤ n2` steps of any interleaving of the steps of three writers with different
temporaries the global part holds, and a data file published at the first moment is published at the second -/
theorem writers_inv (hA : wA.OK D N PS PN) (hB : wB.OK D N PS PN) (hP : wP.OK D N PS PN)
    (hnd : (S :: D :: (wA.tmps ++ wB.tmps ++ wP.tmps)).Nodup) (hN : ∀ n ∈ S :: D :: (wA.tmps ++ wB.tmps ++ wP.tmps), N n)
    (l : List (Step ν)) (hl : Interleave3 (wA.steps S D X) (wB.steps S D X) (wP.steps S D X) l) (n1 n2 : Nat) (hn : n1 ≤ n2) :
    ∃ t1 dd1 t2 dd2 : Prop, (dd1 → dd2) ∧ G get file S D X d0 PS PN t1 dd1 ((l.take n1).foldl exec d0) ∧
      G get file S D X d0 PS PN t2 dd2 ((l.take n2).foldl exec d0) := by
  rw [List.append_assoc] at hnd hN
  have sepA : Sep S D N wA.tmps (wB.tmps ++ wP.tmps) := ⟨hnd, hN⟩
  have sepB : Sep S D N wB.tmps (wA.tmps ++ wP.tmps) := sepA.perm (List.perm_append_comm_assoc ..)
  have sepP : Sep S D N wP.tmps (wB.tmps ++ wA.tmps) :=
    sepA.perm (by rw [← List.append_assoc wP.tmps]; exact List.perm_append_comm.trans (List.perm_append_comm.append_right _))
  obtain ⟨i1, j1, p1, i2, j2, p2, hi, hj, hp, h1, h2⟩ := prefix_inv3_two exec _ _ _ (Inv get file S D X d0 PS PN wA wB wP)
    (fun i j p d s hs h => h.stepFirst L hA sepA hs)
    (fun i j p d s hs h => (h.swap12.stepFirst L hB sepB hs).swap12)
    (fun i j p d s hs h => (h.swap13.stepFirst L hP sepP hs).swap13)
    l 0 0 0 d0 hl Inv.init n1 n2 hn
  exact ⟨_, _, _, _, Or.imp (wA.published_mono hi) (Or.imp (wB.published_mono hj) (wP.published_mono hp)), h1.2.2.2, h2.2.2.2⟩

include L in
theorem writers_untouched (hA : wA.OK D N PS PN) (hB : wB.OK D N PS PN) (hP : wP.OK D N PS PN) {l : List (Step ν)}
    (hl : Interleave3 (wA.steps S D X) (wB.steps S D X) (wP.steps S D X) l) {n : ν} (hN : N n) (hS : n ≠ S) (hD : n ≠ D)
    (hn : n ∉ wA.tmps ++ wB.tmps ++ wP.tmps) (m : Nat) : get ((l.take m).foldl exec d0) n = get d0 n := by
  simp only [List.mem_append, not_or] at hn
  refine L.foldl_untouched _ n (fun s hs => ?_) d0
  rcases hl.mem s (List.mem_of_mem_take hs) with h | h | h
  · exact Writer.not_mem_names hA hN hS hD hn.1.1 s h
  · exact Writer.not_mem_names hB hN hS hD hn.1.2 s h
  · exact Writer.not_mem_names hP hN hS hD hn.2 s h

include L in
/-- `writers_inv` and `writers_untouched` when the second and the third writer may be absent (`hasB`, `hasP`) and the temporaries
are given by labels (`tmp`, injective, never `S` or `D`): only the labels of the writers present have to be different -/
theorem writers_inv_when {κ : Type} (tmp : κ → ν) (hinj : ∀ x y, tmp x = tmp y → x = y) (hSD : S ≠ D) (hS : ∀ x, S ≠ tmp x) (hD : ∀ x, D ≠ tmp x)
    (hNS : N S) (hND : N D) (hNt : ∀ x, N (tmp x)) {lA lB lP : List κ} (hasB hasP : Bool)
    (htA : wA.tmps = lA.map tmp) (htB : wB.tmps = lB.map tmp) (htP : wP.tmps = lP.map tmp)
    (hdist : (lA ++ (if hasB then lB else []) ++ (if hasP then lP else [])).Nodup)
    (hA : wA.OK D N PS PN) (hB : hasB = true → wB.OK D N PS PN) (hP : hasP = true → wP.OK D N PS PN) (l : List (Step ν))
    (hl : Interleave3 (wA.steps S D X) (if hasB then wB.steps S D X else []) (if hasP then wP.steps S D X else []) l)
    (n1 n2 : Nat) (hn : n1 ≤ n2) :
    (∃ t1 dd1 t2 dd2 : Prop, (dd1 → dd2) ∧ G get file S D X d0 PS PN t1 dd1 ((l.take n1).foldl exec d0) ∧
      G get file S D X d0 PS PN t2 dd2 ((l.take n2).foldl exec d0)) ∧
    ∀ nm, N nm → nm ≠ S → nm ≠ D → (∀ x, nm ≠ tmp x) → ∀ m, get ((l.take m).foldl exec d0) nm = get d0 nm := by
  rw [← Writer.when_steps, ← Writer.when_steps] at hl
  have htm : wA.tmps ++ (wB.when hasB).tmps ++ (wP.when hasP).tmps =
      (lA ++ (if hasB then lB else []) ++ (if hasP then lP else [])).map tmp := by
    rw [Writer.when_tmps, Writer.when_tmps, htA, htB, htP]
    cases hasB <;> cases hasP <;> simp only [List.map_append, if_true, if_false, Bool.false_eq_true, List.map_nil]
  have hmem : ∀ {nm}, nm ∈ wA.tmps ++ (wB.when hasB).tmps ++ (wP.when hasP).tmps → ∃ x, nm = tmp x := fun h => by
    rw [htm] at h
    obtain ⟨x, _, rfl⟩ := List.mem_map.1 h
    exact ⟨x, rfl⟩
  refine ⟨writers_inv L hA (Writer.OK.when hB) (Writer.OK.when hP) ?_ ?_ l hl n1 n2 hn, fun nm hN hnS hnD ht m =>
    writers_untouched L hA (Writer.OK.when hB) (Writer.OK.when hP) hl hN hnS hnD (fun h => by obtain ⟨x, e⟩ := hmem h; exact ht x e) m⟩
  · refine List.nodup_cons.2 ⟨fun h => ?_, List.nodup_cons.2 ⟨fun h => ?_, ?_⟩⟩
    · rcases List.mem_cons.1 h with e | h
      · exact hSD e
      · obtain ⟨x, e⟩ := hmem h; exact hS x e
    · obtain ⟨x, e⟩ := hmem h; exact hD x e
    · rw [htm]; exact List.Pairwise.map _ (fun _ _ h e => h (hinj _ _ e)) hdist
  · intro n hn
    rcases List.mem_cons.1 hn with rfl | hn
    · exact hNS
    · rcases List.mem_cons.1 hn with rfl | hn
      · exact hND
      · obtain ⟨x, rfl⟩ := hmem hn; exact hNt x

end laws

/-! ### the reader

`FileCache.get` and `StoreCache.get` on a `FileStore` are one reader: the metadata bytes found at `S` at one moment, decoded; if the
record says `ready`, the data bytes found (at the place `Dof m` the record names) at a later moment, decoded under the type the
record names. -/

/-- the second half of a read: decode the bytes found at the place of the data file under the type the metadata names -/
def dataPart (decD : Str → Data → Option (Option Str)) (m : CMeta) (ob : Option Data) : Option CState :=
  match ob.bind (decD m.typeId) with
  | some v => some { metadata := m, data := v }
  | none => none

/-- a read: the metadata bytes `om`, then — for a ready record `m` — the data bytes `od m` -/
def readVia (decM : Data → Option CMeta) (decD : Str → Data → Option (Option Str)) (om : Option Data) (od : CMeta → Option Data) :
    Option CState :=
  match om.bind decM with
  | none => none
  | some m => if m.status != ready then none else dataPart decD m (od m)

theorem readVia_ready {decM : Data → Option CMeta} {decD : Str → Data → Option (Option Str)} {om : Option Data}
    {od : CMeta → Option Data} {m : CMeta} (h : om.bind decM = some m) (hr : m.status = ready) :
    readVia decM decD om od = dataPart decD m (od m) := by
  simp only [readVia, h, hr, bne_self_eq_false, Bool.false_eq_true, if_false]

theorem readVia_miss {decM : Data → Option CMeta} {decD : Str → Data → Option (Option Str)} {om : Option Data}
    {od : CMeta → Option Data} (h : ∀ m, om.bind decM = some m → m.status ≠ ready) : readVia decM decD om od = none := by
  unfold readVia
  split
  · rfl
  · next m hm => simp [h m hm]

theorem readVia_no_data {decM : Data → Option CMeta} {decD : Str → Data → Option (Option Str)} {om : Option Data}
    {od : CMeta → Option Data} (h : ∀ m, od m = none) : readVia decM decD om od = none := by
  unfold readVia
  split
  · rfl
  · split
    · rfl
    · rw [h]; rfl

/-- a reader of the entry: the metadata file `S`; the place `Dof m` of the data file that a record `m` names; how a regular file is
told from other content; the decoders -/
structure Reader (ν β : Type) where
  unfile : β → Option Data
  S : ν
  Dof : CMeta → ν
  decM : Data → Option CMeta
  decD : Str → Data → Option (Option Str)

def Reader.read (r : Reader ν β) (get : φ → ν → Option β) (dM dD : φ) : Option CState :=
  readVia r.decM r.decD ((get dM r.S).bind r.unfile) (fun m => (get dD (r.Dof m)).bind r.unfile)

/-- the payload `M` of a store writer decodes to the ready record `m`, which names the place `D`, and under its type the new bytes
`X` decode to `v` -/
def Reader.Ready (r : Reader ν β) (D : ν) (X : Data) (v : Option Str) (M : Data) (m : CMeta) : Prop :=
  r.decM M = some m ∧ m.status = ready ∧ r.Dof m = D ∧ r.decD m.typeId X = some v

section reader
variable {get : φ → ν → Option β} {file : Data → β} {r : Reader ν β} {D : ν} {X MA MB : Data}
  {d0 dM dD : φ} {PN : Data → Prop} {t1 dd1 t2 dd2 : Prop} {mA mB : CMeta} {v : Option Str}

/-- a reader whose metadata read comes after somebody has touched the metadata file (the data read is not earlier) obtains a
miss or the complete new entry: a ready record is a writer's, and its data has been published before -/
theorem read_touched (hu : ∀ b, r.unfile (file b) = some b)
    (hG1 : G get file r.S D X d0 (fun b => b = MA ∨ b = MB) PN t1 dd1 dM) (ht : t1)
    (hG2 : G get file r.S D X d0 (fun b => b = MA ∨ b = MB) PN t2 dd2 dD) (hdd : dd1 → dd2)
    (hA : r.Ready D X v MA mA) (hB : r.Ready D X v MB mB) (hPN : ∀ b, PN b → ∀ m, r.decM b = some m → m.status ≠ ready) :
    r.read get dM dD = none ∨ r.read get dM dD = some { metadata := mA, data := v } ∨
    r.read get dM dD = some { metadata := mB, data := v } := by
  unfold Reader.read
  rcases hG1.st ht with h | ⟨b, hb, hp⟩ | ⟨b, hb, hp, hd1⟩
  · exact Or.inl (readVia_miss fun m hm => by rw [h] at hm; cases hm)
  · exact Or.inl (readVia_miss fun m hm => hPN b hp m (by rwa [hb, Option.bind_some, hu] at hm))
  · have key : ∀ {mx : CMeta}, r.Ready D X v b mx →
        readVia r.decM r.decD ((get dM r.S).bind r.unfile) (fun m => (get dD (r.Dof m)).bind r.unfile) = none ∨
        readVia r.decM r.decD ((get dM r.S).bind r.unfile) (fun m => (get dD (r.Dof m)).bind r.unfile) =
          some { metadata := mx, data := v } := by
      rintro mx ⟨hdec, hr, hD, hv⟩
      rw [readVia_ready (by rw [hb, Option.bind_some, hu]; exact hdec) hr, hD]
      rcases hG2.dat with h | h | h
      · left; rw [h]; rfl
      · right; rw [h, Option.bind_some, hu, dataPart, Option.bind_some, hv]
      · exact absurd (hdd hd1) h.1
    rcases hp with rfl | rfl
    · exact (key hA).imp_right Or.inl
    · exact (key hB).imp_right Or.inr

/-- the five possible answers `R` of the split reader: a miss, the complete new entry (A's or B's metadata), what the atomic reader
obtains from the initial state, or — the fifth case — the READY metadata `m0` of the initial state (which names the place `D`)
together with the NEW bytes decoded under the type `m0` names -/
def SplitAnsG (r : Reader ν β) (get : φ → ν → Option β) (D : ν) (X : Data) (d0 : φ) (newA newB : CState) (R : Option CState) : Prop :=
  R = none ∨ R = some newA ∨ R = some newB ∨ R = r.read get d0 d0 ∨
  ∃ m0 w, ((get d0 r.S).bind r.unfile).bind r.decM = some m0 ∧ m0.status = ready ∧ r.Dof m0 = D ∧ r.decD m0.typeId X = some w ∧
    R = some { metadata := m0, data := w }

/-- **the split reader** against the invariant at the moment `dM` of the metadata read and at the moment `dD` of the data read; "the
data file has been published" is monotone (`dd1 → dd2`), the places `Dof m ≠ D` are never touched -/
theorem read_split (hu : ∀ b, r.unfile (file b) = some b)
    (hG1 : G get file r.S D X d0 (fun b => b = MA ∨ b = MB) PN t1 dd1 dM)
    (hG2 : G get file r.S D X d0 (fun b => b = MA ∨ b = MB) PN t2 dd2 dD) (hdd : dd1 → dd2)
    (hother : ∀ m, r.Dof m ≠ D → get dD (r.Dof m) = get d0 (r.Dof m))
    (hA : r.Ready D X v MA mA) (hB : r.Ready D X v MB mB) (hPN : ∀ b, PN b → ∀ m, r.decM b = some m → m.status ≠ ready) :
    SplitAnsG r get D X d0 { metadata := mA, data := v } { metadata := mB, data := v } (r.read get dM dD) := by
  by_cases ht : t1
  · rcases read_touched hu hG1 ht hG2 hdd hA hB hPN with h | h | h
    · exact Or.inl h
    · exact Or.inr (Or.inl h)
    · exact Or.inr (Or.inr (Or.inl h))
  · -- nobody has touched the metadata file: the reader holds the metadata of the initial state
    unfold SplitAnsG Reader.read
    rw [(hG1.same ht).1]
    cases hm : ((get d0 r.S).bind r.unfile).bind r.decM with
    | none => exact Or.inl (readVia_miss fun m h => by rw [hm] at h; cases h)
    | some m0 =>
      by_cases hr : m0.status = ready
      · rw [readVia_ready hm hr, readVia_ready hm hr]
        by_cases hD : r.Dof m0 = D
        · rw [hD]
          rcases hG2.dat with h | h | ⟨-, h⟩
          · left; rw [h]; rfl
          · rw [h, Option.bind_some, hu]
            cases hw : r.decD m0.typeId X with
            | none => left; simp only [dataPart, Option.bind_some, hw]
            | some w => exact Or.inr (Or.inr (Or.inr (Or.inr ⟨m0, w, rfl, hr, hD, hw, by simp only [dataPart, Option.bind_some, hw]⟩)))
          · right; right; right; left; rw [h]
        · right; right; right; left; rw [hother m0 hD]
      · exact Or.inl (readVia_miss fun m h => by rw [hm] at h; cases h; exact hr)

/-- **the atomic reader**: the entry as in the initial state, a miss, or the complete new entry with A's or B's metadata -/
theorem read_atomic {d : φ} {t dd : Prop} (hu : ∀ b, r.unfile (file b) = some b)
    (hG : G get file r.S D X d0 (fun b => b = MA ∨ b = MB) PN t dd d)
    (hother : ∀ m, r.Dof m ≠ D → get d (r.Dof m) = get d0 (r.Dof m))
    (hA : r.Ready D X v MA mA) (hB : r.Ready D X v MB mB) (hPN : ∀ b, PN b → ∀ m, r.decM b = some m → m.status ≠ ready) :
    r.read get d d = r.read get d0 d0 ∨ r.read get d d = none ∨
    r.read get d d = some { metadata := mA, data := v } ∨ r.read get d d = some { metadata := mB, data := v } := by
  by_cases ht : t
  · exact Or.inr (read_touched hu hG ht hG id hA hB hPN)
  · obtain ⟨h1, h2⟩ := hG.same ht
    left; unfold Reader.read; rw [h1]
    congr 1; funext m
    by_cases hD : r.Dof m = D
    · rw [hD, h2]
    · rw [hother m hD]

theorem dataPart_meta {decD : Str → Data → Option (Option Str)} {m : CMeta} {ob : Option Data} {st : CState}
    (h : dataPart decD m ob = some st) : st.metadata = m := by
  unfold dataPart at h
  split at h
  · cases h; rfl
  · cases h

/-- if (1) a ready record in the initial state is backed by a readable data file (what C16 guarantees for every state the
writers leave, crash or not), (2) the old entry holds the value the writers store (C05: one key, one value) and (3) the type of a
record that names the place `D` is the writers' type, then the fifth answer is the old entry: the split reader obtains a miss, the
old entry, or the complete new entry -/
theorem SplitAnsG.sound {newA newB : CState} {R : Option CState} {tid : Str}
    (h : SplitAnsG r get D X d0 newA newB R) (hX : r.decD tid X = some v)
    (hcomplete : ∀ m0, ((get d0 r.S).bind r.unfile).bind r.decM = some m0 → m0.status = ready → ∃ old, r.read get d0 d0 = some old)
    (hsound : ∀ old, r.read get d0 d0 = some old → old.data = v)
    (htype : ∀ old, r.read get d0 d0 = some old → r.Dof old.metadata = D → old.metadata.typeId = tid) :
    R = none ∨ R = r.read get d0 d0 ∨ R = some newA ∨ R = some newB := by
  rcases h with h | h | h | h | ⟨m0, w, hm, hr, hD, hw, h⟩
  · exact Or.inl h
  · exact Or.inr (Or.inr (Or.inl h))
  · exact Or.inr (Or.inr (Or.inr h))
  · exact Or.inr (Or.inl h)
  · obtain ⟨old, hold⟩ := hcomplete m0 hm hr
    have hmeta : old.metadata = m0 := by rw [Reader.read, readVia_ready hm hr] at hold; exact dataPart_meta hold
    have hty : m0.typeId = tid := by rw [← hmeta]; exact htype old hold (by rw [hmeta]; exact hD)
    have hwv : w = v := by rw [hty, hX] at hw; exact (Option.some.inj hw).symm
    refine Or.inr (Or.inl ?_)
    rw [h, hold, hwv, ← hmeta, ← hsound old hold]

end reader

end Crash
end Liquer
