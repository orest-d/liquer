/-
C18, the copy kept by the cache: the cache model `evalQ` (LiquerModel/Eval.lean) connected with the metadata model `metaQ`.
`recOfState e` is the part of `metaQ`'s record that is a function of the final state; `MetaRec.stateView` forgets the rest
(namespace / version flag of the resolved command, parent query, argument queries, direct sub-queries: recorded by the
evaluating context, not carried by the entries of the cache model).
-/
import LiquerProofs.Lemmas.EvalMetaAttrs
import LiquerProofs.Lemmas.EvalCache
import LiquerProofs.Lemmas.EvalCor
import LiquerProofs.Lemmas.EvalExample
import LiquerProofs.Lemmas.EvalCanon

namespace Liquer

/-- the record kept under `k`: status of the metadata and the state (`none`: metadata only) -/
def World.kept (w : World) (k : Str) : Option (Str × Option EState) := (w.entry k).map (fun e => (e.status, e.st))

/-- the record kept under the canonical key after `evaluate(q)` typed as `raw` on the global cache -/
def keptAfter (env : Env) (n : Nat) (w : World) (q : Query) (raw : Str) : Option (Str × Option EState) :=
  (evalQ env n w q raw .none none true).1.kept (q.encode Gen.escapeTable)

theorem World.dataAt_eq_kept (w : World) (k : Str) : w.dataAt k = (w.kept k).bind (·.2) := by
  unfold World.dataAt World.kept
  cases w.entry k <;> rfl

theorem World.kept_of_get {w : World} {k : Str} {s : EState} (h : w.get k = some s) :
    w.kept k = some (statusReady, some s) := by
  unfold World.get at h
  unfold World.kept
  split at h
  · next he =>
    split at h
    · next hst => cases h; simpa [he] using hst
    · nomatch h
  · nomatch h

theorem World.kept_remove_self (w : World) (k : Str) : (w.remove k).kept k = none := by
  unfold World.kept; rw [World.entry_remove]; simp

/-- `store_metadata` under `k`: the record has the new status; data only if there was data and the cache keeps it -/
theorem World.kept_storeMeta_self (w : World) (hen : w.enabled = true) (k status : Str) :
    (w.storeMeta k status).kept k = some (status, if w.metaKeepsData then w.dataAt k else none) := by
  unfold World.storeMeta World.kept World.dataAt
  cases he : w.entry k with
  | none => simp only; rw [World.entry_put w hen]; simp
  | some e => simp only; rw [World.entry_put w hen]; cases w.metaKeepsData <;> simp

/-- the fields that are not a function of the final state forgotten -/
def MetaRec.stateView (m : MetaRec) : MetaRec :=
  { m with lastNs := none, lastVersionKnown := false, parentQuery := none, argumentQueries := [], directSubqueries := [] }

/-- the metadata fields determined by an evaluator state -/
def recOfState (e : EState) : MetaRec :=
  let lc := e.commands.getLast?.getD []
  { query := e.query
    status := if lc.head?.isSome then some (if e.isError then Gen.metaStatusError else Gen.metaStatusReady) else none
    isError := e.isError
    typeId := typeIdOf e.data
    dataKind := dataKindOf e.data
    lastCommand := lc
    lastName := lc.head?
    filename := e.filename
    extension := e.extension
    mimetype := match e.filename with
      | some f => some (mimeOfExt (extensionOf f))
      | none => if lc.head?.isSome then some Gen.metaDefaultMimetype else none
    attrs := e.attrs }

/-- `EState.status` plays no role -/
theorem recOfState_core {a b : EState} (h : a.core = b.core) : recOfState a = recOfState b := by
  have ha : recOfState a = recOfState a.core := rfl
  have hb : recOfState b = recOfState b.core := rfl
  rw [ha, hb, h]

theorem Action.toList_head (tbl : EscTable) (a : Action) : (a.toList tbl).head? = some a.name := by
  cases a; rfl

/-- a further invariant of `metaQ`, about the record alone (`Describes` does not relate `lastName` to anything) -/
def NameOK (m : MetaRec) : Prop := m.lastName = m.lastCommand.head?

theorem metaQ_nameOK (env : Env) : ∀ (n : Nat) (q : Query) (raw : Str) (extra : Extra) (input : Option Val) (e : EState)
    (m : MetaRec), metaQ env n q raw extra input = (.st e, m) → NameOK m :=
  metaQ_invariant env (P := fun _ m => NameOK m) (fun _ => rfl) (fun _ h => h) (fun _ h => h) (fun _ _ h => h)
    (fun _ _ _ => (Action.toList_head _ _).symm)

theorem stateView_of_describes {e : EState} {m : MetaRec} (h : Describes e m) (hn : NameOK m) :
    m.stateView = recOfState e := by
  unfold NameOK at hn
  have hmime : m.mimetype = match e.filename with
      | some f => some (mimeOfExt (extensionOf f))
      | none => if m.lastName.isSome then some Gen.metaDefaultMimetype else none := by
    rw [← h.filename]
    cases hf : m.filename with
    | some f => exact (h.fileMime f hf).2
    | none => exact (h.noFileMime hf).2
  have hq := h.query; have he := h.isError; have ht := h.typeId; have hk := h.dataKind; have hf := h.filename
  have hx := h.extension; have ha := h.attrs; have hl := h.lastCommand; have hs := h.status
  cases m
  simp only at hq he ht hk hf hx ha hl hs hn hmime
  subst hq he ht hk hf hx ha hl hn
  simp only [MetaRec.stateView, recOfState, hs, hmime]

theorem metaQ_stateView (env : Env) (n : Nat) (q : Query) (raw : Str) (extra : Extra) (input : Option Val) (e : EState)
    (m : MetaRec) (h : metaQ env n q raw extra input = (.st e, m)) : m.stateView = recOfState e :=
  stateView_of_describes (metaQ_describes env n q raw extra input e m h) (metaQ_nameOK env n q raw extra input e m h)

theorem ref_of_eval {env : Env} {C : Query → Prop} {T : Str → Prop} (hC : Closed env C T)
    (hcanon : ∀ q, C q → CanonOK env q) (n : Nat) (w : World) (q : Query) (raw : Str) (hS : Sound env w) (hCq : C q)
    (st : EState) (h : (evalQ env n w q raw .none none true).2 = .st st) :
    ∃ m0 e, (refQ env m0 q raw .none none).1 = .st e ∧ st.core = e.core := by
  obtain ⟨m0, _, _, _, hsim⟩ := (evalQ_refines hC hcanon n w q raw .none none true hS hCq (fun _ => rfl)).2
    (by rw [h]; nofun)
  rw [h] at hsim
  obtain ⟨e, he, hcore⟩ := Outcome.sim_st_left hsim
  exact ⟨m0, e, he, hcore⟩

theorem metaQ_of_ref {env : Env} {m0 : Nat} {q : Query} {raw : Str} {extra : Extra} {input : Option Val} {e : EState}
    (href : (refQ env m0 q raw extra input).1 = .st e) :
    (metaOf env m0 q raw extra input).isSome = true ∧
      ∀ m mrec, metaOf env m q raw extra input = some mrec → metaQ env m q raw extra input = (.st e, mrec) := by
  refine ⟨Option.isSome_iff_exists.mpr ⟨_, metaOf_eq_some.mpr ⟨e, Prod.ext ((metaQ_fst ..).trans href) rfl⟩⟩,
    fun m mrec hm => ?_⟩
  obtain ⟨e', he'⟩ := metaOf_eq_some.mp hm
  have h1 : (refQ env m q raw extra input).1 = .st e' := by rw [← metaQ_fst, he']
  have := refQ_det env q raw extra input (m := m0) (m' := m) (by rw [href]; nofun) (by rw [h1]; nofun)
  rw [this, h1] at href
  cases href
  exact he'

theorem meta_describes_returned {env : Env} {C : Query → Prop} {T : Str → Prop} (hC : Closed env C T)
    (hcanon : ∀ q, C q → CanonOK env q) (n : Nat) (w : World) (q : Query) (raw : Str) (hS : Sound env w) (hCq : C q)
    (st : EState) (h : (evalQ env n w q raw .none none true).2 = .st st) :
    (∃ m, (metaOf env m q raw .none none).isSome = true) ∧
      ∀ m mrec, metaOf env m q raw .none none = some mrec → mrec.stateView = recOfState st := by
  obtain ⟨m0, e, href, hcore⟩ := ref_of_eval hC hcanon n w q raw hS hCq st h
  obtain ⟨hsome, hall⟩ := metaQ_of_ref href
  refine ⟨⟨m0, hsome⟩, fun m mrec hm => ?_⟩
  rw [recOfState_core hcore]
  exact metaQ_stateView env m q raw .none none e mrec (hall m mrec hm)

theorem Sound.no_data_of_ref_error {env : Env} {w : World} (hS : Sound env w) {q : Query} (hc : CanonOK env q) {m : Nat}
    {e : EState} (href : (refQ env m q (q.encode Gen.escapeTable) .none none).1 = .st e) (he : e.isError = true) :
    w.dataAt (q.encode Gen.escapeTable) = none := by
  cases hd : w.dataAt (q.encode Gen.escapeTable) with
  | none => rfl
  | some d =>
    -- the data is a successful value of the key's text, hence of `q`; `refQ` has one value
    obtain ⟨fuel, st', c, hrt, he', _, _, _⟩ := hS _ d hd
    obtain ⟨fuel', st'', c'', hrq, hc''⟩ := hc.1 fuel st' c hrt he'
    have := refQ_det env q (q.encode Gen.escapeTable) .none none (m := m) (m' := fuel') (by rw [href]; nofun)
      (by rw [hrq]; nofun)
    rw [this, hrq] at href
    cases href
    rw [← EState.core_isError hc'', he'] at he
    cases he

/-- a sound cache serves successful, non-volatile, caching-enabled states only: anything else was not a hit -/
theorem Sound.miss_of_bad {env : Env} {w : World} (hS : Sound env w) (n : Nat) (q : Query) (raw : Str) {st : EState}
    (h : (evalQ env (n+1) w q raw .none none true).2 = .st st)
    (hbad : st.isError = true ∨ st.volatile = true ∨ st.caching = false) : w.get (q.encode Gen.escapeTable) = none := by
  cases hg : w.get (q.encode Gen.escapeTable) with
  | none => rfl
  | some s0 =>
    rw [evalQ_hit env n w q _ .none none s0 hg rfl rfl] at h
    cases h
    obtain ⟨_, st', _, _, he', hv', hc', hcore⟩ := hS.get hg
    rw [EState.core_isError hcore, EState.core_volatile hcore, EState.core_caching hcore, he', hv', hc'] at hbad
    simp at hbad

/-- a failed, non-hit evaluation typed canonically ends with `store_metadata(canonical key, error)` on an enabled cache -/
theorem error_filed (env : Env) (n : Nat) (w w' : World) (q : Query) (st : EState) (hen : w.enabled = true)
    (hmiss : w.get (q.encode Gen.escapeTable) = none)
    (h : evalQ env (n+1) w q (q.encode Gen.escapeTable) .none none true = (w', .st st)) (he : st.isError = true) :
    ∃ X : World, X.enabled = true ∧ w' = X.storeMeta (q.encode Gen.escapeTable) (s "error") := by
  obtain ⟨X, henX, _, ⟨_, hw⟩ | ⟨hn, _⟩ | ⟨hn, _⟩ | hw⟩ := evalQ_filed env n w w' q _ .none none st (by simp [hmiss]) h
  · exact ⟨X, henX.trans hen, hw⟩
  · cases hn.symm.trans he
  · cases hn.symm.trans he
  · exact ⟨X, henX.trans hen, by simp [hw, admitW, he]⟩

theorem uncached_removed (env : Env) (n : Nat) (w w' : World) (q : Query) (raw : Str) (st : EState)
    (hmiss : w.get (q.encode Gen.escapeTable) = none)
    (h : evalQ env (n+1) w q raw .none none true = (w', .st st)) (hstep : q.hasStep = true)
    (he : st.isError = false) (hbad : st.volatile = true ∨ st.caching = false) :
    ∃ X : World, w' = X.remove (q.encode Gen.escapeTable) := by
  obtain ⟨r, hrem, _⟩ := Query.hasStep_preRem hstep
  obtain ⟨X, _, _, ⟨hn, _⟩ | ⟨_, hr, _⟩ | ⟨_, hw⟩ | hw⟩ := evalQ_filed env n w w' q raw .none none st (by simp [hmiss]) h
  · cases hn.symm.trans he
  · cases hrem.symm.trans hr
  · exact ⟨X, by rcases hbad with hb | hb <;> simp [hw, fileW, hb]⟩
  · exact ⟨X, by rcases hbad with hb | hb <;> simp [hw, admitW, he, hb]⟩

end Liquer

namespace Liquer.Ex

/-- `one/vol`: the last command is volatile -/
def qOneVol : Query := .mk [.transform none [aOne 0, .mk (s "vol") [] 4] none] false
/-- `one/nocache`: the last command switches caching off -/
def qOneNocache : Query := .mk [.transform none [aOne 0, .mk (s "nocache") [] 4] none] false

theorem keysK : qOneBoom.encode Gen.escapeTable = s "one/boom" ∧ qOneVol.encode Gen.escapeTable = s "one/vol" ∧
    qOneNocache.encode Gen.escapeTable = s "one/nocache" := by decide +kernel

def CK (q : Query) : Prop := q = qOneAdd ∨ q = qOneBoom ∨ q = qOneVol ∨ q = qOneNocache ∨ q = qOne

theorem closedK : Closed env0 CK T0 where
  pred := by
    rintro q p r (rfl | rfl | rfl | rfl | rfl) hp hpe <;> cases hp
    · exact .inr (.inr (.inr (.inr rfl)))
    · exact .inr (.inr (.inr (.inr rfl)))
    · exact .inr (.inr (.inr (.inr rfl)))
    · exact .inr (.inr (.inr (.inr rfl)))
    · cases hpe
  act := by
    rintro q p h a (rfl | rfl | rfl | rfl | rfl) hp <;> cases hp <;> exact plain_act _ _ _ _ (by decide)
  text := fun _ _ h => h.elim

/-- the queries of the family are well-formed, so their canonical text means what they mean (C02's print-parse theorem) -/
theorem canonK : ∀ q, CK q → CanonOK env0 q := by
  intro q hq
  refine Canon.canonOK_of_wf env0 decUtf8_ok q ?_
  rcases hq with rfl | rfl | rfl | rfl | rfl <;> decide +kernel

end Liquer.Ex
