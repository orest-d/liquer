/-
The simulation between the `MemoryStore` model (`LiquerModel/StoreMem.lean`) and the reference store
`specOps`: the relation `Sim`, what it says about observations, and its preservation by every
well-formed operation (the recursive `removedir` through `removedir_rec_sim`).
-/
import LiquerModel.StoreMem
import LiquerProofs.Lemmas.StoreRefine

namespace Liquer

theorem mem_foldl_setAdd (ks l : List Key) (q : Key) : q ∈ ks.foldl setAdd l ↔ q ∈ l ∨ q ∈ ks := by
  induction ks generalizing l with
  | nil => simp
  | cons a ks ih =>
    rw [List.foldl_cons, ih, List.mem_cons, ← or_assoc]
    refine or_congr_left ?_
    unfold setAdd
    split
    · next h => exact ⟨Or.inl, fun h1 => h1.elim id fun e => e ▸ List.contains_iff_mem.mp h⟩
    · rw [List.mem_cons, or_comm]

def dataOf (fs : FS) (k : Key) : Option Data :=
  match fs.get k with
  | some (.file d _) => some d
  | _ => none

def metaOf (fs : FS) (k : Key) : Option UMeta :=
  match fs.get k with
  | some (.file _ m) => some m
  | _ => none

/-- the three containers of the `MemoryStore` hold exactly the directories, the file data and the file
metadata of the specification state -/
structure Sim (s : MemState) (fs : FS) : Prop where
  dirs : ∀ k, k ∈ s.directories ↔ fs.get k = some .dir
  data : ∀ k, alGet s.data k = dataOf fs k
  mdata : ∀ k, alGet s.metadata k = metaOf fs k

variable {s : MemState} {fs : FS}

theorem Sim.cell (h : Sim s fs) (k : Key) :
    (k ∈ s.directories ↔ fs.get k = some .dir) ∧ alGet s.data k = dataOf fs k ∧ alGet s.metadata k = metaOf fs k :=
  ⟨h.dirs k, h.data k, h.mdata k⟩

theorem Sim.of_cells
    (H : ∀ k, (k ∈ s.directories ↔ fs.get k = some .dir) ∧ alGet s.data k = dataOf fs k ∧ alGet s.metadata k = metaOf fs k) :
    Sim s fs :=
  ⟨fun k => (H k).1, fun k => (H k).2.1, fun k => (H k).2.2⟩

theorem Sim.congr {fs' : FS} (h : Sim s fs) (e : ∀ q, fs'.get q = fs.get q) : Sim s fs' :=
  .of_cells fun k => by unfold dataOf metaOf; rw [e]; exact h.cell k

theorem sim_init : Sim memInit [] := .of_cells fun k => by simp [memInit, alGet_nil, dataOf, metaOf, FS.get_nil]

theorem Sim.isDir (h : Sim s fs) (k : Key) : Mem.isDir s k = fs.isDirB k := by
  unfold Mem.isDir FS.isDirB
  rw [Bool.eq_iff_iff]
  simp only [Bool.or_eq_true, List.contains_iff_mem, beq_iff_eq, h.dirs]

theorem Sim.contains {s : MemState} {fs : FS} (h : Sim s fs) (k : Key) : Mem.contains s k = fs.containsB k := by
  have hd := h.isDir k
  unfold Mem.isDir FS.isDirB at hd
  unfold Mem.contains FS.containsB
  rw [hd, h.data, h.mdata]
  unfold dataOf metaOf
  cases fs.get k with
  | none => simp
  | some n => cases n <;> simp

theorem Sim.getBytes (h : Sim s fs) (k : Key) : Mem.getBytes s k = specOps.getBytes fs k := by
  unfold Mem.getBytes
  rw [h.data]
  show _ = match fs.get k with
    | some (.file d _) => Except.ok d
    | _ => Except.error StoreErr.keyNotFound
  unfold dataOf
  cases fs.get k with
  | none => rfl
  | some n => cases n <;> rfl

theorem Sim.getMeta (h : Sim s fs) (ht : FS.Tree fs) (k : Key) :
    Mem.getMeta s k = specOps.getMeta fs k := by
  unfold Mem.getMeta
  rw [h.mdata, h.isDir]
  unfold metaOf FS.isDirB specOps
  dsimp only
  cases hg : fs.get k with
  | none => by_cases hk : k = [] <;> simp [hk, keyName]
  | some n =>
    cases n with
    | dir => simp
    | file d m => simp [ht.nonroot k (by rw [hg]; rfl)]

theorem Sim.mem_keys (h : Sim s fs) (k : Key) : k ∈ Mem.keys s ↔ (fs.get k).isSome = true := by
  unfold Mem.keys
  rw [List.mem_eraseDups, List.mem_append, List.mem_append, al_mem_keys_iff, al_mem_keys_iff, h.dirs, h.data, h.mdata]
  unfold dataOf metaOf
  cases fs.get k with
  | none => simp
  | some n => cases n <;> simp

theorem Mem.keys_nodup (s : MemState) : (Mem.keys s).Nodup := nodup_eraseDups' _

theorem Sim.keys_perm (h : Sim s fs) (ht : FS.Tree fs) : (Mem.keys s).Perm (fs.map (·.1)) :=
  (List.perm_ext_iff_of_nodup (Mem.keys_nodup s) ht.nodup).mpr fun k => (h.mem_keys k).trans (FS.mem_keys_iff fs k).symm

theorem Sim.listdir_nonroot (h : Sim s fs) (ht : FS.Tree fs) (k : Key) (hk : k ≠ []) :
    (Mem.listdir s k = none ∧ fs.isDirB k = false) ∨
    (∃ l, Mem.listdir s k = some l ∧ fs.isDirB k = true ∧ l.Perm (fs.children k)) := by
  unfold Mem.listdir
  rw [if_neg (by simpa using hk), h.isDir]
  cases hd : fs.isDirB k with
  | false => exact Or.inl ⟨rfl, rfl⟩
  | true =>
    refine Or.inr ⟨_, rfl, rfl, ?_⟩
    rw [FS.children_eq]
    refine (((h.keys_perm ht).filter _).trans (List.Perm.of_eq (List.filter_congr fun q _ => ?_))).map _
    unfold parentKey
    by_cases hq : q = []
    · subst hq; simp [hk]
    · simp [hq]

/-- `D`: the keys at which the containers and the bindings may change; there the new cells must fit (`hD`) -/
theorem Sim.update (h : Sim s fs) {s' : MemState} {fs' : FS} (D : Key → Prop)
    (hfs : ∀ q, ¬ D q → fs'.get q = fs.get q)
    (hs : ∀ q, ¬ D q → (q ∈ s'.directories ↔ q ∈ s.directories) ∧ alGet s'.data q = alGet s.data q ∧
      alGet s'.metadata q = alGet s.metadata q)
    (hD : ∀ q, D q → (q ∈ s'.directories ↔ fs'.get q = some .dir) ∧ alGet s'.data q = dataOf fs' q ∧
      alGet s'.metadata q = metaOf fs' q) : Sim s' fs' := by
  refine .of_cells fun q => ?_
  by_cases hq : D q
  · exact hD q hq
  · obtain ⟨a, b, c⟩ := hs q hq
    unfold dataOf metaOf
    rw [hfs q hq, a, b, c]
    exact h.cell q

theorem sim_mkdirs (h : Sim s fs) {ks ks' : List Key} (hks : ∀ q, q ∈ ks ↔ q ∈ ks')
    (hnf : ∀ a ∈ ks', fs.get a = none ∨ fs.get a = some .dir) :
    Sim { s with directories := ks.foldl setAdd s.directories } (fs.mkdirs ks') := by
  refine h.update (fun q => q ∈ ks' ∧ fs.get q = none) (fun q hq => by rw [FS.get_mkdirs, if_neg hq])
    (fun q hq => ⟨?_, rfl, rfl⟩) (fun q hq => ?_)
  · rw [mem_foldl_setAdd, hks, or_iff_left_iff_imp]
    exact fun hm => (h.dirs q).mpr ((hnf q hm).resolve_left fun e => hq ⟨hm, e⟩)
  · refine ⟨?_, ?_, ?_⟩
    · rw [mem_foldl_setAdd, hks, FS.get_mkdirs, if_pos hq]
      exact ⟨fun _ => rfl, fun _ => Or.inr hq.1⟩
    · show alGet s.data q = _
      rw [h.data, dataOf, dataOf, FS.get_mkdirs, if_pos hq, hq.2]
    · show alGet s.metadata q = _
      rw [h.mdata, metaOf, metaOf, FS.get_mkdirs, if_pos hq, hq.2]

theorem sim_setFile (h : Sim s fs) (k : Key) (d : Data) (m : UMeta) (hk : fs.get k ≠ some .dir) :
    Sim { s with data := alSet s.data k d, metadata := alSet s.metadata k m } (fs.set k (.file d m)) := by
  refine h.update (· = k) (fun q hq => by rw [FS.get_set, if_neg fun e => hq e.symm])
    (fun q hq => ⟨Iff.rfl, ?_, ?_⟩) (fun q hq => ?_)
  · show alGet (alSet _ _ _) _ = _; rw [alGet_set, if_neg fun e => hq e.symm]
  · show alGet (alSet _ _ _) _ = _; rw [alGet_set, if_neg fun e => hq e.symm]
  · subst hq
    simp [alGet_set, dataOf, metaOf, FS.get_set, h.dirs, hk]

theorem sim_store (h : Sim s fs) {k : Key} (d : Data) (m : UMeta) (hnd : fs.get k ≠ some .dir)
    (hanc : ∀ a ∈ ancestors k, fs.get a = none ∨ fs.get a = some .dir) :
    Sim (Mem.store s k d m) ((fs.mkdirs (ancestors k)).set k (.file d { m with size := some d.length, md5 := some d })) := by
  refine sim_setFile (sim_mkdirs h (fun q => ?_) hanc) k d _ ?_
  · -- `makedir (parent_key k)` visits the ancestors of `k`
    rw [mem_mkdirP_list, mem_ancestors_iff_dropLast]; rfl
  · rwa [FS.get_mkdirs, if_neg fun c => ancestors_ne_self c.1 rfl]

theorem sim_storeMeta (h : Sim s fs) (k : Key) (m : UMeta) {d0 : Data} {m0 : UMeta}
    (hk : fs.get k = some (.file d0 m0)) :
    Sim (Mem.storeMeta s k m) (fs.set k (.file d0 m)) := by
  have h2 := sim_setFile h k d0 m (by rw [hk]; simp)
  refine ⟨h2.dirs, fun q => ?_, h2.mdata⟩
  rw [← h2.data q]
  show alGet s.data q = alGet (alSet s.data k d0) q
  rw [alGet_set]
  split
  · next e => rw [← e, h.data, dataOf, hk]
  · rfl

theorem sim_remove (h : Sim s fs) (k : Key) : Sim (Mem.remove s k) (fs.erase k) := by
  refine h.update (· = k) (fun q hq => by rw [FS.get_erase, if_neg hq]) (fun q hq => ⟨?_, ?_, ?_⟩) (fun q hq => ?_)
  · simp [Mem.remove, hq]
  · show alGet (alErase _ _) _ = _; rw [alGet_erase, if_neg hq]
  · show alGet (alErase _ _) _ = _; rw [alGet_erase, if_neg hq]
  · subst hq
    simp [Mem.remove, alGet_erase, dataOf, metaOf, FS.get_erase]

/-- dropping a `directories` entry alone: the other two containers do not have the key -/
theorem sim_dropDir (h : Sim s fs) (k : Key) (hk : fs.get k = none ∨ fs.get k = some .dir) :
    Sim { s with directories := s.directories.filter (· != k) } (fs.erase k) := by
  refine h.update (· = k) (fun q hq => by rw [FS.get_erase, if_neg hq]) (fun q hq => ⟨by simp [hq], rfl, rfl⟩)
    fun q hq => ?_
  subst hq
  have : dataOf fs q = none ∧ metaOf fs q = none := by
    unfold dataOf metaOf
    rcases hk with e | e <;> rw [e] <;> exact ⟨rfl, rfl⟩
  refine ⟨by simp [FS.get_erase], ?_, ?_⟩
  · show alGet s.data q = _
    rw [h.data, this.1, dataOf, FS.get_erase, if_pos rfl]
  · show alGet s.metadata q = _
    rw [h.mdata, this.2, metaOf, FS.get_erase, if_pos rfl]

/-- the loop body of the recursive `removedir`, named: written again in `Mem.removedirFuel_rec` it would elaborate to
another term than the one inside `Mem.removedirFuel` -/
def Mem.rmChild (n : Nat) (k : Key) (st : MemState) (nm : Str) : Except StoreErr MemState :=
  let c := k ++ [nm]
  if Mem.isDir st c then Mem.removedirFuel n st c true else .ok (Mem.remove st c)

/-- the last phase of `removedir`: an empty directory is dropped -/
def Mem.rmTail (s : MemState) (k : Key) : Except StoreErr MemState :=
  match Mem.listdir s k with
  | none => .error .other
  | some l => .ok (if l.isEmpty then { s with directories := s.directories.filter (· != k) } else s)

theorem Mem.removedirFuel_nonrec (n : Nat) (s : MemState) {k : Key} (hk : k ≠ []) :
    Mem.removedirFuel (n + 1) s k false = Mem.rmTail s k := by
  unfold Mem.removedirFuel
  rw [if_neg (by simpa using hk)]
  rfl

theorem Mem.removedirFuel_rec (n : Nat) (s : MemState) {k : Key} (hk : k ≠ []) {names : List Str}
    (hl : Mem.listdir s k = some names) :
    Mem.removedirFuel (n + 1) s k true = (names.foldlM (Mem.rmChild n k) s >>= fun s1 => Mem.rmTail s1 k) := by
  unfold Mem.removedirFuel
  rw [if_neg (by simpa using hk)]
  simp only [↓reduceIte, hl]
  split
  · next e heq => rw [show names.foldlM (Mem.rmChild n k) s = .error e from heq]; rfl
  · next s1 heq => rw [show names.foldlM (Mem.rmChild n k) s = .ok s1 from heq]; rfl

theorem sim_rmTail (h : Sim s fs) (ht : FS.Tree fs) {k : Key} (hk : k ≠ []) (hd : fs.get k = some .dir)
    (hc : (fs.children k).isEmpty = true) : ∃ s', Mem.rmTail s k = .ok s' ∧ Sim s' (fs.erase k) := by
  refine ⟨_, ?_, sim_dropDir h k (Or.inr hd)⟩
  unfold Mem.rmTail
  rcases h.listdir_nonroot ht k hk with ⟨_, hf⟩ | ⟨l, hl, _, hp⟩
  · simp [FS.isDirB, hd] at hf
  · simp only [hl, hp.isEmpty_eq, hc, ↓reduceIte]

theorem sim_removedir_rec (h : Sim s fs) (ht : FS.Tree fs) {k : Key} (hk : k ≠ []) (hd : fs.get k = some .dir) :
    ∃ s', Mem.removedir s k true = .ok s' ∧ Sim s' (fs.prune k) := by
  refine removedir_rec_sim (R := Sim) (rec := fun n s k => Mem.removedirFuel n s k true) (child := Mem.rmChild)
    (tail := Mem.rmTail) Sim.congr ?_ ?_ ?_ (fun h ht hk hd hc => sim_rmTail h ht hk hd hc) _ h ht hk hd ?_
  · intro n s fs k h ht hk hd
    rcases h.listdir_nonroot ht k hk with ⟨_, hf⟩ | ⟨names, hl, _, hperm⟩
    · simp [FS.isDirB, hd] at hf
    · exact ⟨names, hperm, Mem.removedirFuel_rec n s hk hl⟩
  · intro n k s fs nm h hg
    unfold Mem.rmChild
    simp only [h.isDir, FS.isDirB, hg, beq_self_eq_true, Bool.or_true, ↓reduceIte]
  · intro n k s fs nm d m h _ hg
    refine ⟨_, ?_, sim_remove h (k ++ [nm])⟩
    unfold Mem.rmChild
    simp [h.isDir, FS.isDirB, hg]
  · rw [(h.keys_perm ht).length_eq, List.length_map]
    exact Nat.lt_succ_of_le (List.length_filter_le _ _)

theorem sim_step (h : Sim s fs) (ht : FS.Tree fs) {op : StoreOp} {fs' : FS} (hw : WfStep fs op fs') :
    ∃ s', memOps.apply s op = .ok s' ∧ Sim s' fs' := by
  cases hw with
  | store d m _ hnd hanc => exact ⟨_, rfl, sim_store h d m hnd hanc⟩
  | storeMeta m hg => exact ⟨_, rfl, sim_storeMeta h _ m hg⟩
  | remove hg => exact ⟨_, rfl, sim_remove h _⟩
  | removeTree hk hd => exact sim_removedir_rec h ht hk hd
  | removeEmpty hk hd hc =>
    obtain ⟨s', h1, h2⟩ := sim_rmTail h ht hk hd hc
    exact ⟨s', (Mem.removedirFuel_nonrec (Mem.keys s).length s hk).trans h1, h2⟩
  | @makedir k hk hall => exact ⟨_, rfl, sim_mkdirs h (fun q => by rw [dirList_eq hk]) hall⟩

theorem mem_refines_step {s : MemState} {fs : FS} {op : StoreOp} (h : Sim s fs ∧ FS.Tree fs)
    (hwf : wfOp fs op = true) : ∃ s', memOps.apply s op = .ok s' ∧ Sim s' (specOps.step fs op) ∧ FS.Tree (specOps.step fs op) :=
  (sim_step h.1 h.2 (wfOp_step hwf)).imp fun _ h' => ⟨h'.1, h'.2, spec_tree_step h.2 _ hwf⟩

/-- the root lists the first components of all keys; they are the keys of length one when no component is empty -/
theorem Sim.listdir_root (h : Sim s fs) (ht : FS.Tree fs) (hn : AllComps (· ≠ []) fs) :
    ∃ l, Mem.listdir s [] = some l ∧ l.Perm (fs.children []) := by
  refine ⟨_, rfl, (List.perm_ext_iff_of_nodup (nodup_eraseDups' _) (children_nodup ht [])).mpr fun c => ?_⟩
  rw [List.mem_eraseDups, mem_children_iff, List.mem_filterMap, List.nil_append]
  constructor
  · rintro ⟨q, hq, hf⟩
    cases q with
    | nil => cases hf
    | cons c' t =>
      by_cases hc' : c'.isEmpty = true
      · simp [hc'] at hf
      · simp only [hc', Bool.false_eq_true, ↓reduceIte, Option.some.injEq] at hf
        subst hf
        exact ht.prefix_isSome ((h.mem_keys _).mp hq) (by simp) ⟨t, rfl⟩
  · intro hs
    have hne : c.isEmpty = false := by simpa using hn [c] hs c (by simp)
    exact ⟨[c], (h.mem_keys _).mpr hs, by simp [hne]⟩

theorem Sim.obsEquiv (h : Sim s fs) (ht : FS.Tree fs) (hn : AllComps (· ≠ []) fs) (k : Key) :
    ObsEquiv (memOps.obs s k) (specOps.obs fs k) := by
  refine ⟨congrArg Except.ok (h.contains k), congrArg Except.ok (h.isDir k), h.getBytes k, h.getMeta ht k, ?_⟩
  show listingEquiv (.ok (Mem.listdir s k)) (if fs.isDirB k then .ok (some (fs.children k)) else .ok none)
  by_cases hk : k = []
  · subst hk
    obtain ⟨l, hl, hp⟩ := h.listdir_root ht hn
    rw [hl]
    exact hp
  · rcases h.listdir_nonroot ht k hk with ⟨h1, h2⟩ | ⟨l, h1, h2, h3⟩
    · rw [h1, h2]; exact True.intro
    · rw [h1, h2]; exact h3

theorem Sim.keysEquiv (h : Sim s fs) (ht : FS.Tree fs) : keysEquiv (memOps.keys s) (specOps.keys fs) :=
  h.keys_perm ht

/-- the specification state a `MemoryStore` state stands for -/
def absMem (s : MemState) : FS :=
  s.directories.map (fun k => (k, Node.dir)) ++
  s.data.map (fun kd => (kd.1, Node.file kd.2 ((alGet s.metadata kd.1).getD default)))

theorem FS.get_append (a b : FS) (k : Key) : FS.get (a ++ b) k = (FS.get a k).or (FS.get b k) := by
  induction a with
  | nil => rfl
  | cons kv a ih => rw [List.cons_append, FS.get_cons, FS.get_cons, ih]; split <;> rfl

theorem FS.get_dirs (ds : List Key) (k : Key) :
    FS.get (ds.map (fun k => (k, Node.dir))) k = if k ∈ ds then some .dir else none := by
  induction ds with
  | nil => rfl
  | cons d ds ih =>
    rw [List.map_cons, FS.get_cons, ih]
    by_cases h : d = k
    · rw [if_pos h, if_pos (h ▸ List.mem_cons_self)]
    · rw [if_neg h]
      exact ite_iff_congr ⟨List.mem_cons_of_mem _, fun c => (List.mem_cons.mp c).resolve_left fun e => h e.symm⟩ _ _

theorem FS.get_files (f : Key → Data → Node) (l : List (Key × Data)) (k : Key) :
    FS.get (l.map (fun kd => (kd.1, f kd.1 kd.2))) k = (alGet l k).map (f k) := by
  induction l with
  | nil => rfl
  | cons kd l ih =>
    rw [List.map_cons, FS.get_cons, alGet_cons, ih]
    split
    · next h => rw [← h]; rfl
    · rfl

theorem absMem_get (h : Sim s fs) (k : Key) : (absMem s).get k = fs.get k := by
  unfold absMem
  rw [FS.get_append, FS.get_dirs, FS.get_files (fun q d => Node.file d ((alGet s.metadata q).getD default)),
    h.data, h.mdata]
  simp only [h.dirs]
  unfold dataOf metaOf
  cases fs.get k with
  | none => simp
  | some n => cases n <;> simp

end Liquer
