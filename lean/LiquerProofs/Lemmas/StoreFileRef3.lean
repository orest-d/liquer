/-
The simulation between the `FileStore` model and the reference store: recursive `removedir` (fuel
induction), `keys()` (depth-first walk, fuel induction), every well-formed operation (`file_refines_step`, which
`refines_run` lifts to histories), and the agreement of all observations.
-/
import LiquerProofs.Lemmas.StoreFileRef2

namespace Liquer

attribute [local irreducible] metaDirName jsonExt

variable {root : Path} {s : PFS} {fs : FS}

/-- the loop body of the recursive `removedir` -/
def File.childStep (root : Path) (n : Nat) (k : Key) (st : PFS) (nm : Str) : Except StoreErr PFS := do
  let c := k ++ [nm]
  if (← File.isDir root st c) then File.removedirFuel root n st c true else File.remove root st c

theorem File.removedirFuel_nonrec (root : Path) (n : Nat) (s : PFS) {k : Key} (hke : k.isEmpty = false) :
    File.removedirFuel root (n + 1) s k false = File.removedirTail root s k := by
  unfold File.removedirFuel File.removedirTail
  simp only [hke, Bool.false_eq_true, ↓reduceIte, bind, Except.bind, pure, Except.pure]

theorem File.removedirFuel_rec (root : Path) (n : Nat) (s : PFS) {k : Key} (hke : k.isEmpty = false) {names : List Str}
    (hl : File.listdir root s k = .ok (some names)) :
    File.removedirFuel root (n + 1) s k true =
      (names.foldlM (File.childStep root n k) s) >>= fun s1 => File.removedirTail root s1 k := by
  unfold File.removedirFuel File.removedirTail
  simp only [hke, Bool.false_eq_true, ↓reduceIte, bind, Except.bind, hl]
  rfl

/-- the loop body of `keys()` -/
def File.keysStep (root : Path) (n : Nat) (s : PFS) (parent : Key) (acc : List Key) (nm : Str) : Except StoreErr (List Key) := do
  let key := parent ++ [nm]
  let sub ← File.keysFuel root n s key
  pure (acc ++ key :: sub)

theorem File.keysFuel_none (root : Path) (n : Nat) (s : PFS) {parent : Key} (hl : File.listdir root s parent = .ok none) :
    File.keysFuel root (n + 1) s parent = .ok [] := by
  unfold File.keysFuel
  simp only [bind, Except.bind, hl, pure, Except.pure]

theorem File.keysFuel_some (root : Path) (n : Nat) (s : PFS) {parent : Key} {names : List Str}
    (hl : File.listdir root s parent = .ok (some names)) :
    File.keysFuel root (n + 1) s parent = names.foldlM (File.keysStep root n s parent) [] := by
  unfold File.keysFuel
  simp only [bind, Except.bind, hl]
  rfl

theorem SimF.congr {fs' : FS} (h : SimF root s fs) (e : ∀ q, fs'.get q = fs.get q) : SimF root s fs' :=
  ⟨h.nd, h.ready, fun k hk => h.cdir k (by rw [← e]; exact hk), fun k d m hk => h.cfile k d m (by rw [← e]; exact hk),
   fun t x ht hs => (h.sound t x ht hs).mono fun q n hq => by rw [e]; exact hq⟩

theorem PlainFS.anti {fs' : FS} (hp : PlainFS fs) (e : ∀ q, (fs'.get q).isSome = true → (fs.get q).isSome = true) :
    PlainFS fs' :=
  fun q hq => hp q (e q hq)

theorem PlainFS.erase (hp : PlainFS fs) (k : Key) : PlainFS (fs.erase k) :=
  hp.anti fun q hq => by
    rw [FS.get_erase] at hq
    split at hq
    · cases hq
    · exact hq

theorem length_le_of_nodup_subset {α : Type} [DecidableEq α] :
    ∀ (l1 l2 : List α), l1.Nodup → (∀ x ∈ l1, x ∈ l2) → l1.length ≤ l2.length := by
  intro l1
  induction l1 with
  | nil => intro l2 _ _; exact Nat.zero_le _
  | cons a l1 ih =>
    intro l2 hnd hsub
    rw [List.nodup_cons] at hnd
    have ha : a ∈ l2 := hsub a List.mem_cons_self
    have := ih (l2.erase a) hnd.2 fun x hx =>
      (List.mem_erase_of_ne fun (e : x = a) => hnd.1 (e ▸ hx)).mpr (hsub x (List.mem_cons_of_mem _ hx))
    rw [List.length_erase_of_mem ha] at this
    have hpos : 0 < l2.length := List.length_pos_of_mem ha
    rw [List.length_cons]
    omega

theorem SimF.length_le (h : SimF root s fs) (ht : FS.Tree fs) : fs.length ≤ s.length := by
  -- every binding of the specification state has its own node in the POSIX tree
  have h1 : ((fs.map (·.1)).map (fun k => root ++ k)).Nodup := by
    have := ht.nodup
    unfold List.Nodup at this ⊢
    rw [List.pairwise_map]
    exact this.imp (fun hab e => hab ((root_append_inj root).mp e))
  have h2 := length_le_of_nodup_subset _ (s.map (·.1)) h1 fun p hp => by
    simp only [List.mem_map] at hp
    obtain ⟨k, ⟨⟨k', n⟩, hmem, rfl⟩, rfl⟩ := hp
    have hg : fs.get k' = some n := FS.get_of_mem ht.nodup hmem
    have hk0 : k' ≠ [] := ht.nonroot k' (by rw [hg]; rfl)
    refine (al_mem_keys_iff s _).mpr ?_
    rw [← PFS.get_of_ne_nil _ (List.append_ne_nil_of_right_ne_nil _ hk0)]
    cases n with
    | dir => rw [h.cdir k' hg]; rfl
    | file d m => rw [(h.cfile k' d m hg).1]; rfl
  simpa using h2

theorem simF_removedir_nonrec (h : SimF root s fs) (hp : PlainFS fs) (ht : FS.Tree fs) {k : Key} (hk : k ≠ [])
    (hd : fs.get k = some .dir) (hc : (fs.children k).isEmpty = true) :
    ∃ s', File.removedir root s k false = .ok s' ∧ SimF root s' (fs.erase k) := by
  unfold File.removedir
  rw [File.removedirFuel_nonrec root _ s (by simpa using hk)]
  exact simF_removedirTail h hp ht hk hd hc

theorem simF_removedir_rec (h : SimF root s fs) (hp : PlainFS fs) (ht : FS.Tree fs) {k : Key} (hk : k ≠ [])
    (hd : fs.get k = some .dir) :
    ∃ s', File.removedir root s k true = .ok s' ∧ SimF root s' (fs.prune k) := by
  have := removedir_rec_sim (R := fun s fs => SimF root s fs ∧ PlainFS fs)
    (rec := fun n s k => File.removedirFuel root n s k true) (child := File.childStep root)
    (tail := File.removedirTail root) (fun h e => ⟨h.1.congr e, h.2.anti fun q hq => e q ▸ hq⟩) ?_ ?_ ?_ ?_
    (s.length + 1) ⟨h, hp⟩ ht hk hd (Nat.lt_succ_of_le (Nat.le_trans (List.length_filter_le _ _) (h.length_le ht)))
  · exact this.imp fun _ h' => ⟨h'.1, h'.2.1⟩
  · intro n s fs k h ht hk hd
    rcases h.1.listdir h.2 ht (h.2.of_get hd) with ⟨hf, _⟩ | ⟨_, names, hl, hperm⟩
    · simp [FS.isDirB, hd] at hf
    · exact ⟨names, hperm, File.removedirFuel_rec root n s (by simpa using hk) hl⟩
  · intro n k s fs nm h hg
    unfold File.childStep
    simp only [h.1.isDir (h.2.of_get hg), bind, Except.bind, FS.isDirB, hg, beq_self_eq_true, Bool.or_true, ↓reduceIte]
  · intro n k s fs nm d m h ht hg
    obtain ⟨s', h1, h2⟩ := simF_remove h.1 h.2 ht hg
    refine ⟨s', ?_, h2, h.2.erase _⟩
    unfold File.childStep
    simpa [h.1.isDir (h.2.of_get hg), bind, Except.bind, FS.isDirB, hg] using h1
  · intro s fs k h ht hk hd hc
    exact (simF_removedirTail h.1 h.2 ht hk hd hc).imp fun _ h' => ⟨h'.1, h'.2, h.2.erase _⟩

theorem simF_step (h : SimF root s fs) (hp : PlainFS fs) (ht : FS.Tree fs) {op : StoreOp} {fs' : FS} (hk : PlainKey op.key)
    (hw : WfStep fs op fs') : ∃ s', (fileOps root).apply s op = .ok s' ∧ SimF root s' fs' := by
  cases hw with
  | store d m hk0 hnd hanc => exact simF_store h hp ht hk d m hk0 hnd hanc
  | storeMeta m hg => exact simF_storeMeta h hp ht m hg
  | remove hg => exact simF_remove h hp ht hg
  | removeTree hk0 hd => exact simF_removedir_rec h hp ht hk0 hd
  | removeEmpty hk0 hd hc => exact simF_removedir_nonrec h hp ht hk0 hd hc
  | makedir hk0 hall => exact simF_makedir h hp ht hk hk0 hall

theorem file_refines_step {s : PFS} {fs : FS} {op : StoreOp} (h : SimF root s fs ∧ PlainFS fs ∧ FS.Tree fs)
    (hk : PlainKey op.key) (hwf : wfOp fs op = true) :
    ∃ s', (fileOps root).apply s op = .ok s' ∧
      SimF root s' (specOps.step fs op) ∧ PlainFS (specOps.step fs op) ∧ FS.Tree (specOps.step fs op) :=
  (simF_step h.1 h.2.1 h.2.2 hk (wfOp_step hwf)).imp fun _ h' =>
    ⟨h'.1, h'.2, plainFS_iff.mpr ((plainFS_iff.mp h.2.1).run [op] fun _ ho => List.mem_singleton.mp ho ▸ hk), spec_tree_step h.2.2 _ hwf⟩

/-- with fuel beyond the number of bindings below `parent`, `keysFuel` lists every bound key strictly below it exactly once -/
def KeysRecF (root : Path) (s : PFS) (fs : FS) (n : Nat) : Prop :=
  ∀ parent, PlainKey parent → (parent = [] ∨ (fs.get parent).isSome = true) → (fs.below parent).length < n →
    ∃ ks, File.keysFuel root n s parent = .ok ks ∧
      ∀ q, ks.count q = if (parent <+: q ∧ q ≠ parent ∧ (fs.get q).isSome = true) then 1 else 0

theorem underAny_cons (k : Key) (c : Str) (cs : List Str) (q : Key) :
    underAny k (c :: cs) q = ((k ++ [c]).isPrefixOf q || underAny k cs q) := by
  simp [underAny]

theorem keys_fold (hp : PlainFS fs) (n : Nat) (IH : KeysRecF root s fs n) (parent : Key)
    (hb : (fs.below parent).length < n + 1) :
    ∀ rest : List Str, rest.Nodup → (∀ c ∈ rest, (fs.get (parent ++ [c])).isSome = true) → ∀ acc : List Key,
      ∃ ks, rest.foldlM (File.keysStep root n s parent) acc = .ok ks ∧
        ∀ q, ks.count q = acc.count q + (if (underAny parent rest q = true ∧ (fs.get q).isSome = true) then 1 else 0) := by
  intro rest
  induction rest with
  | nil =>
    intro _ _ acc
    exact ⟨acc, rfl, fun q => by simp [underAny]⟩
  | cons nm rest ih =>
    intro hnd hpres acc
    rw [List.nodup_cons] at hnd
    have hkey : (fs.get (parent ++ [nm])).isSome = true := hpres nm List.mem_cons_self
    obtain ⟨sub, hsubrun, hsub⟩ := IH (parent ++ [nm]) (hp _ hkey) (Or.inr hkey) (by
      have := below_child_lt hkey fun _ => true
      rw [List.filter_eq_self.mpr fun _ _ => rfl] at this
      omega)
    obtain ⟨ks, hrun, hks⟩ := ih hnd.2 (fun c hc => hpres c (List.mem_cons_of_mem _ hc)) (acc ++ (parent ++ [nm]) :: sub)
    refine ⟨ks, ?_, ?_⟩
    · rw [List.foldlM_cons]
      unfold File.keysStep
      simp only [hsubrun, bind, Except.bind, pure, Except.pure]
      exact hrun
    · intro q
      rw [hks q, List.count_append, List.count_cons, hsub q, underAny_cons]
      by_cases h1 : (parent ++ [nm]) <+: q
      · have hp1 : (parent ++ [nm]).isPrefixOf q = true := List.isPrefixOf_iff_prefix.mpr h1
        have hnr : underAny parent rest q = false := by
          rw [← Bool.not_eq_true, underAny_iff]
          rintro ⟨c, hc, hcq⟩
          rcases List.prefix_or_prefix_of_prefix h1 hcq with x | x
          · exact hnd.1 (child_prefix_child x ▸ hc)
          · exact hnd.1 ((child_prefix_child x).symm ▸ hc)
        by_cases e : q = parent ++ [nm]
        · subst e
          simp [hp1, hnr, hkey]
        · have e' : ¬ (parent ++ [nm]) = q := fun x => e x.symm
          by_cases hq : (fs.get q).isSome = true
          · simp [hp1, hnr, h1, e, e', hq]
          · simp [hq, e']
      · have hp1 : (parent ++ [nm]).isPrefixOf q = false := by
          rw [← Bool.not_eq_true, List.isPrefixOf_iff_prefix]; exact h1
        have e' : ¬ (parent ++ [nm]) = q := fun x => h1 (x ▸ List.prefix_refl _)
        simp [hp1, h1, e']

theorem keysRecF_all (h : SimF root s fs) (hp : PlainFS fs) (ht : FS.Tree fs) (n : Nat) : KeysRecF root s fs n := by
  induction n with
  | zero => intro parent _ _ hb; omega
  | succ n IH =>
    intro parent hpar hpp hb
    rcases h.listdir hp ht hpar with ⟨hf, hl⟩ | ⟨_, names, hl, hperm⟩
    · refine ⟨[], File.keysFuel_none root n s hl, ?_⟩
      intro q
      -- nothing is bound below a key that is not a directory
      rw [if_neg]
      · rfl
      · rintro ⟨h1, h2, h3⟩
        rw [FS.isDirB, Bool.or_eq_false_iff, List.isEmpty_eq_false_iff, beq_eq_false_iff_ne] at hf
        rw [ht.nothing_below (Or.inl hf.2) ((mem_ancestors _ _).mpr ⟨hf.1, h1, fun e => h2 e.symm⟩)] at h3
        cases h3
    · have hnd : names.Nodup := (hperm.nodup_iff).mpr (children_nodup ht parent)
      obtain ⟨ks, hrun, hks⟩ := keys_fold hp n IH parent hb names hnd
        (fun c hc => (mem_children_iff fs parent c).mp (hperm.mem_iff.mp hc)) []
      refine ⟨ks, by rw [File.keysFuel_some root n s hl]; exact hrun, ?_⟩
      intro q
      rw [hks q, List.count_nil, Nat.zero_add]
      refine ite_iff_congr ?_ _ _
      constructor
      · rintro ⟨hu, hq⟩
        obtain ⟨c, _, hc⟩ := (underAny_iff parent names q).mp hu
        refine ⟨(List.prefix_append parent [c]).trans hc, ?_, hq⟩
        intro e
        subst e
        exact child_not_prefix_parent q c hc
      · rintro ⟨h1, h2, hq⟩
        refine ⟨?_, hq⟩
        obtain ⟨t, rfl⟩ := h1
        cases t with
        | nil => simp at h2
        | cons c t =>
          rw [underAny_iff]
          have hpc : parent ++ [c] <+: parent ++ c :: t := ⟨t, by simp⟩
          exact ⟨c, hperm.mem_iff.mpr ((mem_children_iff fs parent c).mpr (ht.prefix_isSome hq (by simp) hpc)), hpc⟩

theorem SimF.keys_perm (h : SimF root s fs) (hp : PlainFS fs) (ht : FS.Tree fs) :
    ∃ ks, File.keys root s = .ok ks ∧ ks.Perm (fs.map (·.1)) := by
  unfold File.keys
  obtain ⟨ks, hrun, hks⟩ := keysRecF_all h hp ht (s.length + 1) [] PlainKey.nil (Or.inl rfl) (by
    have h1 : (fs.below []).length ≤ fs.length := List.length_filter_le _ _
    have h2 := h.length_le ht
    omega)
  refine ⟨ks, hrun, ?_⟩
  rw [List.perm_iff_count]
  intro q
  rw [hks q, ht.nodup.count]
  refine ite_iff_congr ?_ _ _
  rw [FS.mem_keys_iff]
  constructor
  · exact fun x => x.2.2
  · intro hq
    exact ⟨List.nil_prefix, ht.nonroot q hq, hq⟩

theorem SimF.obs (h : SimF root s fs) (hp : PlainFS fs) (ht : FS.Tree fs) {k : Key} (hk : PlainKey k) :
    ((fileOps root).obs s k).contains = (specOps.obs fs k).contains ∧
    ((fileOps root).obs s k).isDir = (specOps.obs fs k).isDir ∧
    ((∃ d, ((fileOps root).obs s k).bytes = .ok d ∧ (specOps.obs fs k).bytes = .ok d) ∨
     (∃ e e', ((fileOps root).obs s k).bytes = .error e ∧ (specOps.obs fs k).bytes = .error e')) ∧
    ((fileOps root).obs s k).metadata = (specOps.obs fs k).metadata ∧
    listingEquiv ((fileOps root).obs s k).listdir (specOps.obs fs k).listdir := by
  refine ⟨h.contains hk, h.isDir hk, h.getBytes ht hk, h.getMeta hp ht hk, ?_⟩
  show listingEquiv (File.listdir root s k) (if fs.isDirB k then .ok (some (fs.children k)) else .ok none)
  rcases h.listdir hp ht hk with ⟨h1, h2⟩ | ⟨h1, l, h2, h3⟩
  · rw [h1, h2]; exact True.intro
  · rw [h1, h2]; exact h3

end Liquer
