/-
Lemmas for C08 (LiquerModel/Recipes.lean) that hold over ANY sub-store model `S`: the metadata codec, the evaluation
log (touched by nothing but `evalPhase`), and how `make` ends in terms of what it needs of the sub-store at the one
key it writes (`AtKey`; instances: `memAt` in RecipesMem, `fileAt` in RecipesFile).
-/
import LiquerModel.Recipes

namespace Liquer.Rcp

theorem splitLen_replicate (n : Nat) (rest : Str) : splitLen (List.replicate n 'x' ++ '|' :: rest) = (n, rest) := by
  induction n with
  | zero => simp [splitLen]
  | succ n ih => simp [List.replicate_succ, splitLen, ih]

theorem decField_encField (s rest : Str) : decField (encField s ++ rest) = (s, rest) := by
  unfold decField encField
  rw [List.append_assoc, List.cons_append, splitLen_replicate]
  simp

theorem decOpt_encOpt (o : Option Str) (rest : Str) : decOpt (encOpt o ++ rest) = (o, rest) := by
  cases o with
  | none => simp [encOpt, decOpt]
  | some s => simp [encOpt, decOpt, decField_encField]

theorem decStatus_encStatus (s : RStatus) : decStatus (encStatus s) = s := by
  cases s <;> simp [encStatus, decStatus]

theorem decRM_encRM (m : RMeta) : decRM (encRM m) = m := by
  obtain ⟨st, ti, de, hr, dn, dv⟩ := m
  have h4 : decOpt (encOpt dv) = (dv, []) := by simpa using decOpt_encOpt dv []
  cases hr <;>
    simp [encRM, decRM, decStatus_encStatus, decOpt_encOpt, h4]

theorem decRM_nil : decRM [] = {} := rfl

/-- the metadata `make` leaves for a successfully evaluated recipe -/
def readyMeta (r : Recipe) : RMeta :=
  { status := .ready, title := r.title.or (some []), descr := r.descr.or (some []), hasRecipe := true,
    depName := some r.name, depVersion := some r.version }

/-- … for a recipe whose evaluation ended in an error state (`bare`: that of a resource whose metadata could not be read) -/
def failedMeta (r : Recipe) (bare : Bool) : RMeta :=
  { status := .error, title := r.title.or (if bare then none else some []), descr := r.descr.or (if bare then none else some []),
    hasRecipe := true, depName := some r.name, depVersion := some r.version }

theorem mergeMeta_ready (r : Recipe) : mergeMeta r false (evMeta .ready) = readyMeta r := rfl

theorem mergeMeta_failed (r : Recipe) (bare : Bool) :
    mergeMeta r false (if bare then evMetaBare else evMeta .error) = failedMeta r bare := by
  cases bare <;> rfl

/-- `store_metadata` has put the declared title and description in already; the merge puts them in again -/
theorem mergeMeta_declared {cfg : Cfg} {k : Key} {r : Recipe} (hl : cfg.lookup k = some r) (b : Bool) (m : RMeta) :
    mergeMeta r b (declaredMeta cfg k m) = mergeMeta r b m := by
  simp only [mergeMeta, declaredMeta, hl, ← Option.or_assoc, Option.or_self]

theorem statusKey_name (d : Bool) (k : Key) : keyName (statusKeyOf d k) = statusFile := by
  simp [statusKeyOf, keyName]

theorem statusKey_ne {k : Key} (h : keyName k ≠ statusFile) (d : Bool) (k' : Key) : statusKeyOf d k' ≠ k :=
  fun e => h (e ▸ statusKey_name d k')

variable {σ : Type} (S : StoreOps σ) (cfg : Cfg) (E : Env)

/-- all that is used of `create_status`: it leaves the state as it is, or puts in the sub-store a successful `store` of
the status file left -/
theorem createStatus_cases {P : RState σ → Prop} (st : RState σ) (k : Key) (h0 : P st)
    (h1 : ∀ d s', isDir S cfg st k = .ok d → S.store st.sub (statusKeyOf d k) [] statusMeta = .ok s' →
      P { st with sub := s' }) : P (createStatus S cfg st k) := by
  unfold createStatus
  split
  · exact h0
  · split
    · exact h0
    · split
      · exact h1 _ _ ‹_› ‹_›
      · exact h0

theorem createStatus_log (st : RState σ) (k : Key) : (createStatus S cfg st k).log = st.log :=
  createStatus_cases (P := fun st' => st'.log = st.log) S cfg st k rfl fun _ _ _ _ => rfl

theorem isDir_of_sub {st : RState σ} {k : Key} (h : S.isDir st.sub k = .ok false) :
    isDir S cfg st k = .ok (recipeDir cfg.recipes k) := by
  simp only [isDir, h]

theorem store_log {st st' : RState σ} {k : Key} {d : Data} {m : RMeta} (h : store S cfg st k d m = .ok st') :
    st'.log = st.log := by
  unfold store at h
  split at h <;> cases h
  simp only [createStatus_log]

theorem storeMeta_log {st st' : RState σ} {k : Key} {m : RMeta} {z : Option Nat} {h5 : Option Data}
    (h : storeMeta S cfg st k m z h5 = .ok st') : st'.log = st.log := by
  unfold storeMeta at h
  split at h <;> cases h
  simp only [createStatus_log]

theorem remove_log {st st' : RState σ} {k : Key} (h : remove S cfg st k = .ok st') : st'.log = st.log := by
  unfold remove at h
  split at h <;> cases h
  simp only [createStatus_log]

theorem writeBack_log (st : RState σ) (k : Key) (out : EvalOut) : (writeBack S cfg st k out).1.log = st.log := by
  cases out with
  | ok d =>
    simp only [writeBack]
    split
    · exact store_log S cfg ‹_›
    · rfl
  | failed bare =>
    simp only [writeBack]
    split
    · exact storeMeta_log S cfg ‹_›
    · rfl
  | raised => rfl

theorem finishTail_log (st : RState σ) (k : Key) (r : Recipe) (b : Bool) : (finishTail S cfg st k r b).1.log = st.log := by
  unfold finishTail
  split
  · rfl
  · split
    · rfl
    · simp only [createStatus_log]

theorem finish_log (st : RState σ) (k : Key) (r : Recipe) (out : EvalOut) :
    (finish S cfg st k r out).1.log = st.log := by
  unfold finish
  rw [finishTail_log, writeBack_log]

theorem cleanOne_log (acc : RState σ × List Key) (k : Key) : (cleanOne S cfg acc k).1.log = acc.1.log := by
  unfold cleanOne
  split
  · split
    · split
      · split
        · exact remove_log S cfg ‹_›
        · rfl
      · rfl
    · rfl
  · rfl

theorem clean_log (st : RState σ) (dir : Key) (r : Bool) : (clean S cfg st dir r).1.log = st.log := by
  have hf : ∀ (l : List Key) (acc : RState σ × List Key), (l.foldl (cleanOne S cfg) acc).1.log = acc.1.log := by
    intro l
    induction l with
    | nil => exact fun _ => rfl
    | cons k l ih => exact fun acc => (ih _).trans (cleanOne_log S cfg acc k)
  unfold clean
  split
  · split
    · rfl
    · exact hf _ _
  · rfl

theorem evalPhase_log (rd : RState σ → Key → RState σ × Except StoreErr Data) (st : RState σ) (r : Recipe) (k : Key)
    (hrd : ∀ s q, s.log <:+ (rd s q).1.log) : st.log <:+ (evalPhase S cfg E rd st r k).1.log := by
  unfold evalPhase
  split
  · exact List.suffix_refl _
  · split
    · split
      · exact List.suffix_refl _
      · have hb : st.log <:+ (bytesRoot cfg rd st ‹_›).1.log := by
          unfold bytesRoot
          split
          · exact hrd _ _
          · exact List.suffix_refl _
        split
        · exact hb
        · exact hb.trans (List.suffix_cons _ _)
    · exact List.suffix_cons _ _

theorem evalPhase_plain (rd : RState σ → Key → RState σ × Except StoreErr Data) (st : RState σ) (k : Key) {r : Recipe}
    {q : Query} (hp : E.prs r.query = some q) (hq : ∀ h names rest, q.segments ≠ .resource h names :: rest) :
    evalPhase S cfg E rd st r k = ({ st with log := k :: st.log }, EvalOut.ofOpt (E.evalQ r.query (storeExt k q))) := by
  unfold evalPhase
  rw [hp]
  -- the equation of the catch-all alternative needs exactly `hq`, which `simp` finds among the hypotheses
  simp only

theorem evalPhase_dep (rd : RState σ → Key → RState σ × Except StoreErr Data) (st : RState σ) (k : Key) {r : Recipe}
    {q : Query} {h : Option Header} {names : List Str} {t : Seg} {rest : List Seg} {o : RObs}
    (hp : E.prs r.query = some q) (hq : q.segments = .resource h names :: t :: rest)
    (hm : metaRoot S cfg st names = .ok o) :
    evalPhase S cfg E rd st r k =
      ({ (bytesRoot cfg rd st names).1 with log := k :: (bytesRoot cfg rd st names).1.log },
       EvalOut.ofOpt (E.evalQ r.query (storeExt k q))) := by
  unfold evalPhase
  rw [hp]
  simp only [hq, hm]
  rfl

theorem evalPhase_missing (rd : RState σ → Key → RState σ × Except StoreErr Data) (st : RState σ) (k : Key) {r : Recipe}
    {q : Query} {h : Option Header} {names : List Str} {rest : List Seg} {e : StoreErr}
    (hp : E.prs r.query = some q) (hq : q.segments = .resource h names :: rest)
    (hm : metaRoot S cfg st names = .error e) : evalPhase S cfg E rd st r k = (st, .failed true) := by
  unfold evalPhase
  rw [hp]
  simp only [hq, hm]

/-- `get_bytes` runs `getBytesF` with the fuel `fuelOf cfg = cfg.recipes.length + 2`, written here as `(… + 1) + 1` so that
the equations of `getBytesF (n + 1)` apply: the read itself takes one level, and what a recipe reads while it is made (its
dependency) runs with the remaining `cfg.recipes.length + 1` -/
theorem getBytes_fuel (st : RState σ) (k : Key) :
    getBytes S cfg E st k = getBytesF S cfg E (cfg.recipes.length + 1 + 1) st k := rfl

theorem afterMake_fst (k : Key) (m : RState σ × Option StoreErr) : (afterMake S k m).1 = m.1 := by
  unfold afterMake
  split <;> rfl

theorem afterMake_none (k : Key) {m : RState σ × Option StoreErr} (h : m.2 = none) :
    afterMake S k m = (m.1, S.getBytes m.1.sub k) := by
  simp only [afterMake, h]

theorem getBytesF_log (n : Nat) (st : RState σ) (k : Key) : st.log <:+ (getBytesF S cfg E n st k).1.log := by
  induction n generalizing st k with
  | zero => exact List.suffix_refl _
  | succ n ih =>
    unfold getBytesF
    split
    · exact List.suffix_refl _
    · exact List.suffix_refl _
    · rw [afterMake_fst]
      unfold makeWith
      split
      · exact List.suffix_refl _
      · rw [finish_log]
        exact evalPhase_log S cfg E _ st _ k ih

theorem getBytesF_present (n : Nat) (st : RState σ) (k : Key) (h : S.contains st.sub k = .ok true) :
    getBytesF S cfg E (n + 1) st k = (st, S.getBytes st.sub k) := by
  simp only [getBytesF, h]

theorem getBytesF_contains_error (n : Nat) (st : RState σ) (k : Key) (e : StoreErr) (h : S.contains st.sub k = .error e) :
    getBytesF S cfg E (n + 1) st k = (st, .error e) := by
  simp only [getBytesF, h]

theorem getBytesF_undeclared (n : Nat) (st : RState σ) (k : Key) (h : S.contains st.sub k = .ok false)
    (hl : cfg.lookup k = none) : getBytesF S cfg E (n + 1) st k = (st, .error .keyNotFound) := by
  simp only [getBytesF, h, makeWith, hl, afterMake]

theorem getBytesF_absent (n : Nat) {st p : RState σ} {k : Key} {r : Recipe} {out : EvalOut}
    (hl : cfg.lookup k = some r) (hc : S.contains st.sub k = .ok false)
    (hp : evalPhase S cfg E (getBytesF S cfg E n) st r k = (p, out)) :
    getBytesF S cfg E (n + 1) st k = afterMake S k (finish S cfg p k r out) := by
  simp only [getBytesF, hc, makeWith, hl, hp]

theorem of_triggers {st : RState σ} {op : ROp} (h : triggers S cfg st op = true) :
    ∃ k r, op = .getBytes k ∧ S.contains st.sub k = .ok false ∧ cfg.lookup k = some r := by
  cases op with
  | getBytes k =>
    simp only [triggers] at h
    split at h
    · obtain ⟨r, hr⟩ := Option.isSome_iff_exists.mp h
      exact ⟨k, r, rfl, ‹_›, hr⟩
    · cases h
  | _ => cases h

theorem step_quiet (st : RState σ) (op : ROp) (h : triggers S cfg st op = false) : (step S cfg E st op).log = st.log := by
  cases op with
  | getBytes k =>
    simp only [step, getBytes, fuelOf]
    simp only [triggers] at h
    split at h
    · rw [getBytesF_undeclared S cfg E _ st k ‹_› (by simpa using h)]
    · cases hc : S.contains st.sub k with
      | error e => rw [getBytesF_contains_error S cfg E _ st k e hc]
      | ok b =>
        cases b with
        | true => rw [getBytesF_present S cfg E _ st k hc]
        | false => exact absurd hc (by assumption)
  | remove k =>
    simp only [step]
    split
    · exact remove_log S cfg ‹_›
    · rfl
  | clean d r => exact clean_log S cfg st d r
  | _ => rfl

theorem step_log_suffix (st : RState σ) (op : ROp) : st.log <:+ (step S cfg E st op).log := by
  cases ht : triggers S cfg st op with
  | false => rw [step_quiet S cfg E st op ht]; exact List.suffix_refl _
  | true =>
    obtain ⟨k, _, rfl, _⟩ := of_triggers S cfg ht
    exact getBytesF_log S cfg E _ st k

/-- no step of the history triggers an evaluation -/
def quiet (st : RState σ) : List ROp → Prop
  | [] => True
  | op :: h => triggers S cfg st op = false ∧ quiet (step S cfg E st op) h

theorem run_quiet (h : List ROp) (st : RState σ) (hq : quiet S cfg E st h) : (run S cfg E st h).log = st.log := by
  induction h generalizing st with
  | nil => rfl
  | cons op h ih => exact (ih _ hq.2).trans (step_quiet S cfg E st op hq.1)

theorem run_log_suffix (h : List ROp) (st : RState σ) : st.log <:+ (run S cfg E st h).log := by
  induction h generalizing st with
  | nil => exact List.suffix_refl _
  | cons op h ih => exact (step_log_suffix S cfg E st op).trans (ih _)

theorem run_grew (h : List ROp) (st : RState σ) (hg : (run S cfg E st h).log ≠ st.log) :
    ∃ pre op post, h = pre ++ op :: post ∧ triggers S cfg (run S cfg E st pre) op = true := by
  induction h generalizing st with
  | nil => exact absurd rfl hg
  | cons op h ih =>
    cases ht : triggers S cfg st op with
    | true => exact ⟨[], op, h, rfl, ht⟩
    | false =>
      obtain ⟨pre, o, post, e, t⟩ := ih (step S cfg E st op) (step_quiet S cfg E st op ht ▸ hg)
      exact ⟨op :: pre, o, post, congrArg _ e, t⟩

/-- After the evaluation phase `make` touches the sub-store at the key `k` and at the status file of its directory only;
this is what it needs of `S` there.  `W s`: the writes of `k` succeed in `s`; `NoData s`: no data is stored under `k`
(`store_metadata` then creates a metadata-only entry, what a failed recipe leaves); `Ent s x um`: `s` holds the data `x`
(`none`: no data) and the metadata `um` under `k`; `Gone s`: `s` has and reports nothing under `k`; `Ent` and `Gone`
include `W`.  `create_status k` respects all this — an entry WITHOUT data only under `dirOK` (over a file system the key
must not be a directory of recipes: the status file would then be written below it, creating the directory `k`). -/
structure AtKey (k : Key) where
  W : σ → Prop
  NoData : σ → Prop
  Ent : σ → Option Data → UMeta → Prop
  Gone : σ → Prop
  dirOK : Prop
  store_ok : ∀ {s} (d : Data) (m : UMeta), W s →
    ∃ s', S.store s k d m = .ok s' ∧ Ent s' (some d) { m with size := some d.length, md5 := some d }
  storeMeta_new : ∀ {s} (m : UMeta), W s → NoData s → ∃ s', S.storeMeta s k m = .ok s' ∧ Ent s' none m
  storeMeta_ent : ∀ {s x um} (um' : UMeta), Ent s x um → ∃ s', S.storeMeta s k um' = .ok s' ∧ Ent s' x um'
  remove_ok : ∀ {s}, W s → ∃ s', S.remove s k = .ok s' ∧ Gone s'
  ent_w : ∀ {s x um}, Ent s x um → W s
  gone_w : ∀ {s}, Gone s → W s
  getMeta_ent : ∀ {s x um}, Ent s x um →
    ∃ b, S.getMeta s k = .ok { key := k, name := keyName k, isDir := b, size := um.size, md5 := um.md5, user := um.user }
  getBytes_data : ∀ {s d um}, Ent s (some d) um → S.contains s k = .ok true ∧ S.getBytes s k = .ok d
  getBytes_none : ∀ {s um}, Ent s none um → S.getBytes s k = .error .keyNotFound
  gone_reads : ∀ {s}, Gone s →
    S.contains s k = .ok false ∧ S.isDir s k = .ok false ∧ S.getMeta s k = .error .keyNotFound
  status_ent : ∀ {st : RState σ} {x um}, Ent st.sub x um → (x = none → dirOK) → Ent (createStatus S cfg st k).sub x um
  status_gone : ∀ {st : RState σ}, Gone st.sub → recipeDir cfg.recipes k = false → Gone (createStatus S cfg st k).sub

namespace AtKey
variable {S cfg} {k : Key} (V : AtKey S cfg k)

theorem getMeta_rm {st : RState σ} {x : Option Data} {m : RMeta} {z : Option Nat} {h5 : Option Data}
    (h : V.Ent st.sub x { user := encRM m, size := z, md5 := h5 }) : ∃ o, getMeta S cfg st k = .ok o ∧ o.rm = m := by
  obtain ⟨b, hg⟩ := V.getMeta_ent h
  exact ⟨{ isDir := b, rm := decRM (encRM m) }, by simp only [getMeta, hg, obsOf], decRM_encRM m⟩

theorem getBytesF_data {st : RState σ} {d : Data} {um : UMeta} (h : V.Ent st.sub (some d) um) (n : Nat) :
    getBytesF S cfg E (n + 1) st k = (st, .ok d) := by
  rw [getBytesF_present S cfg E n st k (V.getBytes_data h).1, (V.getBytes_data h).2]

theorem finishTail_ent {st : RState σ} {x : Option Data} {um : UMeta} (r : Recipe) (b : Bool) (h : V.Ent st.sub x um)
    (hx : x = none → V.dirOK) :
    (finishTail S cfg st k r b).2 = none ∧
    V.Ent (finishTail S cfg st k r b).1.sub x
      { user := encRM (mergeMeta r b (decRM um.user)), size := um.size, md5 := um.md5 } := by
  obtain ⟨_, hg⟩ := V.getMeta_ent h
  obtain ⟨s3, hs3, e3⟩ := V.storeMeta_ent { user := encRM (mergeMeta r b (decRM um.user)), size := um.size, md5 := um.md5 } h
  simp only [finishTail, hg, hs3]
  exact ⟨trivial, V.status_ent (V.status_ent (st := { st with sub := s3 }) e3 hx) hx⟩

theorem finish_ok (st : RState σ) (r : Recipe) (d : Data) (hw : V.W st.sub) :
    (finish S cfg st k r (.ok d)).2 = none ∧
    V.Ent (finish S cfg st k r (.ok d)).1.sub (some d)
      { user := encRM (readyMeta r), size := some d.length, md5 := some d } := by
  obtain ⟨s1, hs1, e1⟩ := V.store_ok d { user := encRM (evMeta .ready) } hw
  have h := V.finishTail_ent r false
    (V.status_ent (V.status_ent (st := { st with sub := s1 }) e1 nofun) nofun) nofun
  simp only [decRM_encRM, mergeMeta_ready] at h
  simpa only [finish, writeBack, store, hs1] using h

theorem finish_failed (st : RState σ) {r : Recipe} (bare : Bool) (hl : cfg.lookup k = some r) (hd : V.dirOK)
    (hw : V.W st.sub) (hn : V.NoData st.sub) :
    (finish S cfg st k r (.failed bare)).2 = none ∧
    V.Ent (finish S cfg st k r (.failed bare)).1.sub none
      { user := encRM (failedMeta r bare), size := none, md5 := none } := by
  obtain ⟨s1, hs1, e1⟩ := V.storeMeta_new
    { user := encRM (declaredMeta cfg k (if bare then evMetaBare else evMeta .error)), size := none, md5 := none } hw hn
  have h := V.finishTail_ent r false (V.status_ent (st := { st with sub := s1 }) e1 fun _ => hd) fun _ => hd
  simp only [decRM_encRM, mergeMeta_declared hl, mergeMeta_failed] at h
  simpa only [finish, writeBack, storeMeta, hs1] using h

end AtKey

end Liquer.Rcp
