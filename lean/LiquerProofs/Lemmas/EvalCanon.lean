/-
The bridge between C02 (print-parse round trip) and the evaluator properties (C01, C04, C05, C06, C09, C12):
*position-irrelevance of the reference interpretation on successful runs*.

Source positions (`pos` of actions and parameters) enter the reference interpretation only through error
reports (`errPos`, `.raised pos …`) and through the `pos` field of converted parameters, which argument
conversion ignores.  Hence two queries that are equal up to positions (`q'.erase = q.erase`) have *equal*
reference results (outcome and call log) as soon as the result of one of them is successful (`PosAt`,
`pos_irrelevant`).  With C02's `print_parse` (the canonical text of a `wfTop` query parses back to the query up to
positions) this gives `CanonSame env q` for every `wfTop` query: `canonSame_of_wf`.
-/
import LiquerProofs.Lemmas.ParseTop
import LiquerProofs.Lemmas.EvalCor

namespace Liquer.Canon

theorem eraseSegs_eq_map : ∀ ss : List Seg, eraseSegs ss = ss.map Seg.erase
  | [] => rfl
  | s :: ss => by simp [eraseSegs, eraseSegs_eq_map ss]

theorem eraseActions_eq_map : ∀ as : List Action, eraseActions as = as.map Action.erase
  | [] => rfl
  | a :: as => by simp [eraseActions, eraseActions_eq_map as]

theorem eraseParams_eq_map : ∀ ps : List Param, eraseParams ps = ps.map Param.erase
  | [] => rfl
  | p :: ps => by simp [eraseParams, eraseParams_eq_map ps]

theorem erase_segments (q : Query) : q.erase.segments = q.segments.map Seg.erase := by
  cases q; simp [Query.erase, Query.segments, eraseSegs_eq_map]

theorem erase_absolute (q : Query) : q.erase.absolute = q.absolute := by
  cases q; rfl

theorem erase_name (a : Action) : a.erase.name = a.name := by cases a; rfl

theorem erase_params (a : Action) : a.erase.params = eraseParams a.params := by cases a; rfl

theorem toList_erase (a : Action) : a.erase.toList Gen.escapeTable = a.toList Gen.escapeTable := by
  cases a with
  | mk n ps pos =>
    simp only [Action.erase, Action.toList, List.cons.injEq, true_and]
    induction ps with
    | nil => rfl
    | cons p ps ih =>
      simp only [eraseParams, List.map_cons, List.cons.injEq]
      refine ⟨?_, ih⟩
      cases p with
      | str t pos => rfl
      | link lq pos => simp [Param.erase, Query.encode_erase]

theorem isRes_erase (q : Query) : q.erase.isRes = q.isRes := by
  match q with
  | .mk [] _ => rfl
  | .mk [.resource _ _] _ => rfl
  | .mk [.transform _ _ _] _ => rfl
  | .mk (_ :: _ :: _) _ => simp [Query.erase, eraseSegs, Query.isRes]

theorem erase_transform (h : Option Header) (as : List Action) (f : Option Str) :
    (Seg.transform h as f).erase = .transform (h.map Header.erase) (as.map Action.erase) f := by
  cases h <;> simp [Seg.erase, eraseActions_eq_map]

theorem erase_resource (h : Option Header) (ns : List Str) :
    (Seg.resource h ns).erase = .resource (h.map Header.erase) ns := by
  cases h <;> simp [Seg.erase]

theorem erase_mk (segs : List Seg) (a : Bool) : (Query.mk segs a).erase = .mk (segs.map Seg.erase) a := by
  simp [Query.erase, eraseSegs_eq_map]

theorem predecessor_erase (q : Query) :
    q.erase.predecessor = q.predecessor.map (fun pr => (pr.1.erase, pr.2.map Seg.erase)) := by
  cases q with
  | mk segs a =>
    rw [erase_mk]
    simp only [Query.predecessor, ← List.map_reverse]
    cases segs.reverse with
    | nil => rfl
    | cons sg front =>
      cases sg with
      | resource h ns => rfl
      | transform h as f =>
        rw [List.map_cons, erase_transform]
        cases f with
        | some f =>
          cases as with
          | nil => simp [erase_mk, erase_transform]
          | cons x xs => simp [erase_mk, erase_transform]
        | none =>
          simp only [← List.map_reverse]
          cases as.reverse with
          | nil => simp [erase_mk]
          | cons last init =>
            cases init with
            | nil => simp [erase_mk, erase_transform]
            | cons y ys => simp [erase_mk, erase_transform]

theorem preRem_erase (q : Query) : q.erase.preRem = q.preRem.map Seg.erase := by
  unfold Query.preRem
  rw [predecessor_erase]
  cases q.predecessor with
  | none => rfl
  | some pr => rfl

theorem preQ_erase (q : Query) : q.erase.preQ = q.preQ.map Query.erase := by
  unfold Query.preQ
  rw [predecessor_erase]
  cases q.predecessor with
  | none => rfl
  | some pr =>
    simp only [Option.map_some, erase_segments, List.isEmpty_map]
    split <;> rfl

theorem preParent_erase (q : Query) : q.erase.preParent = q.preParent := by
  unfold Query.preParent
  rw [preQ_erase]
  cases q.preQ with
  | none => rfl
  | some p => simp [Query.encode_erase]

def unpos : PVal → PVal
  | .text s _ => .text s 0
  | .expanded v _ => .expanded v 0
  | .raw v => .raw v

def Conv.map {α β : Type} (f : α → β) : Conv α → Conv β
  | .ok a => .ok (f a)
  | .fail => .fail
  | .unmodelled => .unmodelled

theorem convertOne_unpos (ty : ArgTy) (a : PVal) : convertOne ty (unpos a) = convertOne ty a := by
  cases ty <;> cases a <;> rfl

theorem convertRest_unpos : ∀ as : List PVal, convertRest (as.map unpos) = convertRest as
  | [] => rfl
  | a :: as => by
    simp only [List.map_cons, convertRest, convertRest_unpos as]
    cases a <;> rfl

theorem fillGo_unpos (kw : List (Str × Val)) : ∀ (as : List ArgSig) (acc : List PVal),
    fillArgs.go kw as (acc.map unpos) = Conv.map (List.map unpos) (fillArgs.go kw as acc)
  | [], acc => rfl
  | a :: as, acc => by
    simp only [fillArgs.go]
    split
    · next v _ =>
      have := fillGo_unpos kw as (acc ++ [.raw v])
      simpa [unpos] using this
    · split
      · split
        · next d _ =>
          have := fillGo_unpos kw as (acc ++ [.raw d])
          simpa [unpos] using this
        · rfl
      · exact fillGo_unpos kw as acc

theorem parseSeq_unpos : ∀ (sig : List ArgSig) (args : List PVal),
    parseSeq sig (args.map unpos) = Conv.map (fun r => (r.1, r.2.map unpos)) (parseSeq sig args)
  | [], args => rfl
  | a :: as, args => by
    simp only [parseSeq]
    split
    · rw [convertRest_unpos]
      cases convertRest args <;> rfl
    · split
      · exact parseSeq_unpos as args
      · cases args with
        | nil => rfl
        | cons x xs =>
          simp only [List.map_cons, convertOne_unpos]
          cases convertOne a.ty x with
          | ok v =>
            simp only [parseSeq_unpos as xs]
            cases parseSeq as xs with
            | ok r => rfl
            | fail => rfl
            | unmodelled => rfl
          | fail => rfl
          | unmodelled => rfl

theorem parseArgv_unpos (sig : List ArgSig) (given : List PVal) (kw : List (Str × Val)) :
    parseArgv sig (given.map unpos) kw = parseArgv sig given kw := by
  simp only [parseArgv, fillArgs, List.length_map, fillGo_unpos]
  cases fillArgs.go kw (List.drop given.length sig) given with
  | fail => rfl
  | unmodelled => rfl
  | ok args =>
    simp only [Conv.map, parseSeq_unpos]
    cases parseSeq sig args with
    | fail => rfl
    | unmodelled => rfl
    | ok r =>
      rcases r with ⟨vs, rest⟩
      cases rest <;> rfl

theorem parseArgv_congr (sig : List ArgSig) {g g' : List PVal} (kw : List (Str × Val))
    (h : g'.map unpos = g.map unpos) : parseArgv sig g' kw = parseArgv sig g kw := by
  rw [← parseArgv_unpos sig g', h, parseArgv_unpos]

theorem applyExtra_unpos (extra : Extra) {g g' : List PVal} (h : g'.map unpos = g.map unpos) :
    (applyExtra extra g').1.map unpos = (applyExtra extra g).1.map unpos ∧
      (applyExtra extra g').2 = (applyExtra extra g).2 := by
  cases extra with
  | none => exact ⟨h, rfl⟩
  | list vs =>
    simp only [applyExtra]
    split
    · exact ⟨h, rfl⟩
    · simp [h]
  | dict kv =>
    simp only [applyExtra]
    split
    · exact ⟨h, rfl⟩
    · exact ⟨h, rfl⟩

/-- the three statements at one fuel level: queries (actions, parameter lists) that are equal up to positions
have equal reference results — outcome *and* call log — as soon as the result of one of them is successful
(for parameter lists: converted; the converted parameters are then equal up to positions) -/
def PosAt (env : Env) (n : Nat) : Prop :=
  (∀ q q' raw extra input, q'.erase = q.erase → (refQ env n q raw extra input).1.good →
      refQ env n q' raw extra input = refQ env n q raw extra input) ∧
  (∀ st a a' raw parent extra, a'.erase = a.erase → (refAction env n st a raw parent extra).1.good →
      refAction env n st a' raw parent extra = refAction env n st a raw parent extra) ∧
  (∀ ps ps' raw parent g, eraseParams ps' = eraseParams ps → (refParams env n ps raw parent).1 = .inl g →
      ∃ g', refParams env n ps' raw parent = (.inl g', (refParams env n ps raw parent).2) ∧
        g'.map unpos = g.map unpos)

theorem encode_of_erase {q q' : Query} (h : q'.erase = q.erase) :
    q'.encode Gen.escapeTable = q.encode Gen.escapeTable := by
  rw [← Query.encode_erase _ q', h, Query.encode_erase]

theorem toList_of_erase {a a' : Action} (h : a'.erase = a.erase) :
    a'.toList Gen.escapeTable = a.toList Gen.escapeTable := by
  rw [← toList_erase a', h, toList_erase]

theorem refCall_pos (env : Env) (n : Nat) (st : EState) {a a' : Action} (raw : Str) (sig : CmdSig)
    {x x' : List PVal × List (Str × Val) × Bool} (ha : a'.erase = a.erase)
    (hx1 : x'.1.map unpos = x.1.map unpos) (hx2 : x'.2 = x.2)
    (hg : (refCall env n st a raw sig x).1.good) :
    refCall env n st a' raw sig x' = refCall env n st a raw sig x := by
  have hd : ∀ xv v vars c, doneSt st a' sig xv v vars c = doneSt st a sig xv v vars c := by
    intro xv v vars c; simp [doneSt, toList_of_erase ha]
  rcases x with ⟨g, kw, xv⟩
  rcases x' with ⟨g', kw', xv'⟩
  simp only [Prod.mk.injEq] at hx1 hx2
  obtain ⟨rfl, rfl⟩ := hx2
  unfold refCall at hg ⊢
  simp only [parseArgv_congr sig.args kw' hx1]
  split
  · rfl
  · next hpa => simp [hpa, Outcome.good, failSt] at hg
  · next args hpa =>
    simp only [hpa] at hg
    split
    · rfl
    · next hc => simp [hc, Outcome.good, failSt] at hg
    · simp only [hd]
    · simp only [hd]
    · simp only [hd]
    · next y qtext hc =>
      simp only [hc] at hg
      cases ho : (refText env n qtext).1 with
      | st sub =>
        rw [ho] at hg
        cases hs : sub.isError
        · simp [subOutcome, hs, hd]
        · simp [subOutcome, hs, Outcome.good, failSt] at hg
      | parseError => rw [ho] at hg; simp [subOutcome, Outcome.good, failSt] at hg
      | raised _ _ => rfl
      | unmodelled => rfl

/-- the segment a relative link contributes: the link has to be a single transform segment -/
def single? : Query → Option Seg
  | .mk [.transform h as f] _ => some (.transform h as f)
  | _ => none

theorem single?_erase : ∀ q : Query, (single? q.erase) = (single? q).map Seg.erase
  | .mk [] _ => rfl
  | .mk [.resource h _] _ => by cases h <;> rfl
  | .mk [.transform h _ _] _ => by cases h <;> rfl
  | .mk (_ :: _ :: _) _ => by simp [Query.erase, eraseSegs, single?]

theorem refLink_single (env : Env) (n : Nat) (parent : Str) : ∀ lq : Query,
    refLink env n lq parent =
      if lq.absolute || parent.isEmpty || parent == ['/'] then refQ env n lq (lq.encode Gen.escapeTable) .none none
      else match single? lq, parse env.dec parent with
        | some sg, some pq => refText env n ((Query.mk (pq.segments ++ [sg]) pq.absolute).encode Gen.escapeTable)
        | _, _ => (.unmodelled, [])
  | .mk [] _ | .mk [.resource _ _] _ | .mk [.transform _ _ _] _
  | .mk (.resource _ _ :: _ :: _) _ | .mk (.transform _ _ _ :: _ :: _) _ => by
    unfold refLink; split <;> cases parse env.dec parent <;> rfl

theorem refLink_pos {env : Env} {n : Nat} (ih : PosAt env n) {lq lq' : Query} (parent : Str)
    (h : lq'.erase = lq.erase) (hg : (refLink env n lq parent).1.good) :
    refLink env n lq' parent = refLink env n lq parent := by
  have habs : lq'.absolute = lq.absolute := by rw [← erase_absolute lq', h, erase_absolute]
  have hs : (single? lq').map Seg.erase = (single? lq).map Seg.erase := by rw [← single?_erase, ← single?_erase, h]
  rw [refLink_single] at hg ⊢
  rw [refLink_single, habs, encode_of_erase h]
  split
  · next hc => rw [if_pos hc] at hg; exact ih.1 _ _ _ _ _ h hg
  · cases parse env.dec parent with
    | none => cases single? lq <;> cases single? lq' <;> rfl
    | some pq =>
      cases hl : single? lq <;> cases hl' : single? lq' <;> rw [hl, hl'] at hs
      · cases hs
      · cases hs
      · next sg sg' =>
        have : (Query.mk (pq.segments ++ [sg']) pq.absolute).encode Gen.escapeTable =
            (Query.mk (pq.segments ++ [sg]) pq.absolute).encode Gen.escapeTable :=
          encode_of_erase (by simp only [erase_mk, List.map_append, List.map_cons, List.map_nil, Option.some.inj hs])
        dsimp only
        rw [this]

theorem refPre_pos {env : Env} {n : Nat} (ih : PosAt env n) {q q' : Query} (input : Option Val)
    (h : q'.erase = q.erase) (hg : (refPre env n q input).1.good) :
    refPre env n q' input = refPre env n q input := by
  have hp : q'.preQ.map Query.erase = q.preQ.map Query.erase := by rw [← preQ_erase, ← preQ_erase, h]
  unfold refPre at hg ⊢
  cases hq : q.preQ with
  | none =>
    rw [hq] at hp
    cases hq' : q'.preQ with
    | none => rfl
    | some p' => rw [hq'] at hp; simp at hp
  | some p =>
    rw [hq] at hp hg
    cases hq' : q'.preQ with
    | none => rw [hq'] at hp; simp at hp
    | some p' =>
      rw [hq'] at hp
      simp only [Option.map_some, Option.some.injEq] at hp
      simp only [encode_of_erase hp]
      exact ih.1 _ _ _ _ _ hp hg

theorem refPost_pos {env : Env} {n : Nat} (ih : PosAt env n) (st : EState) (parent : Str) {r r' : Option Seg}
    (key raw : Str) (extra : Extra) (h : r'.map Seg.erase = r.map Seg.erase)
    (hg : (refPost env n st parent r key raw extra).1.good) :
    refPost env n st parent r' key raw extra = refPost env n st parent r key raw extra := by
  match r, r', h with
  | none, none, _ => rfl
  | none, some _, h => simp at h
  | some _, none, h => simp at h
  | some (.resource _ _), some (.resource _ _), _ => rfl
  | some (.resource _ _), some (.transform _ _ _), h => simp [erase_transform, erase_resource] at h
  | some (.transform _ _ _), some (.resource _ _), h => simp [erase_transform, erase_resource] at h
  | some (.transform h1 as f), some (.transform h1' as' f'), h =>
    simp only [Option.map_some, erase_transform, Option.some.injEq, Seg.transform.injEq] at h
    obtain ⟨-, has, rfl⟩ := h
    match as, as', has with
    | [], [], _ => cases f' <;> rfl
    | [], _ :: _, hs => simp at hs
    | _ :: _, [], hs => simp at hs
    | [_], _ :: _ :: _, hs => simp at hs
    | _ :: _ :: _, [_], hs => simp at hs
    | _ :: _ :: _, _ :: _ :: _, _ => cases f' <;> rfl
    | [a], [a'], hs =>
      simp only [List.map_cons, List.map_nil, List.cons.injEq, and_true] at hs
      cases f' with
      | some f => rfl
      | none =>
        simp only [refPost] at hg ⊢
        have hga : (refAction env n st a raw parent extra).1.good := by
          cases ho : (refAction env n st a raw parent extra).1 with
          | st st2 => rw [ho] at hg; exact hg
          | _ => rw [ho] at hg; simp [Outcome.good] at hg
        rw [ih.2.1 _ _ _ _ _ _ hs hga]

theorem refAfter_pos {env : Env} {n : Nat} (ih : PosAt env n) (o : Outcome) (parent : Str) {r r' : Option Seg}
    (key raw : Str) (extra : Extra) (h : r'.map Seg.erase = r.map Seg.erase)
    (hg : (refAfter env n o parent r key raw extra).1.good) :
    refAfter env n o parent r' key raw extra = refAfter env n o parent r key raw extra := by
  unfold refAfter at hg ⊢
  split
  · rfl
  · rfl
  · rfl
  · split
    · rfl
    · next hne => simp only [hne] at hg; exact refPost_pos ih _ _ _ _ _ h hg

theorem refAfter_good {env : Env} {n : Nat} {o : Outcome} {parent : Str} {r : Option Seg} {key raw : Str}
    {extra : Extra} (hg : (refAfter env n o parent r key raw extra).1.good) : o.good := by
  unfold refAfter at hg
  split at hg
  · simp [Outcome.good] at hg
  · simp [Outcome.good] at hg
  · simp [Outcome.good] at hg
  · next st =>
    cases hs : st.isError
    · exact hs
    · simp [hs, Outcome.good] at hg

theorem pos_zero (env : Env) : PosAt env 0 := by
  refine ⟨?_, ?_, ?_⟩
  · intro q q' raw extra input _ hg; simp [refQ_zero, Outcome.good] at hg
  · intro st a a' raw parent extra _ hg; simp [refAction_zero, Outcome.good] at hg
  · intro ps ps' raw parent g _ hg; simp [refParams_zero] at hg

theorem pos_succ_Q {env : Env} {n : Nat} (ih : PosAt env n) (q q' : Query) (raw : Str) (extra : Extra)
    (input : Option Val) (h : q'.erase = q.erase) (hg : (refQ env (n+1) q raw extra input).1.good) :
    refQ env (n+1) q' raw extra input = refQ env (n+1) q raw extra input := by
  have hres : q'.isRes = q.isRes := by rw [← isRes_erase q', h, isRes_erase]
  have hpar : q'.preParent = q.preParent := by rw [← preParent_erase q', h, preParent_erase]
  have hrem : q'.preRem.map Seg.erase = q.preRem.map Seg.erase := by rw [← preRem_erase, ← preRem_erase, h]
  rw [refQ_succ'] at hg ⊢
  rw [refQ_succ', hres, hpar, encode_of_erase h]
  cases hr : q.isRes
  · simp only [hr, Bool.false_eq_true, if_false] at hg ⊢
    rw [refPre_pos ih input h (refAfter_good hg), refAfter_pos ih _ _ _ _ _ hrem hg]
  · simp

theorem pos_succ_A {env : Env} {n : Nat} (ih : PosAt env n) (st : EState) (a a' : Action) (raw parent : Str)
    (extra : Extra) (h : a'.erase = a.erase) (hg : (refAction env (n+1) st a raw parent extra).1.good) :
    refAction env (n+1) st a' raw parent extra = refAction env (n+1) st a raw parent extra := by
  have hname : a'.name = a.name := by rw [← erase_name a', h, erase_name]
  have hps : eraseParams a'.params = eraseParams a.params := by rw [← erase_params, ← erase_params, h]
  rw [refAction_succ] at hg ⊢
  rw [refAction_succ, hname]
  split
  · rfl
  · next nss hns =>
    simp only [hns] at hg
    split
    · rfl
    · next hl =>
      simp only [hl, Bool.false_eq_true, if_false] at hg
      split
      · next hr => simp [hr, Outcome.good, failSt] at hg
      · next sig hr =>
        simp only [hr] at hg
        rcases hp : refParams env n a.params raw parent with ⟨r, c1⟩
        rw [hp] at hg
        cases r with
        | inr o =>
          simp only at hg
          obtain ⟨e, rfl, _⟩ := Outcome.good_st hg
          exact absurd (by rw [hp]) (refParams_inr_not_st env n a.params raw parent e)
        | inl g =>
          obtain ⟨g', h1, h2⟩ := ih.2.2 a.params a'.params raw parent g hps (by rw [hp])
          rw [hp] at h1
          rw [h1]
          simp only at hg ⊢
          obtain ⟨hx1, hx2⟩ := applyExtra_unpos extra h2
          rw [refCall_pos env n st raw sig h hx1 hx2 hg]

theorem pos_succ_P {env : Env} {n : Nat} (ih : PosAt env n) (ps ps' : List Param) (raw parent : Str)
    (g : List PVal) (h : eraseParams ps' = eraseParams ps) (hg : (refParams env (n+1) ps raw parent).1 = .inl g) :
    ∃ g', refParams env (n+1) ps' raw parent = (.inl g', (refParams env (n+1) ps raw parent).2) ∧
      g'.map unpos = g.map unpos := by
  match ps, ps', h with
  | [], [], _ =>
    simp only [refParams_nil, Sum.inl.injEq] at hg ⊢
    exact ⟨[], rfl, by rw [← hg]⟩
  | [], _ :: _, h => simp [eraseParams] at h
  | _ :: _, [], h => simp [eraseParams] at h
  | .str _ _ :: _, .link _ _ :: _, h => simp [eraseParams, Param.erase] at h
  | .link _ _ :: _, .str _ _ :: _, h => simp [eraseParams, Param.erase] at h
  | .str t pos :: ps, .str t' pos' :: ps', h =>
    simp only [eraseParams, Param.erase, List.cons.injEq, Param.str.injEq, and_true] at h
    obtain ⟨rfl, hps⟩ := h
    rw [refParams_str] at hg ⊢
    rw [refParams_str]
    rcases hp : refParams env n ps raw parent with ⟨r, c⟩
    rw [hp] at hg
    cases r with
    | inr o => simp at hg
    | inl rest =>
      obtain ⟨rest', h1, h2⟩ := ih.2.2 ps ps' raw parent rest hps (by rw [hp])
      rw [hp] at h1
      rw [h1]
      simp only [Sum.inl.injEq] at hg
      subst hg
      exact ⟨.text t' pos' :: rest', rfl, by simp [unpos, h2]⟩
  | .link lq pos :: ps, .link lq' pos' :: ps', h =>
    simp only [eraseParams, Param.erase, List.cons.injEq, Param.link.injEq, and_true] at h
    obtain ⟨hlq, hps⟩ := h
    rw [refParams_link] at hg ⊢
    rw [refParams_link]
    rcases hl : refLink env n lq parent with ⟨o, c1⟩
    rw [hl] at hg
    cases o with
    | st v =>
      simp only at hg
      cases hv : v.isError
      · simp only [hv, Bool.false_eq_true, if_false] at hg
        rw [refLink_pos ih parent hlq (by rw [hl]; exact hv), hl]
        simp only [hv, Bool.false_eq_true, if_false]
        rcases hp : refParams env n ps raw parent with ⟨r, c⟩
        rw [hp] at hg
        cases r with
        | inr o => simp at hg
        | inl rest =>
          obtain ⟨rest', h1, h2⟩ := ih.2.2 ps ps' raw parent rest hps (by rw [hp])
          rw [hp] at h1
          rw [h1]
          simp only [Sum.inl.injEq] at hg
          subst hg
          exact ⟨.expanded v.data pos' :: rest', rfl, by simp [unpos, h2]⟩
      · simp [hv] at hg
    | _ => simp at hg

/-- **position-irrelevance**: at every fuel, results of the reference interpretation on queries / actions /
parameter lists equal up to source positions coincide as soon as one of them is successful -/
theorem pos_irrelevant (env : Env) : ∀ n, PosAt env n
  | 0 => pos_zero env
  | n + 1 => ⟨pos_succ_Q (pos_irrelevant env n), pos_succ_A (pos_irrelevant env n), pos_succ_P (pos_irrelevant env n)⟩

/-- the query-level statement, symmetric in the premise: equal up to positions and one of the two results
successful ⇒ same outcome and same call log -/
theorem refQ_erase_eq (env : Env) (n : Nat) {q q' : Query} (raw : Str) (extra : Extra) (input : Option Val)
    (h : q'.erase = q.erase)
    (hg : (refQ env n q' raw extra input).1.good ∨ (refQ env n q raw extra input).1.good) :
    refQ env n q' raw extra input = refQ env n q raw extra input := by
  rcases hg with hg | hg
  · exact ((pos_irrelevant env n).1 _ _ _ _ _ h.symm hg).symm
  · exact (pos_irrelevant env n).1 _ _ _ _ _ h hg

theorem refQ_erase_sim (env : Env) (n : Nat) {q q' : Query} (raw : Str) (extra : Extra) (input : Option Val)
    (h : q'.erase = q.erase)
    (hg : (refQ env n q' raw extra input).1.good ∨ (refQ env n q raw extra input).1.good) :
    Outcome.sim (refQ env n q' raw extra input).1 (refQ env n q raw extra input).1 ∧
      (refQ env n q' raw extra input).2 = (refQ env n q raw extra input).2 := by
  rw [refQ_erase_eq env n raw extra input h hg]
  exact ⟨Outcome.sim_refl _, rfl⟩

theorem refText_of_parse (env : Env) (n : Nat) (t : Str) (q : Query) (h : parse env.dec t = some q) :
    refText env (n + 1) t = refQ env n q t .none none := by
  rw [refText_succ, h]

/-- for a well-formed query, fuel by fuel: as soon as the reference interpretation of the canonical text or of
the query itself is successful, the two coincide — same outcome, same call log.  (The canonical text parses
back to the query up to positions: C02, `print_parse_main`; positions are irrelevant on successful runs.) -/
theorem canon_eq_of_wf (env : Env) (hd : DecOK env.dec) (q : Query) (hwf : wfTop Gen.escapeTable q = true)
    (fuel : Nat)
    (hg : (refText env (fuel + 1) (q.encode Gen.escapeTable)).1.good ∨
      (refQ env fuel q (q.encode Gen.escapeTable) .none none).1.good) :
    refText env (fuel + 1) (q.encode Gen.escapeTable) = refQ env fuel q (q.encode Gen.escapeTable) .none none := by
  obtain ⟨q', hparse, herase⟩ : ∃ q', parse env.dec (q.encode Gen.escapeTable) = some q' ∧ q'.erase = q.erase :=
    print_parse_main hd q hwf
  rw [refText_of_parse env fuel _ q' hparse] at hg ⊢
  exact refQ_erase_eq env fuel _ _ _ herase hg

/-- **every well-formed query means what its canonical text means**, at every fuel -/
theorem canonSame_of_wf (env : Env) (hd : DecOK env.dec) (q : Query) (hwf : wfTop Gen.escapeTable q = true) :
    CanonSame env q := by
  intro fuel hg
  rw [canon_eq_of_wf env hd q hwf fuel hg]
  exact Outcome.sim_refl _

/-- … in the form the evaluator theorems take as hypothesis (for `@` see `CanonOK.of_same`) -/
theorem canonOK_of_wf (env : Env) (hd : DecOK env.dec) (q : Query) (hwf : wfTop Gen.escapeTable q = true) :
    CanonOK env q :=
  CanonOK.of_same (@canonSame_of_wf env hd q hwf)

end Liquer.Canon
