/-
C16 — A crash during a file-backed write never leaves a corrupt readable entry.

Model: `LiquerModel/CrashSteps.lean` (the step lists of the code **as fixed by D6a, D6b, D17**).
Every theorem quantifies over every initial directory content, every crash point `n` (number of completed
steps), every `cut` (bytes of the next write that reached the disk) and payloads of any length; decoders
are only assumed to accept the complete payloads of the state being written.

Two crash semantics:
* write-through (`crashAt`): an `append` reaches the file at once; the crash cuts the next write;
* buffered (`crashBuf`, `LiquerModel/CrashBuf.lean`): the kill loses an arbitrary suffix of what was written to a file that is not
  closed yet.  All fixed writers close before they rename and leave open files alone, only temporaries are ever open and no reader
  looks at a temporary, so every `c16_*` theorem holds for the buffered crash as well (`c16_*_buffered`).
-/
import LiquerProofs.Lemmas.CrashFlat
import LiquerProofs.Lemmas.CrashTree
import LiquerProofs.Lemmas.CacheXor
import LiquerProofs.Lemmas.CrashBuf

namespace Liquer.C16
open Liquer Liquer.Crash

/-- **`FileCache.store`**: after a crash anywhere inside the operation a fresh cache reads, for the key being
written, the previous entry (`get` and `get_metadata` exactly as before), nothing, or the complete new entry -/
theorem c16_filecache_store (c : FileCfg) (d : CDir) (st : CState) (ok : CodecAt c st) (n cut : Nat) :
    let r := readC c (crashAt execC n cut (storeStepsC c d st) d) st.metadata.query
    r = readC c d st.metadata.query ∨ r = (none, none) ∨
    r = (some { metadata := { st.metadata with status := ready }, data := st.data }, some { st.metadata with status := ready }) := by
  intro r
  simp only [r]
  rcases Nat.lt_or_ge n (storeStepsC c d st).length with hn | hn
  · -- all steps but the last one, the `os.replace` that publishes the metadata file, are safe
    let rest := writeFileC (.data (c.h st.metadata.query) (c.ext st.metadata.typeId)) (c.enc (c.serD st.metadata.typeId st.data)) ++
      [.create tmpC, .append tmpC (c.enc (c.serM { st.metadata with status := ready })), .close tmpC]
    have hsplit : storeStepsC c d st = (removeStepsC c d st.metadata.query ++ rest) ++ [.rename tmpC (.state (c.h st.metadata.query))] := by
      simp [storeStepsC, storeMetaStepsC, writeFileC, rest]
    rw [hsplit, List.length_append] at hn
    rw [hsplit, crashAt_before_last _ _ _ rfl _ _ _ (Nat.le_of_lt_succ hn)]
    rcases remove_then_safe c d st.metadata.query rest (fun s hs => by
        rcases List.mem_append.1 hs with hs | hs
        · exact writeFileC_safe _ _ _ (by simp) s hs
        · simp only [List.mem_cons, List.not_mem_nil, or_false] at hs
          rcases hs with rfl | rfl | rfl <;> simp [stateSafe, tmpC]) n cut with h | h
    · exact Or.inl h
    · exact Or.inr (Or.inl h)
  · rw [crashAt_ge _ _ _ _ _ hn]
    exact Or.inr (Or.inr (store_final c d st ok))

/-- **`FileCache.store_metadata`**: the previous entry or the entry with the new metadata (the data file is never touched) -/
theorem c16_filecache_storeMeta (c : FileCfg) (d : CDir) (m : CMeta) (n cut : Nat) :
    let r := readC c (crashAt execC n cut (storeMetaStepsC c m) d) m.query
    r = readC c d m.query ∨ r = readC c (FileC.storeMeta c d m) m.query := by
  intro r
  simp only [r, storeMetaStepsC, writeFileC_eq]
  rcases Nat.lt_or_ge n 4 with hn | hn
  · refine Or.inl (writeVia_before_last execC (fun d' => readC c d' m.query = readC c d m.query) _ _ _ ?_ n cut d
      (Nat.le_of_lt_succ hn) rfl)
    intro s hs fs hI
    refine (readC_congr c _ _ _ ?_ fun e => ?_).trans hI <;> exact stepLawsC.untouched fs s _ (by simp [hs, tmpC])
  · rw [crashAt_ge _ _ _ _ _ hn]
    refine Or.inr (readC_congr c _ _ _ ?_ fun e => ?_) <;>
      simp [stepLawsC.writeVia_final, tmpC, FileC.storeMeta, AL.get_set]

theorem c16_filecache_remove (c : FileCfg) (d : CDir) (k : Str) (n cut : Nat) :
    let r := readC c (crashAt execC n cut (removeStepsC c d k) d) k
    r = readC c d k ∨ r = (none, none) := by
  have := remove_then_safe c d k [] (fun _ h => nomatch h) n cut
  rwa [List.append_nil] at this

/-- **two crashes in a row** (flat cache directory): a `remove` that died anywhere, then a `store` that died anywhere (its steps
computed from the directory the first crash left): the ORIGINAL entry, nothing, or the complete new entry -/
theorem c16_filecache_two_crashes (c : FileCfg) (d : CDir) (st : CState) (ok : CodecAt c st) (n1 cut1 n2 cut2 : Nat) :
    let d1 := crashAt execC n1 cut1 (removeStepsC c d st.metadata.query) d
    let r := readC c (crashAt execC n2 cut2 (storeStepsC c d1 st) d1) st.metadata.query
    r = readC c d st.metadata.query ∨ r = (none, none) ∨
    r = (some { metadata := { st.metadata with status := ready }, data := st.data }, some { st.metadata with status := ready }) := by
  intro d1 r
  have h1 := c16_filecache_remove c d st.metadata.query n1 cut1
  have h2 := c16_filecache_store c d1 st ok n2 cut2
  simp only at h1 h2
  rcases h2 with h2 | h2 | h2
  · rcases h1 with h1 | h1
    · exact Or.inl (h2.trans h1)
    · exact Or.inr (Or.inl (h2.trans h1))
  · exact Or.inr (Or.inl h2)
  · exact Or.inr (Or.inr h2)

/-- **other entries are unaffected** by a crash inside `store` (keys with another digest) -/
theorem c16_filecache_store_frame (c : FileCfg) (d : CDir) (st : CState) (k' : Str) (hne : c.h k' ≠ c.h st.metadata.query) (n cut : Nat) :
    readC c (crashAt execC n cut (storeStepsC c d st) d) k' = readC c d k' :=
  frame_of_names c _ _ k' hne (storeStepsC_names c d st) n cut d

theorem c16_filecache_storeMeta_frame (c : FileCfg) (d : CDir) (m : CMeta) (k' : Str) (hne : c.h k' ≠ c.h m.query) (n cut : Nat) :
    readC c (crashAt execC n cut (storeMetaStepsC c m) d) k' = readC c d k' :=
  frame_of_names c _ _ k' hne (writeFileC_names _ _ _ (by simp [ofKey])) n cut d

theorem c16_filecache_remove_frame (c : FileCfg) (d : CDir) (k k' : Str) (hne : c.h k' ≠ c.h k) (n cut : Nat) :
    readC c (crashAt execC n cut (removeStepsC c d k) d) k' = readC c d k' :=
  frame_of_names c _ _ k' hne (removeStepsC_names c d k) n cut d

/-- `XORFileCache`: the XOR codec with a non-empty key satisfies the codec law, so the theorems above apply (`CodecOK.at`) -/
theorem c16_xor (c : FileCfg) (code : Data) (hne : code ≠ []) (hM : ∀ m, c.deM (c.serM m) = some m)
    (hD : ∀ t v, c.deD t (c.serD t v) = some v) :
    CodecOK { c with enc := xorEnc code, dec := fun b => some (xorEnc code b) } :=
  ⟨fun b => by simp [xor_involutive code b hne], hM, hD⟩

/-- `FernetFileCache`: Fernet enters only through `decrypt (encrypt b) = b` -/
theorem c16_fernet (c : FileCfg) (encrypt : Data → Data) (decrypt : Data → Option Data) (hF : ∀ b, decrypt (encrypt b) = some b)
    (hM : ∀ m, c.deM (c.serM m) = some m) (hD : ∀ t v, c.deD t (c.serD t v) = some v) :
    CodecOK { c with enc := encrypt, dec := decrypt } :=
  ⟨hF, hM, hD⟩

/-- **`FileStore.store`**: `get_bytes` yields the previous bytes or the complete new bytes, the recorded metadata
is the previous one, none, or the complete new one — and new bytes are never paired with the previous
metadata nor new metadata with the previous bytes -/
theorem c16_filestore_store (t : Tree) (k : Key) (b mb : Data) (n cut : Nat) :
    let t' := crashAt execT n cut (storeStepsT t k b mb) t
    (readBytesT t' k = readBytesT t k ∧ readMetaT t' k = readMetaT t k) ∨
    (readBytesT t' k = readBytesT t k ∧ readMetaT t' k = none) ∨
    (readBytesT t' k = some b ∧ readMetaT t' k = none) ∨
    (readBytesT t' k = some b ∧ readMetaT t' k = some mb) := by
  intro t'
  simp only [readBytesT_eq, readMetaT_eq]
  rcases store_pair t k b mb n cut with h | h | h | h <;> rw [show pairT t' k = _ from h]
  · exact Or.inl ⟨rfl, rfl⟩
  · exact Or.inr (Or.inl ⟨bytesOf_fst .., metaOf_none _⟩)
  · exact Or.inr (Or.inr (Or.inl ⟨rfl, rfl⟩))
  · exact Or.inr (Or.inr (Or.inr ⟨rfl, rfl⟩))

/-- **`FileStore.store_metadata`**: the bytes are untouched; the metadata is the previous or the complete new one
(or none, when the key is a directory) -/
theorem c16_filestore_storeMeta (t : Tree) (k : Key) (mb : Data) (n cut : Nat) :
    let t' := crashAt execT n cut (storeMetaStepsT t k mb) t
    readBytesT t' k = readBytesT t k ∧
    (readMetaT t' k = readMetaT t k ∨ readMetaT t' k = some mb ∨ readMetaT t' k = none) := by
  intro t'
  simp only [readBytesT_eq, readMetaT_eq]
  rcases storeMeta_pair t k mb n cut with h | h <;> rw [show pairT t' k = _ from h]
  · exact ⟨rfl, Or.inl rfl⟩
  · exact ⟨bytesOf_fst .., Or.inr (metaOf_file _ mb)⟩

/-- **`FileStore.remove`**: bytes and metadata are each the previous ones or gone — or, when the node was a DIRECTORY beside a
metadata file, the metadata `get_metadata` did not report before (third case) -/
theorem c16_filestore_remove (t : Tree) (k : Key) (n cut : Nat) :
    let t' := crashAt execT n cut (removeStepsT t k) t
    (readBytesT t' k = readBytesT t k ∨ readBytesT t' k = none) ∧
    (readMetaT t' k = readMetaT t k ∨ readMetaT t' k = none ∨ readMetaT t' k = metaOf (none, (pairT t k).2)) := by
  intro t'
  simp only [readBytesT_eq, readMetaT_eq]
  rcases remove_pair t k n cut with h | h | h <;> simp only [t'] at h ⊢ <;> rw [h]
  · exact ⟨Or.inl rfl, Or.inl rfl⟩
  · exact ⟨Or.inr rfl, Or.inr (Or.inr rfl)⟩
  · exact ⟨Or.inr rfl, Or.inr (Or.inl rfl)⟩

/-- **other entries are unaffected**: any key other than `k` and the directories above `k` -/
theorem c16_filestore_frame (t : Tree) (k k' : Key) (b mb : Data) (hne : k' ≠ k) (hanc : k' ∉ ancestors k) (n cut : Nat) :
    (readBytesT (crashAt execT n cut (storeStepsT t k b mb) t) k' = readBytesT t k' ∧
      readMetaT (crashAt execT n cut (storeStepsT t k b mb) t) k' = readMetaT t k') ∧
    (readBytesT (crashAt execT n cut (storeMetaStepsT t k mb) t) k' = readBytesT t k' ∧
      readMetaT (crashAt execT n cut (storeMetaStepsT t k mb) t) k' = readMetaT t k') ∧
    (readBytesT (crashAt execT n cut (removeStepsT t k) t) k' = readBytesT t k' ∧
      readMetaT (crashAt execT n cut (removeStepsT t k) t) k' = readMetaT t k') := by
  simp only [readBytesT_eq, readMetaT_eq,
    frame_pair _ k k' hne hanc (storeStepsT_names t k b mb) n cut t,
    frame_pair _ k k' hne hanc (storeMetaStepsT_names t k mb) n cut t,
    frame_pair _ k k' hne hanc (removeStepsT_names t k) n cut t, and_self]

/-! ## the store-backed cache on a directory store (`p = to_path(key)`) -/

/-- **`StoreCache.store` on a `FileStore`**: the previous state, a miss, or the complete new state -/
theorem c16_storecache_on_filestore_store (deM : Data → Option CMeta) (deD : Str → Data → Option (Option Str))
    (t : Tree) (p : Key) (b mb : Data) (m : CMeta) (v : Option Str)
    (hm : deM mb = some m) (hr : m.status = ready) (hv : deD m.typeId b = some v) (n cut : Nat) :
    let r := readSC deM deD (crashAt execT n cut (storeStepsT t p b mb) t) p
    r = readSC deM deD t p ∨ r = none ∨ r = some { metadata := m, data := v } := by
  intro r
  simp only [r, readSC_eq]
  rcases store_pair t p b mb n cut with h | h | h | h <;> rw [h]
  · exact Or.inl rfl
  · right; left
    cases h1 : (pairT t p).1 with
    | none => rfl
    | some x => cases x <;> rfl
  · right; left; rfl
  · right; right; simp [scOf, hm, hr, hv]

/-- **`StoreCache.store_metadata`**: the previous state, or what the complete operation yields -/
theorem c16_storecache_on_filestore_storeMeta (deM : Data → Option CMeta) (deD : Str → Data → Option (Option Str))
    (t : Tree) (p : Key) (mb : Data) (n cut : Nat) :
    let r := readSC deM deD (crashAt execT n cut (storeMetaStepsT t p mb) t) p
    r = readSC deM deD t p ∨ r = scOf deM deD ((pairT t p).1, some (.file mb)) := by
  intro r
  simp only [r, readSC_eq]
  rcases storeMeta_pair t p mb n cut with h | h <;> rw [h]
  · exact Or.inl rfl
  · exact Or.inr rfl

theorem c16_storecache_on_filestore_remove (deM : Data → Option CMeta) (deD : Str → Data → Option (Option Str))
    (t : Tree) (p : Key) (n cut : Nat) :
    let r := readSC deM deD (crashAt execT n cut (removeStepsT t p) t) p
    r = readSC deM deD t p ∨ r = none := by
  intro r
  simp only [r, readSC_eq]
  rcases remove_pair t p n cut with h | h | h <;> rw [h]
  · exact Or.inl rfl
  · exact Or.inr rfl
  · exact Or.inr rfl

/-- **two crashes in a row**: a `remove` that died at any point (`n1`, `cut1`) followed by a `store` that died at any point
(`n2`, `cut2`) — the store computes its steps from the tree the first crash left.  A fresh reader gets the ORIGINAL entry, a miss, or
the complete new state; never new data beside the old metadata.  (The theorems above hold from ANY tree, so crashes compose; this is
the scenario `store-after-crashed-remove` of the harness and the seeded change `C16-10`.) -/
theorem c16_storecache_on_filestore_two_crashes (deM : Data → Option CMeta) (deD : Str → Data → Option (Option Str))
    (t : Tree) (p : Key) (b mb : Data) (m : CMeta) (v : Option Str)
    (hm : deM mb = some m) (hr : m.status = ready) (hv : deD m.typeId b = some v) (n1 cut1 n2 cut2 : Nat) :
    let t1 := crashAt execT n1 cut1 (removeStepsT t p) t
    let r := readSC deM deD (crashAt execT n2 cut2 (storeStepsT t1 p b mb) t1) p
    r = readSC deM deD t p ∨ r = none ∨ r = some { metadata := m, data := v } := by
  intro t1 r
  have h1 := c16_storecache_on_filestore_remove deM deD t p n1 cut1
  have h2 := c16_storecache_on_filestore_store deM deD t1 p b mb m v hm hr hv n2 cut2
  simp only at h1 h2
  rcases h2 with h2 | h2 | h2
  · rcases h1 with h1 | h1
    · exact Or.inl (h2.trans h1)
    · exact Or.inr (Or.inl (h2.trans h1))
  · exact Or.inr (Or.inl h2)
  · exact Or.inr (Or.inr h2)

theorem c16_storecache_on_filestore_frame (deM : Data → Option CMeta) (deD : Str → Data → Option (Option Str))
    (t : Tree) (p p' : Key) (b mb : Data) (hne : p' ≠ p) (hanc : p' ∉ ancestors p) (n cut : Nat) :
    readSC deM deD (crashAt execT n cut (storeStepsT t p b mb) t) p' = readSC deM deD t p' ∧
    readSC deM deD (crashAt execT n cut (storeMetaStepsT t p mb) t) p' = readSC deM deD t p' ∧
    readSC deM deD (crashAt execT n cut (removeStepsT t p) t) p' = readSC deM deD t p' := by
  simp only [readSC_eq,
    frame_pair _ p p' hne hanc (storeStepsT_names t p b mb) n cut t,
    frame_pair _ p p' hne hanc (storeMetaStepsT_names t p mb) n cut t,
    frame_pair _ p p' hne hanc (removeStepsT_names t p) n cut t, and_self]

/-- a configuration whose decoders accept the complete payloads of one state (and *every* prefix of them: nothing is rejected) -/
def demoCfg (st : CState) : FileCfg :=
  { h := id, ext := id, enc := id, dec := some, serM := fun _ => [1, 2, 3], deM := fun _ => some { st.metadata with status := ready },
    serD := fun _ _ => [4, 5], deD := fun _ _ => some st.data }

example (st : CState) : CodecAt (demoCfg st) st := ⟨rfl, rfl⟩

def demoState : CState := { metadata := { query := ['k'], status := [], typeId := ['t'] }, data := some ['v'] }
def demoOld : CDir := [(.state ['k'], [9]), (.data ['k'] ['t'], [8])]

-- overwrite: the old entry is unpublished first; in the middle of the data write the key is a miss although the
-- decoder of `demoCfg` accepts any prefix
example : storeStepsC (demoCfg demoState) demoOld demoState =
    [.unlink (.state ['k']), .unlink (.data ['k'] ['t']), .create tmpC, .append tmpC [4, 5], .close tmpC, .rename tmpC (.data ['k'] ['t']),
     .create tmpC, .append tmpC [1, 2, 3], .close tmpC, .rename tmpC (.state ['k'])] := by decide +kernel
example : (readC (demoCfg demoState) (crashAt execC 3 1 (storeStepsC (demoCfg demoState) demoOld demoState) demoOld) ['k']).1 = none := by decide +kernel
example : (readC (demoCfg demoState) (crashAt execC 0 0 (storeStepsC (demoCfg demoState) demoOld demoState) demoOld) ['k']).1 ≠ none := by decide +kernel
example : (readC (demoCfg demoState) (crashAt execC 10 0 (storeStepsC (demoCfg demoState) demoOld demoState) demoOld) ['k']).1 =
    some { metadata := { demoState.metadata with status := ready }, data := some ['v'] } := by decide +kernel

/-- the protocol of the code *before* the fix: metadata published first, data file truncated in place -/
def unfixedStoreSteps (c : FileCfg) (st : CState) : List (Step FName) :=
  let m := { st.metadata with status := ready }
  [.create (.state (c.h m.query)), .append (.state (c.h m.query)) (c.enc (c.serM m)), .close (.state (c.h m.query)),
   .create (.data (c.h m.query) (c.ext m.typeId)), .append (.data (c.h m.query) (c.ext m.typeId)) (c.enc (c.serD m.typeId st.data)),
   .close (.data (c.h m.query) (c.ext m.typeId))]

def prefixCfg : FileCfg :=
  { h := id, ext := id, enc := id, dec := some, serM := fun _ => [1], deM := fun b => if b = [1] then some { demoState.metadata with status := ready } else none,
    serD := fun _ _ => [4, 5], deD := fun _ b => some (some (b.map (fun x => Char.ofNat x.toNat))) }

-- it does serve a truncated value: the statement of `c16_filecache_store` is false for it
example : (readC prefixCfg (crashAt execC 4 1 (unfixedStoreSteps prefixCfg demoState) []) ['k']).1 =
    some { metadata := { demoState.metadata with status := ready }, data := some [Char.ofNat 4] } := by decide +kernel

example : storeStepsT [] [['d'], ['f']] [7] [6] =
    [.mkdir (.node [['d']]), .mkdir (.metaDir [['d']]), .create (.tmp [['d']]), .append (.tmp [['d']]) [7], .close (.tmp [['d']]),
     .rename (.tmp [['d']]) (.node [['d'], ['f']]), .create (.tmp [['d']]), .append (.tmp [['d']]) [6], .close (.tmp [['d']]),
     .rename (.tmp [['d']]) (.mfile [['d'], ['f']])] := by decide +kernel
example : ([['a']] : Key) ≠ [['d'], ['f']] ∧ ([['a']] : Key) ∉ ancestors [['d'], ['f']] := by decide +kernel

/-! ## buffered writes (`LiquerModel/CrashBuf.lean`) -/

theorem buffered_reads_as_writethrough {ν φ β : Type} [DecidableEq ν] {exec : φ → Step ν → φ} {get : φ → ν → β}
    (L : FsLaws exec get) (steps : List (Step ν)) (hc : closedBeforeRename steps = true) (hu : openUndisturbed steps = true)
    (n : Nat) (keep : ν → Nat) (fs : φ) (p : ν) (hp : p ∉ openAt steps n) :
    get (crashBuf exec n keep steps fs) p = get (crashAt exec n 0 steps fs) p :=
  Crash.buffered_reads_as_writethrough L steps hc hu n keep fs p hp

theorem buffered_laws : FsLaws execC (fun (d : CDir) (p : FName) => AL.get d p) ∧ FsLaws execT (fun (t : Tree) (p : SName) => AL.get t p) :=
  ⟨lawsC, lawsT⟩

/-- **every fixed writer closes its temporary file before it renames it** -/
theorem protocols_close_before_rename :
    (∀ target b, closedBeforeRename (writeFileC target b) = true) ∧
    (∀ c d st, closedBeforeRename (storeStepsC c d st) = true) ∧
    (∀ c m, closedBeforeRename (storeMetaStepsC c m) = true) ∧
    (∀ c d k, closedBeforeRename (removeStepsC c d k) = true) ∧
    (∀ t k b mb, closedBeforeRename (storeStepsT t k b mb) = true) ∧
    (∀ t k mb, closedBeforeRename (storeMetaStepsT t k mb) = true) ∧
    (∀ t k, closedBeforeRename (removeStepsT t k) = true) :=
  ⟨fun _ _ => (tidy_writeFileC _ _).cbr, fun _ _ _ => (tidy_storeStepsC _ _ _).cbr, fun _ _ => (tidy_storeMetaStepsC _ _).cbr,
   fun _ _ _ => (tidy_removeStepsC _ _ _).cbr, fun _ _ _ _ => (tidy_storeStepsT _ _ _ _).cbr,
   fun _ _ _ => (tidy_storeMetaStepsT _ _ _).cbr, fun _ _ => (tidy_removeStepsT _ _).cbr⟩

/-- ... and while a file is open, nothing but its own writes and its `close` mentions it -/
theorem protocols_open_undisturbed :
    (∀ target b, openUndisturbed (writeFileC target b) = true) ∧
    (∀ c d st, openUndisturbed (storeStepsC c d st) = true) ∧
    (∀ c m, openUndisturbed (storeMetaStepsC c m) = true) ∧
    (∀ c d k, openUndisturbed (removeStepsC c d k) = true) ∧
    (∀ t k b mb, openUndisturbed (storeStepsT t k b mb) = true) ∧
    (∀ t k mb, openUndisturbed (storeMetaStepsT t k mb) = true) ∧
    (∀ t k, openUndisturbed (removeStepsT t k) = true) :=
  ⟨fun _ _ => (tidy_writeFileC _ _).und, fun _ _ _ => (tidy_storeStepsC _ _ _).und, fun _ _ => (tidy_storeMetaStepsC _ _).und,
   fun _ _ _ => (tidy_removeStepsC _ _ _).und, fun _ _ _ _ => (tidy_storeStepsT _ _ _ _).und,
   fun _ _ _ => (tidy_storeMetaStepsT _ _ _).und, fun _ _ => (tidy_removeStepsT _ _).und⟩

/-- **temporaries are the only files ever open**, at every point of every fixed writer (and the readers `readC`,
`readBytesT`, `readMetaT`, `readSC` look at `state_*` / `data_*`, at `node` / `mfile` names only) -/
theorem protocols_open_only_temporaries (n : Nat) :
    (∀ c d st p, p ∈ openAt (storeStepsC c d st) n → isTmpC p) ∧
    (∀ c m p, p ∈ openAt (storeMetaStepsC c m) n → isTmpC p) ∧
    (∀ c d k p, p ∈ openAt (removeStepsC c d k) n → isTmpC p) ∧
    (∀ t k b mb p, p ∈ openAt (storeStepsT t k b mb) n → isTmpT p) ∧
    (∀ t k mb p, p ∈ openAt (storeMetaStepsT t k mb) n → isTmpT p) ∧
    (∀ t k p, p ∈ openAt (removeStepsT t k) n → isTmpT p) :=
  ⟨fun c d st p h => (tidy_storeStepsC c d st).creates p (openAt_creates _ (tidy_storeStepsC c d st).cbr n p h),
   fun c m p h => (tidy_storeMetaStepsC c m).creates p (openAt_creates _ (tidy_storeMetaStepsC c m).cbr n p h),
   fun c d k p h => (tidy_removeStepsC c d k).creates p (openAt_creates _ (tidy_removeStepsC c d k).cbr n p h),
   fun t k b mb p h => (tidy_storeStepsT t k b mb).creates p (openAt_creates _ (tidy_storeStepsT t k b mb).cbr n p h),
   fun t k mb p h => (tidy_storeMetaStepsT t k mb).creates p (openAt_creates _ (tidy_storeMetaStepsT t k mb).cbr n p h),
   fun t k p h => (tidy_removeStepsT t k).creates p (openAt_creates _ (tidy_removeStepsT t k).cbr n p h)⟩

theorem c16_filecache_store_buffered (c : FileCfg) (d : CDir) (st : CState) (ok : CodecAt c st) (n : Nat) (keep : FName → Nat) :
    let r := readC c (crashBuf execC n keep (storeStepsC c d st) d) st.metadata.query
    r = readC c d st.metadata.query ∨ r = (none, none) ∨
    r = (some { metadata := { st.metadata with status := ready }, data := st.data }, some { st.metadata with status := ready }) := by
  intro r
  simp only [r, readC_buffered c _ (tidy_storeStepsC c d st)]
  exact c16_filecache_store c d st ok n 0

theorem c16_filecache_storeMeta_buffered (c : FileCfg) (d : CDir) (m : CMeta) (n : Nat) (keep : FName → Nat) :
    let r := readC c (crashBuf execC n keep (storeMetaStepsC c m) d) m.query
    r = readC c d m.query ∨ r = readC c (FileC.storeMeta c d m) m.query := by
  intro r
  simp only [r, readC_buffered c _ (tidy_storeMetaStepsC c m)]
  exact c16_filecache_storeMeta c d m n 0

theorem c16_filecache_remove_buffered (c : FileCfg) (d : CDir) (k : Str) (n : Nat) (keep : FName → Nat) :
    let r := readC c (crashBuf execC n keep (removeStepsC c d k) d) k
    r = readC c d k ∨ r = (none, none) := by
  intro r
  simp only [r, readC_buffered c _ (tidy_removeStepsC c d k)]
  exact c16_filecache_remove c d k n 0

theorem c16_filecache_frame_buffered (c : FileCfg) (d : CDir) (n : Nat) (keep : FName → Nat) :
    (∀ st k', c.h k' ≠ c.h st.metadata.query → readC c (crashBuf execC n keep (storeStepsC c d st) d) k' = readC c d k') ∧
    (∀ m k', c.h k' ≠ c.h m.query → readC c (crashBuf execC n keep (storeMetaStepsC c m) d) k' = readC c d k') ∧
    (∀ k k', c.h k' ≠ c.h k → readC c (crashBuf execC n keep (removeStepsC c d k) d) k' = readC c d k') :=
  ⟨fun st k' hne => by rw [readC_buffered c _ (tidy_storeStepsC c d st)]; exact c16_filecache_store_frame c d st k' hne n 0,
   fun m k' hne => by rw [readC_buffered c _ (tidy_storeMetaStepsC c m)]; exact c16_filecache_storeMeta_frame c d m k' hne n 0,
   fun k k' hne => by rw [readC_buffered c _ (tidy_removeStepsC c d k)]; exact c16_filecache_remove_frame c d k k' hne n 0⟩

theorem c16_filestore_store_buffered (t : Tree) (k : Key) (b mb : Data) (n : Nat) (keep : SName → Nat) :
    let t' := crashBuf execT n keep (storeStepsT t k b mb) t
    (readBytesT t' k = readBytesT t k ∧ readMetaT t' k = readMetaT t k) ∨
    (readBytesT t' k = readBytesT t k ∧ readMetaT t' k = none) ∨
    (readBytesT t' k = some b ∧ readMetaT t' k = none) ∨
    (readBytesT t' k = some b ∧ readMetaT t' k = some mb) := by
  intro t'
  simp only [t', readBytesT_buffered _ (tidy_storeStepsT t k b mb), readMetaT_buffered _ (tidy_storeStepsT t k b mb)]
  exact c16_filestore_store t k b mb n 0

theorem c16_filestore_storeMeta_buffered (t : Tree) (k : Key) (mb : Data) (n : Nat) (keep : SName → Nat) :
    let t' := crashBuf execT n keep (storeMetaStepsT t k mb) t
    readBytesT t' k = readBytesT t k ∧
    (readMetaT t' k = readMetaT t k ∨ readMetaT t' k = some mb ∨ readMetaT t' k = none) := by
  intro t'
  simp only [t', readBytesT_buffered _ (tidy_storeMetaStepsT t k mb), readMetaT_buffered _ (tidy_storeMetaStepsT t k mb)]
  exact c16_filestore_storeMeta t k mb n 0

theorem c16_filestore_remove_buffered (t : Tree) (k : Key) (n : Nat) (keep : SName → Nat) :
    let t' := crashBuf execT n keep (removeStepsT t k) t
    (readBytesT t' k = readBytesT t k ∨ readBytesT t' k = none) ∧
    (readMetaT t' k = readMetaT t k ∨ readMetaT t' k = none ∨ readMetaT t' k = metaOf (none, (pairT t k).2)) := by
  intro t'
  simp only [t', readBytesT_buffered _ (tidy_removeStepsT t k), readMetaT_buffered _ (tidy_removeStepsT t k)]
  exact c16_filestore_remove t k n 0

theorem c16_filestore_frame_buffered (t : Tree) (k k' : Key) (b mb : Data) (hne : k' ≠ k) (hanc : k' ∉ ancestors k)
    (n : Nat) (keep : SName → Nat) :
    (readBytesT (crashBuf execT n keep (storeStepsT t k b mb) t) k' = readBytesT t k' ∧
      readMetaT (crashBuf execT n keep (storeStepsT t k b mb) t) k' = readMetaT t k') ∧
    (readBytesT (crashBuf execT n keep (storeMetaStepsT t k mb) t) k' = readBytesT t k' ∧
      readMetaT (crashBuf execT n keep (storeMetaStepsT t k mb) t) k' = readMetaT t k') ∧
    (readBytesT (crashBuf execT n keep (removeStepsT t k) t) k' = readBytesT t k' ∧
      readMetaT (crashBuf execT n keep (removeStepsT t k) t) k' = readMetaT t k') := by
  simp only [readBytesT_buffered _ (tidy_storeStepsT t k b mb), readMetaT_buffered _ (tidy_storeStepsT t k b mb),
    readBytesT_buffered _ (tidy_storeMetaStepsT t k mb), readMetaT_buffered _ (tidy_storeMetaStepsT t k mb),
    readBytesT_buffered _ (tidy_removeStepsT t k), readMetaT_buffered _ (tidy_removeStepsT t k)]
  exact c16_filestore_frame t k k' b mb hne hanc n 0

theorem c16_storecache_on_filestore_store_buffered (deM : Data → Option CMeta) (deD : Str → Data → Option (Option Str))
    (t : Tree) (p : Key) (b mb : Data) (m : CMeta) (v : Option Str)
    (hm : deM mb = some m) (hr : m.status = ready) (hv : deD m.typeId b = some v) (n : Nat) (keep : SName → Nat) :
    let r := readSC deM deD (crashBuf execT n keep (storeStepsT t p b mb) t) p
    r = readSC deM deD t p ∨ r = none ∨ r = some { metadata := m, data := v } := by
  intro r
  simp only [r, readSC_buffered deM deD _ (tidy_storeStepsT t p b mb)]
  exact c16_storecache_on_filestore_store deM deD t p b mb m v hm hr hv n 0

theorem c16_storecache_on_filestore_storeMeta_buffered (deM : Data → Option CMeta) (deD : Str → Data → Option (Option Str))
    (t : Tree) (p : Key) (mb : Data) (n : Nat) (keep : SName → Nat) :
    let r := readSC deM deD (crashBuf execT n keep (storeMetaStepsT t p mb) t) p
    r = readSC deM deD t p ∨ r = scOf deM deD ((pairT t p).1, some (.file mb)) := by
  intro r
  simp only [r, readSC_buffered deM deD _ (tidy_storeMetaStepsT t p mb)]
  exact c16_storecache_on_filestore_storeMeta deM deD t p mb n 0

theorem c16_storecache_on_filestore_remove_buffered (deM : Data → Option CMeta) (deD : Str → Data → Option (Option Str))
    (t : Tree) (p : Key) (n : Nat) (keep : SName → Nat) :
    let r := readSC deM deD (crashBuf execT n keep (removeStepsT t p) t) p
    r = readSC deM deD t p ∨ r = none := by
  intro r
  simp only [r, readSC_buffered deM deD _ (tidy_removeStepsT t p)]
  exact c16_storecache_on_filestore_remove deM deD t p n 0

theorem c16_storecache_on_filestore_frame_buffered (deM : Data → Option CMeta) (deD : Str → Data → Option (Option Str))
    (t : Tree) (p p' : Key) (b mb : Data) (hne : p' ≠ p) (hanc : p' ∉ ancestors p) (n : Nat) (keep : SName → Nat) :
    readSC deM deD (crashBuf execT n keep (storeStepsT t p b mb) t) p' = readSC deM deD t p' ∧
    readSC deM deD (crashBuf execT n keep (storeMetaStepsT t p mb) t) p' = readSC deM deD t p' ∧
    readSC deM deD (crashBuf execT n keep (removeStepsT t p) t) p' = readSC deM deD t p' := by
  simp only [readSC_buffered deM deD _ (tidy_storeStepsT t p b mb), readSC_buffered deM deD _ (tidy_storeMetaStepsT t p mb),
    readSC_buffered deM deD _ (tidy_removeStepsT t p)]
  exact c16_storecache_on_filestore_frame deM deD t p p' b mb hne hanc n 0

/-- `with open(tmp, "wb") as f: f.write(b); os.replace(tmp, target)` — the file is closed (flushed) under its final name -/
def renameInsideWith {ν : Type} (tmp target : ν) (b : Data) : List (Step ν) :=
  [.create tmp, .append tmp b, .rename tmp target, .close target]

def demoTree : Tree := [(.node [['f']], .file [1])]

/-- **negative witness**: the step list fails the check; every *completed* run and every *write-through* crash of it is
indistinguishable from the fixed writer, but the kill between the rename and the close, with the buffer lost, leaves
an **empty** file under the final name — `get_bytes` returns `b""`, neither the previous nor the new value -/
theorem c16_unflushed_rename_publishes_empty :
    closedBeforeRename (renameInsideWith (SName.tmp []) (.node [['f']]) [7, 8]) = false ∧
    readBytesT demoTree [['f']] = some [1] ∧
    readBytesT (crashBuf execT 3 (fun _ => 0) (renameInsideWith (.tmp []) (.node [['f']]) [7, 8]) demoTree) [['f']] = some [] ∧
    readBytesT (crashBuf execT 3 (fun _ => 1) (renameInsideWith (.tmp []) (.node [['f']]) [7, 8]) demoTree) [['f']] = some [7] ∧
    readBytesT (crashBuf execT 4 (fun _ => 0) (renameInsideWith (.tmp []) (.node [['f']]) [7, 8]) demoTree) [['f']] = some [7, 8] ∧
    (∀ cut, readBytesT (crashAt execT 3 cut (renameInsideWith (.tmp []) (.node [['f']]) [7, 8]) demoTree) [['f']] = some [7, 8]) := by
  refine ⟨by decide +kernel, by decide +kernel, by decide +kernel, by decide +kernel, by decide +kernel, fun cut => ?_⟩
  show readBytesT (crashAt execT 3 0 (renameInsideWith (.tmp []) (.node [['f']]) [7, 8]) demoTree) [['f']] = some [7, 8]
  decide +kernel

-- the same on the flat cache directory
example : closedBeforeRename (renameInsideWith tmpC (.state ['k']) [1, 2, 3]) = false := by decide +kernel
example : AL.get (crashBuf execC 3 (fun _ => 0) (renameInsideWith tmpC (.state ['k']) [1, 2, 3]) demoOld) (.state ['k']) = some [] := by decide +kernel

-- the fixed writer at the same points: the previous value until the rename, the new value after it
example : readBytesT (crashBuf execT 3 (fun _ => 0) (writeFileT [] (.node [['f']]) [7, 8]) demoTree) [['f']] = some [1] := by decide +kernel
example : readBytesT (crashBuf execT 4 (fun _ => 0) (writeFileT [] (.node [['f']]) [7, 8]) demoTree) [['f']] = some [7, 8] := by decide +kernel

-- non-vacuity of the hypotheses of `buffered_reads_as_writethrough`: a concrete protocol passes both checks, a file is
-- open in the middle of it, the names the reader looks at are not open
example : closedBeforeRename (storeStepsC (demoCfg demoState) demoOld demoState) = true ∧
    openUndisturbed (storeStepsC (demoCfg demoState) demoOld demoState) = true := by decide +kernel
example : openAt (storeStepsC (demoCfg demoState) demoOld demoState) 8 = [tmpC] := by decide +kernel
example : FName.state ['k'] ∉ openAt (storeStepsC (demoCfg demoState) demoOld demoState) 8 := by decide +kernel
-- ... and the hypothesis `p ∉ openAt steps n` is needed: at the open temporary file the two semantics differ
example : AL.get (crashBuf execC 8 (fun _ => 1) (storeStepsC (demoCfg demoState) demoOld demoState) demoOld) tmpC = some [1] := by decide +kernel
example : AL.get (crashAt execC 8 0 (storeStepsC (demoCfg demoState) demoOld demoState) demoOld) tmpC = some [1, 2, 3] := by decide +kernel
example : closedBeforeRename (storeStepsT [] [['d'], ['f']] [7] [6]) = true ∧ openUndisturbed (storeStepsT [] [['d'], ['f']] [7] [6]) = true := by decide +kernel
example : openAt (storeStepsT [] [['d'], ['f']] [7] [6]) 4 = [.tmp [['d']]] := by decide +kernel

end Liquer.C16

-- OBLIGATIONS: Liquer.C16.c16_filecache_store Liquer.C16.c16_filecache_storeMeta Liquer.C16.c16_filecache_remove Liquer.C16.c16_filecache_store_frame Liquer.C16.c16_filecache_storeMeta_frame Liquer.C16.c16_filecache_remove_frame Liquer.C16.c16_xor Liquer.C16.c16_fernet
-- OBLIGATIONS: Liquer.C16.c16_filestore_store Liquer.C16.c16_filestore_storeMeta Liquer.C16.c16_filestore_remove Liquer.C16.c16_filestore_frame
-- OBLIGATIONS: Liquer.C16.c16_storecache_on_filestore_store Liquer.C16.c16_storecache_on_filestore_storeMeta Liquer.C16.c16_storecache_on_filestore_remove Liquer.C16.c16_storecache_on_filestore_frame
-- OBLIGATIONS: Liquer.C16.buffered_reads_as_writethrough Liquer.C16.buffered_laws Liquer.C16.protocols_close_before_rename Liquer.C16.protocols_open_undisturbed Liquer.C16.protocols_open_only_temporaries Liquer.C16.c16_unflushed_rename_publishes_empty
-- OBLIGATIONS: Liquer.C16.c16_filecache_store_buffered Liquer.C16.c16_filecache_storeMeta_buffered Liquer.C16.c16_filecache_remove_buffered Liquer.C16.c16_filecache_frame_buffered
-- OBLIGATIONS: Liquer.C16.c16_filestore_store_buffered Liquer.C16.c16_filestore_storeMeta_buffered Liquer.C16.c16_filestore_remove_buffered Liquer.C16.c16_filestore_frame_buffered
-- OBLIGATIONS: Liquer.C16.c16_storecache_on_filestore_store_buffered Liquer.C16.c16_storecache_on_filestore_storeMeta_buffered Liquer.C16.c16_storecache_on_filestore_remove_buffered Liquer.C16.c16_storecache_on_filestore_frame_buffered Liquer.C16.c16_storecache_on_filestore_two_crashes Liquer.C16.c16_filecache_two_crashes
