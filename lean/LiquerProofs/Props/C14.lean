/-
C14 — Mounted stores: routing, key translation and union views are exact.
Model: `mountOps P supp` / `prefixOps P p` (LiquerModel/StoreMount.lean) = `MountPointStore` / `PrefixStore` with the
fixes D7a-D7f; all parts are models of one type `P`; state `(default?, routing table in mount order)`.  `T` is the
constantly-true `is_supported` of `MemoryStore` / `FileStore`; the nested section uses the real one (`Mt.supports`).
-/
import LiquerProofs.Lemmas.StoreMount
import LiquerProofs.Lemmas.StoreSpec
import LiquerProofs.Lemmas.StoreMountNested
import LiquerModel.StoreMem

namespace Liquer.C14
open Liquer Liquer.SV Liquer.MtL

variable {σ : Type}

/-- **`route_to` picks the last mounted matching store** — every table, every `is_supported`. -/
theorem route_exclusive (supp : σ → Key → Bool) (tbl : List (Key × σ)) (k : Key) (i : Nat) :
    Mt.routeIdx supp tbl k = some i ↔
      ∃ p st, tbl[i]? = some (p, st) ∧ Mt.hit supp p st k = true ∧
        ∀ j q st', i < j → tbl[j]? = some (q, st') → Mt.hit supp q st' k = false :=
  routeIdx_some supp tbl k i

/-- **every other key goes to the default store** (or raises `KeyRouteNotFound` without one) -/
theorem route_exclusive_default (supp : σ → Key → Bool) (s : MtState σ) (k : Key) :
    (∀ p st, (p, st) ∈ s.2 → Mt.hit supp p st k = false) ↔
      Mt.route supp s k = (if s.1.isSome then .ok .dflt else .error .routeNotFound) := by
  rw [← routeIdx_none]
  unfold Mt.route
  constructor
  · intro h; rw [h]
  · intro h
    cases hr : Mt.routeIdx supp s.2 k with
    | none => rfl
    | some i =>
      rw [hr] at h
      by_cases hs : s.1.isSome = true <;> simp [hs] at h

theorem hit_iff_prefix (p : Key) (st : σ) (k : Key) : Mt.hit T p st k = true ↔ p <+: k := hit_T p st k

theorem route_innermost (tbl : List (Key × σ)) (hwf : tableWF (tbl.map (·.1)) = true) (k : Key) (i : Nat) :
    Mt.routeIdx T tbl k = some i ↔ Owns tbl i k :=
  routeIdx_T_some tbl hwf k i

/-- **addressed by the key with the prefix stripped** (all five write operations and the point reads) -/
theorem prefix_strips (P : StoreOps σ) (p : Key) (st : σ) (op : StoreOp) (h : p <+: opKey op) :
    (prefixOps P p).apply st op = P.apply st (stripOp p op) :=
  prefix_apply P op h st

theorem prefix_strips_reads (P : StoreOps σ) (p k : Key) (st : σ) (h : p <+: k) :
    (prefixOps P p).getBytes st k = P.getBytes st (k.drop p.length) ∧
    (prefixOps P p).listdir st k = P.listdir st (k.drop p.length) ∧
    (prefixOps P p).getMeta st k = (P.getMeta st (k.drop p.length)).map (fun m => { m with key := k, name := keyName k }) ∧
    (k ≠ p → (prefixOps P p).contains st k = P.contains st (k.drop p.length) ∧
             (prefixOps P p).isDir st k = P.isDir st (k.drop p.length)) :=
  ⟨prefix_getBytes P h st, prefix_listdir P h st, prefix_getMeta P h st,
   fun hne => ⟨prefix_contains P h st hne, prefix_isDir P h st hne⟩⟩

variable (P : StoreOps σ)

theorem mount_union_above (s : MtState σ) (k : Key) (h : Above s.2 k) :
    (M P).isDir s k = .ok true ∧ (M P).contains s k = .ok true :=
  ⟨isDir_above P T s k h, contains_of_isDir P T s k (isDir_above P T s k h)⟩

theorem mount_union_part (s : MtState σ) (hwf : tableWF (s.2.map (·.1)) = true) (k : Key)
    (i : Nat) (p : Key) (st : σ) (hi : s.2[i]? = some (p, st)) (ho : Owns s.2 i k) :
    (M P).getBytes s k = P.getBytes st (k.drop p.length) ∧
    (¬ Above s.2 k → (M P).isDir s k = P.isDir st (k.drop p.length)) ∧
    (¬ Above s.2 k → (M P).contains s k = match P.isDir st (k.drop p.length) with
      | .error e => .error e
      | .ok true => .ok true
      | .ok false => P.contains st (k.drop p.length)) :=
  ⟨getBytes_part P (route_T_part s hwf ho) hi (ho.prefix hi),
   isDir_part P (route_T_part s hwf ho) hi (ho.prefix hi),
   contains_part P (route_T_part s hwf ho) hi (ho.prefix hi)⟩

theorem mount_union_default (s : MtState σ) (k : Key) (hn : NoMount s.2 k) :
    (M P).getBytes s k = (match s.1 with | some d => P.getBytes d k | none => .error .routeNotFound) ∧
    (¬ Above s.2 k → (M P).isDir s k = match s.1 with | some d => P.isDir d k | none => .ok false) ∧
    (¬ Above s.2 k → (M P).contains s k = match s.1 with
      | none => .ok false
      | some d => match P.isDir d k with
        | .error e => .error e
        | .ok true => .ok true
        | .ok false => P.contains d k) :=
  ⟨mount_getBytes_default P s k hn, fun h => mount_isDir_default P s k h hn, fun h => mount_contains_default P s k h hn⟩

theorem mount_union_meta_key (supp : σ → Key → Bool) (s : MtState σ) (k : Key) (m : MetaObs)
    (h : (mountOps P supp).getMeta s k = .ok m) : m.key = k :=
  mount_meta_key P supp s k m h

theorem mount_union_listdir_part (s : MtState σ) (hwf : tableWF (s.2.map (·.1)) = true) (k : Key)
    (i : Nat) (p : Key) (st : σ) (hi : s.2[i]? = some (p, st)) (ho : Owns s.2 i k) (o : Option (List Str))
    (hl : P.listdir st (k.drop p.length) = .ok o) :
    ∃ l, (M P).listdir s k = .ok (some l) ∧ l.Nodup ∧
      ∀ nm, nm ∈ l ↔ nm ∈ o.getD [] ∨ ∃ q st', (q, st') ∈ s.2 ∧ (k ++ [nm]) <+: q :=
  mount_listdir P T s hwf k (o.getD []) (by rw [listBase_part P (route_T_part s hwf ho) hi (ho.prefix hi), hl]; rfl)

theorem mount_union_listdir_default (s : MtState σ) (hwf : tableWF (s.2.map (·.1)) = true) (k : Key)
    (hn : NoMount s.2 k) (d : σ) (hd : s.1 = some d) (o : Option (List Str)) (hl : P.listdir d k = .ok o) :
    ∃ l, (M P).listdir s k = .ok (some l) ∧ l.Nodup ∧
      ∀ nm, nm ∈ l ↔ nm ∈ o.getD [] ∨ ∃ q st', (q, st') ∈ s.2 ∧ (k ++ [nm]) <+: q :=
  mount_listdir P T s hwf k (o.getD []) (by rw [listBase_default P s k hn hd, hl]; rfl)

theorem mount_union_listdir_noroute (s : MtState σ) (hwf : tableWF (s.2.map (·.1)) = true) (k : Key)
    (hn : NoMount s.2 k) (hd : s.1 = none) :
    ∃ l, (M P).listdir s k = .ok (some l) ∧ l.Nodup ∧
      ∀ nm, nm ∈ l ↔ ∃ q st', (q, st') ∈ s.2 ∧ (k ++ [nm]) <+: q :=
  (mount_listdir P T s hwf k [] (listBase_noroute P s k hn hd)).imp fun _ h =>
    ⟨h.1, h.2.1, fun nm => (h.2.2 nm).trans ⟨fun h => h.elim (fun h => nomatch h) id, Or.inr⟩⟩

/-- **`keys()`**: exactly the mount points and their parents, the re-prefixed keys of every mounted store that the
store owns (innermost mount on the path), and the default store's keys with no mount on the path — each once. -/
theorem mount_union_keys (K : σ → List Key) (hK : ∀ st, P.keys st = .ok (K st)) (s : MtState σ)
    (hwf : tableWF (s.2.map (·.1)) = true) :
    ∃ ks, (M P).keys s = .ok ks ∧
      (∀ x, x ∈ ks ↔
        ((x ≠ [] ∧ ∃ p st, (p, st) ∈ s.2 ∧ x <+: p) ∨
         (∃ i p st kk, s.2[i]? = some (p, st) ∧ kk ∈ K st ∧ kk ≠ [] ∧ x = p ++ kk ∧ Owns s.2 i x) ∨
         (∃ d, s.1 = some d ∧ x ∈ K d ∧ NoMount s.2 x))) ∧
      ((∀ e, e ∈ s.2 → (K e.2).Nodup) → (∀ d, s.1 = some d → (K d).Nodup) → ks.Nodup) := by
  have h2 := mem_listedK K s hwf
  refine ⟨_, by show Mt.keys P s = _; unfold Mt.keys; rw [keysListed_eq P K hK], fun x => ?_, fun hKn hKd => ?_⟩
  · rw [List.mem_append, List.mem_filter, mem_mountParents]
    constructor
    · rintro (hx | ⟨⟨hne, p, st, hm, hp, _⟩, _⟩)
      · rcases (h2 x).mp hx with ⟨p, st, hm, rfl⟩ | h | h
        · exact Or.inl ⟨wf_nonempty hwf (List.mem_map.mpr ⟨(x, st), hm, rfl⟩), x, st, hm, List.prefix_refl _⟩
        · exact Or.inr (Or.inl h)
        · exact Or.inr (Or.inr h)
      · exact Or.inl ⟨hne, p, st, hm, hp⟩
    · rintro (⟨hne, p, st, hm, hp⟩ | h | h)
      · by_cases hx : x ∈ listedK K s
        · exact Or.inl hx
        · by_cases he : x = p
          · exact Or.inl ((h2 x).mpr (Or.inl ⟨p, st, hm, he⟩))
          · exact Or.inr ⟨⟨hne, p, st, hm, hp, he⟩, by simp [hx]⟩
      · exact Or.inl ((h2 x).mpr (Or.inr (Or.inl h)))
      · exact Or.inl ((h2 x).mpr (Or.inr (Or.inr h)))
  · refine List.nodup_append.mpr ⟨nodup_listedK K s hKn hKd hwf, List.Pairwise.filter _ (nodup_eraseDups' _), ?_⟩
    intro x hx y hy e
    subst e
    simp only [List.mem_filter, Bool.not_eq_true', List.contains_eq_mem, decide_eq_false_iff_not] at hy
    exact hy.2 hx

/-- **a write below a mount point changes exactly the store mounted there, by the stripped operation** -/
theorem mount_write_exclusive (s : MtState σ) (hwf : tableWF (s.2.map (·.1)) = true) (op : StoreOp)
    (hop : isRemovedir op = false) (i : Nat) (p : Key) (st : σ) (hi : s.2[i]? = some (p, st))
    (ho : Owns s.2 i (opKey op)) :
    (M P).apply s op = (P.apply st (stripOp p op)).map (fun st' => (s.1, s.2.set i (p, st'))) :=
  apply_part P (route_T_part s hwf ho) hi (ho.prefix hi) hop

theorem mount_write_frame (s s' : MtState σ) (hwf : tableWF (s.2.map (·.1)) = true) (op : StoreOp)
    (hop : isRemovedir op = false) (i : Nat) (p : Key) (st : σ) (hi : s.2[i]? = some (p, st))
    (ho : Owns s.2 i (opKey op)) (h : (M P).apply s op = .ok s') :
    s'.1 = s.1 ∧ (∀ j, j ≠ i → s'.2[j]? = s.2[j]?) ∧ s'.2.map (·.1) = s.2.map (·.1) ∧
      ∃ st', P.apply st (stripOp p op) = .ok st' ∧ s'.2[i]? = some (p, st') := by
  rw [apply_part P (route_T_part s hwf ho) hi (ho.prefix hi) hop] at h
  cases hp : P.apply st (stripOp p op) with
  | error e => rw [hp] at h; cases h
  | ok st' =>
    rw [hp] at h
    cases h
    have hlt : i < s.2.length := (List.getElem?_eq_some_iff.mp hi).1
    exact ⟨rfl, fun j hj => List.getElem?_set_ne (Ne.symm hj), set_map_of_getElem? (·.1) hi (a' := (p, st')) rfl, st', rfl,
      List.getElem?_set_self hlt⟩

theorem mount_write_default_only (s : MtState σ) (op : StoreOp) (hop : isRemovedir op = false)
    (hn : NoMount s.2 (opKey op)) :
    (M P).apply s op = match s.1 with
      | some d => (P.apply d op).map (fun d' => (some d', s.2))
      | none => .error .routeNotFound :=
  mount_write_default P s op hop hn

theorem mount_removedir_refuses (s : MtState σ) (k : Key) (hk : k ≠ []) (hm : ∃ st, (k, st) ∈ s.2) :
    (M P).removedir s k false = .error .other := by
  show Mt.removedir P T s k false = _
  obtain ⟨st, h⟩ := hm
  unfold Mt.removedir Mt.removedirFull
  rw [removedirX_succ P T _ s hk false, show (if false = true then _ else (s, none)) = (s, none) from rfl,
    rmTail_mount P T (List.any_eq_true.mpr ⟨(k, st), h, beq_self_eq_true k⟩)]

/-- the full statement: the root key of *every* key of a mounted store reads the same through the root -/
def to_root_key_reaches_statement : Prop :=
  ∀ (s : MtState FS) (i : Nat) (p : Key) (st : FS) (kk : Key), tableWF (s.2.map (·.1)) = true →
    s.2[i]? = some (p, st) →
    (M specOps).getBytes s (Mt.toRootKey s.2 (some i) kk) = specOps.getBytes st kk

/-- **`to_root_key` reaches the same entry** unless an inner mount shadows the root key -/
theorem to_root_key_reaches_partial (s : MtState σ) (hwf : tableWF (s.2.map (·.1)) = true)
    (i : Nat) (p : Key) (st : σ) (kk : Key) (hi : s.2[i]? = some (p, st))
    (hns : Owns s.2 i (Mt.toRootKey s.2 (some i) kk)) :
    Mt.toRootKey s.2 (some i) kk = p ++ kk ∧
    (M P).getBytes s (Mt.toRootKey s.2 (some i) kk) = P.getBytes st kk ∧
    (∀ m, (M P).getMeta s (Mt.toRootKey s.2 (some i) kk) = .ok m → m.key = p ++ kk) := by
  have hr : Mt.toRootKey s.2 (some i) kk = p ++ kk := by simp [Mt.toRootKey, hi, Pfx.inverse]
  refine ⟨hr, ?_, ?_⟩
  · rw [getBytes_part P (route_T_part s hwf hns) hi (hns.prefix hi), hr, List.drop_left]
  · intro m hm
    rw [← hr]
    exact mount_meta_key P T s _ m hm

theorem to_root_key_default (tbl : List (Key × σ)) (k : Key) : Mt.toRootKey tbl none k = k := rfl

/-- the full statement (false before D7f: the parents of mount points were contained but not listed) -/
def mount_keys_complete_statement : Prop :=
  ∀ (s : MtState FS) (x : Key) (ks : List Key), tableWF (s.2.map (·.1)) = true → x ≠ [] →
    (M specOps).contains s x = .ok true → (M specOps).keys s = .ok ks → x ∈ ks

theorem mount_keys_complete_partial (K : σ → List Key) (hK : ∀ st, P.keys st = .ok (K st)) (s : MtState σ)
    (hwf : tableWF (s.2.map (·.1)) = true) (x p : Key) (st : σ) (hm : (p, st) ∈ s.2) (hx : x ≠ []) (hp : x <+: p)
    (ks : List Key) (h : (M P).keys s = .ok ks) : x ∈ ks := by
  obtain ⟨ks', h1, h2, _⟩ := mount_union_keys P K hK s hwf
  rw [h1] at h
  cases h
  exact (h2 x).mpr (Or.inl ⟨hx, p, st, hm, hp⟩)

/-- **completeness of `keys()`**, any part model whose own listing covers what it contains: every non-root key
the composite contains is listed -/
theorem mount_keys_complete_gen (K : σ → List Key) (hK : ∀ st, P.keys st = .ok (K st))
    (hC : ∀ st k, k ≠ [] → (P.isDir st k = .ok true ∨ P.contains st k = .ok true) → k ∈ K st)
    (s : MtState σ) (hwf : tableWF (s.2.map (·.1)) = true) (x : Key) (hx : x ≠ [])
    (hc : (M P).contains s x = .ok true) (ks : List Key) (h : (M P).keys s = .ok ks) : x ∈ ks := by
  obtain ⟨ks', h1, h2, _⟩ := mount_union_keys P K hK s hwf
  rw [h1] at h
  cases h
  rw [h2]
  by_cases ha : Above s.2 x
  · rcases ha with e | ⟨p, st, hm, hp⟩
    · exact absurd e hx
    · exact Or.inl ⟨hx, p, st, hm, hp⟩
  · have key : ∀ (st : σ) (k : Key), k ≠ [] → (match P.isDir st k with
        | .error e => .error e
        | .ok true => .ok true
        | .ok false => P.contains st k : Except StoreErr Bool) = .ok true → k ∈ K st := by
      intro st k hk hmatch
      apply hC st k hk
      split at hmatch
      · cases hmatch
      · rename_i hd; exact Or.inl hd
      · exact Or.inr hmatch
    rcases owns_or_nomount s.2 hwf x with ⟨i, ho⟩ | hn
    · obtain ⟨p, st, hi, hpx, _⟩ := id ho
      rw [contains_part P (route_T_part s hwf ho) hi hpx ha] at hc
      have hne : x.drop p.length ≠ [] := by
        intro e
        obtain ⟨t, rfl⟩ := hpx
        simp at e
        subst e
        exact not_above_ne ha hi (by simp)
      refine Or.inr (Or.inl ⟨i, p, st, x.drop p.length, hi, key st _ hne hc, hne, ?_, ho⟩)
      exact (inverse_drop hpx).symm
    · rw [mount_contains_default P s x ha hn] at hc
      cases hd : s.1 with
      | none => rw [hd] at hc; cases hc
      | some d =>
        rw [hd] at hc
        exact Or.inr (Or.inr ⟨d, rfl, key d x hx hc, hn⟩)

theorem spec_contains_listed (fs : FS) (k : Key) (hk : k ≠ [])
    (h : specOps.isDir fs k = .ok true ∨ specOps.contains fs k = .ok true) : k ∈ fs.map (·.1) := by
  rw [FS.mem_keys_iff]
  have hke : k.isEmpty = false := by simpa using hk
  rcases h with h | h
  · have : fs.isDirB k = true := by injection h
    simp only [FS.isDirB, hke, Bool.false_or, beq_iff_eq] at this
    rw [this]; rfl
  · have : fs.containsB k = true := by injection h
    simpa only [FS.containsB, hke, Bool.false_or] using this

theorem spec_listed_contains (fs : FS) (k : Key) (h : k ∈ fs.map (·.1)) :
    (match specOps.isDir fs k with
      | .error e => .error e
      | .ok true => .ok true
      | .ok false => specOps.contains fs k : Except StoreErr Bool) = .ok true := by
  rw [FS.mem_keys_iff] at h
  show (match (Except.ok (fs.isDirB k) : Except StoreErr Bool) with
      | .error e => .error e
      | .ok true => .ok true
      | .ok false => (Except.ok (fs.containsB k) : Except StoreErr Bool) : Except StoreErr Bool) = .ok true
  cases hd : fs.isDirB k with
  | true => rfl
  | false => simp [FS.containsB, h]

/-- **`keys()` is complete** (the statement that was false before fix D7f) -/
theorem mount_keys_complete : mount_keys_complete_statement := by
  intro s x ks hwf hx hc h
  exact mount_keys_complete_gen specOps (fun fs => fs.map (·.1)) spec_keys spec_contains_listed s hwf x hx hc ks h

/-- **`keys()` is exact**: a non-root key is listed iff the composite contains it -/
theorem mount_keys_exact (s : MtState FS) (hwf : tableWF (s.2.map (·.1)) = true) (ks : List Key)
    (h : (M specOps).keys s = .ok ks) (x : Key) (hx : x ≠ []) :
    x ∈ ks ↔ (M specOps).contains s x = .ok true := by
  refine ⟨?_, fun hc => mount_keys_complete s x ks hwf hx hc h⟩
  intro hm
  by_cases ha : Above s.2 x
  · exact contains_of_isDir specOps T s x (isDir_above specOps T s x ha)
  · obtain ⟨ks', h1, h2, _⟩ := mount_union_keys specOps (fun fs => fs.map (·.1)) spec_keys s hwf
    rw [h1] at h
    cases h
    rcases (h2 x).mp hm with ⟨_, p, st, hp, hpx⟩ | ⟨i, p, st, kk, hi, hkk, _, rfl, ho⟩ | ⟨d, hd, hxd, hn⟩
    · exact absurd (Or.inr ⟨p, st, hp, hpx⟩) ha
    · rw [contains_part specOps (route_T_part s hwf ho) hi (ho.prefix hi) ha, List.drop_left]
      exact spec_listed_contains st kk hkk
    · rw [mount_contains_default specOps s x ha hn, hd]
      exact spec_listed_contains d x hxd

/-- **every contained key exactly once**: with tree-shaped parts, `keys()` succeeds, has no repetition and lists
exactly the non-root keys the composite contains -/
theorem mount_keys_once (s : MtState FS) (hwf : tableWF (s.2.map (·.1)) = true)
    (hparts : ∀ e, e ∈ s.2 → e.2.tree = true) (hdflt : ∀ d, s.1 = some d → d.tree = true) :
    ∃ ks, (M specOps).keys s = .ok ks ∧ ks.Nodup ∧ [] ∉ ks ∧
      ∀ x, x ≠ [] → (x ∈ ks ↔ (M specOps).contains s x = .ok true) := by
  obtain ⟨ks, h1, h2, h3⟩ := mount_union_keys specOps (fun fs => fs.map (·.1)) spec_keys s hwf
  refine ⟨ks, h1, h3 (fun e he => ((FS.tree_iff e.2).mp (hparts e he)).nodup)
    (fun d hd => ((FS.tree_iff d).mp (hdflt d hd)).nodup), ?_, fun x hx => mount_keys_exact s hwf ks h1 x hx⟩
  intro hnil
  rcases (h2 []).mp hnil with ⟨hne, _⟩ | ⟨i, p, st, kk, hi, _, hkk, e, _⟩ | ⟨d, hd, hxd, _⟩
  · exact hne rfl
  · have := congrArg List.length e
    simp at this
    exact hkk (List.eq_nil_of_length_eq_zero (by omega))
  · exact ((FS.tree_iff d).mp (hdflt d hd)).nonroot [] ((FS.mem_keys_iff d []).mp hxd) rfl

def ka : Key := [['a']]
def kab : Key := [['a'], ['b']]
def um (c : Char) : UMeta := { user := [c] }
/-- part mounted at `a` holds `b/y` and `x`; part mounted at `a/b` holds `y`; default holds `a/hidden`, `z` -/
def partA : FS := specOps.run [] [.store [['b'], ['y']] [1] (um 'p'), .store [['x']] [2] (um 'q')]
def partAB : FS := specOps.run [] [.store [['y']] [3] (um 'r')]
def dflt : FS := specOps.run [] [.store [['a'], ['h']] [4] (um 's'), .store [['z']] [5] (um 't')]
def s1 : MtState FS := (some dflt, [(ka, partA), (kab, partAB)])
def s2 : MtState FS := (none, [(kab, partAB)])

example : tableWF (s1.2.map (·.1)) = true := by decide +kernel
example : tableWF (s2.2.map (·.1)) = true := by decide +kernel
-- an inner prefix mounted before the outer one is not well-formed
example : tableWF [kab, ka] = false := by decide +kernel
example : Owns s1.2 1 [['a'], ['b'], ['y']] := (route_innermost s1.2 (by decide +kernel) _ 1).mp (by decide +kernel)
example : Owns s1.2 0 [['a'], ['x']] := (route_innermost s1.2 (by decide +kernel) _ 0).mp (by decide +kernel)
example : NoMount s1.2 [['z']] := (routeIdx_T_none s1.2 _).mp (by decide +kernel)
example : Above s1.2 ka := Or.inr ⟨kab, partAB, by simp [s1], by decide +kernel⟩
-- D7 (on the model of the fixed code): no duplicate, no leaked default entry, contains without a route
example : (M specOps).keys s1 = .ok [kab, [['a'], ['b'], ['y']], ka, [['a'], ['x']], [['z']]] := by decide +kernel
example : (M specOps).listdir s1 ka = .ok (some [['b'], ['x']]) := by decide +kernel
example : (M specOps).contains s1 [['a'], ['h']] = .ok false := by decide +kernel
example : (M specOps).contains s2 [['z'], ['z']] = .ok false := by decide +kernel
example : ((M specOps).getMeta s1 ka).toOption.map (·.name) = some ['a'] := by decide +kernel
-- routing is exclusive: the outer store's own `b/y` is shadowed by the inner mount
example : (M specOps).getBytes s1 [['a'], ['b'], ['y']] = .ok [3] := by decide +kernel
example : isRemovedir (.store [['a'], ['b'], ['n']] [9] (um 'u')) = false := rfl
example : (M specOps).removedir s1 kab false = .error .other :=
  mount_removedir_refuses specOps s1 kab (by decide +kernel) ⟨partAB, by simp [s1]⟩

/-- the unrestricted `to_root_key` statement is false: `b/y` of the store mounted at `a` has root key `a/b/y`,
which the store mounted at `a/b` serves -/
example : ¬ to_root_key_reaches_statement := by
  intro h
  have := h s1 0 ka partA [['b'], ['y']] (by decide +kernel) (by decide +kernel)
  revert this
  decide +kernel

/-- the parent of a mount point is contained and (since fix D7f) listed: mount `a/b`, no default store -/
example : (M specOps).contains s2 ka = .ok true := by decide +kernel
example : (M specOps).keys s2 = .ok [kab, [['a'], ['b'], ['y']], ka] := by decide +kernel
example : ka ∈ [kab, [['a'], ['b'], ['y']], ka] :=
  mount_keys_complete s2 ka _ (by decide +kernel) (by decide +kernel) (by decide +kernel) (by decide +kernel)
-- `mount_keys_once` applies to the witnesses: the parts are trees
example : (∀ e, e ∈ s1.2 → e.2.tree = true) ∧ (∀ d, s1.1 = some d → d.tree = true) := by decide +kernel

theorem to_root_key_chain (ps : List Key) (k : Key) :
    Mt.toRootKeyChain ps k = ps.reverse.flatten ++ k := by
  simp [Mt.toRootKeyChain, Pfx.inverse]

/-- `sub.to_root_key(k)` accessed through the root store is `k` of `sub`, for ANY depth of nesting -/
theorem to_root_key_nested_reaches (P : StoreOps σ) (ps : List Key) (st : σ) (k : Key) :
    (prefixChain P ps).getBytes st (Mt.toRootKeyChain ps.reverse k) = P.getBytes st k := by
  rw [to_root_key_chain, List.reverse_reverse]
  induction ps with
  | nil => simp [prefixChain]
  | cons p ps ih =>
    have h : p <+: (p :: ps).flatten ++ k := by simp [List.flatten_cons, List.append_assoc]
    rw [prefixChain, prefix_getBytes _ h st]
    simpa [List.flatten_cons, List.append_assoc] using ih

-- non-vacuity: `gui` mounted inside `web`: `index.html` of the innermost store is `web/gui/index.html` of the root
example : Mt.toRootKeyChain [["gui".toList], ["web".toList]] [["index.html".toList]].head! =
    [["web".toList], ["gui".toList], ["index.html".toList]].flatten := by decide +kernel

/-! nested mount-point stores, asked by their real `is_supported` (`Mt.supports`, repair a6dff51 of `/repo`), not by the idealised `T` -/

section nested
open Liquer.MtN
variable (supp : σ → Key → Bool)

/-- **the directories of a mount-point store are supported**: the root, every mount point and every parent of a mount
point, with or without a default store (before a6dff51 `is_supported` RAISED there without a default store) -/
theorem supports_dirs (s : MtState σ) (k : Key) (h : Above s.2 k) : Mt.supports P supp s k = true :=
  supports_above P supp s k h

theorem supports_isDir (s : MtState σ) (k : Key) (h : (mountOps P supp).isDir s k = .ok true) :
    Mt.supports P supp s k = true :=
  supports_of_isDir P supp s k h

/-- **one level of nesting lifts directories**: what the inner composite mounted at `p` calls a directory at `q` is a
directory (and contained) at `p ++ q` of the outer composite, provided `p` is the innermost OUTER mount on the path.
Applies again at every further level (`P := mountOps P supp`, `supp := Mt.supports P supp`). -/
theorem nested_dir_lifts (o : MtState (MtState σ)) (hwf : tableWF (o.2.map (·.1)) = true)
    (i : Nat) (p : Key) (m : MtState σ) (hi : o.2[i]? = some (p, m)) (q : Key) (ho : Owns o.2 i (p ++ q))
    (hd : (mountOps P supp).isDir m q = .ok true) :
    (nestedOps P supp).isDir o (p ++ q) = .ok true ∧ (nestedOps P supp).contains o (p ++ q) = .ok true :=
  ⟨nested_isDir_lift hwf hi ho hd, nested_contains_lift hwf hi ho hd⟩

/-- **at the mount points of a mounted mount-point store**: `q` the root, a mount point or a parent of a mount point of the
composite `m` mounted at `p` — the outer composite has the directory `p ++ q`, contains it, lists under it the next
component of every mount point of `m` below `q`, and its listing is the inner listing united with the outer mount points -/
theorem nested_at_mount_point (o : MtState (MtState σ)) (hwf : tableWF (o.2.map (·.1)) = true)
    (i : Nat) (p : Key) (m : MtState σ) (hi : o.2[i]? = some (p, m)) (q : Key) (ho : Owns o.2 i (p ++ q))
    (hq : Above m.2 q) :
    (nestedOps P supp).isDir o (p ++ q) = .ok true ∧
    (nestedOps P supp).contains o (p ++ q) = .ok true ∧
    (∀ c rest st, (q ++ [c] ++ rest, st) ∈ m.2 →
      ∀ r, (nestedOps P supp).listdir o (p ++ q) = .ok r → ∃ l, r = some l ∧ c ∈ l) ∧
    (∀ ol, (mountOps P supp).listdir m q = .ok ol →
      ∃ l, (nestedOps P supp).listdir o (p ++ q) = .ok (some l) ∧ l.Nodup ∧
        ∀ nm, nm ∈ l ↔ nm ∈ ol.getD [] ∨ ∃ q' m', (q', m') ∈ o.2 ∧ (p ++ q ++ [nm]) <+: q') := by
  have hd := isDir_above P supp m q hq
  have hs : q = [] ∨ Mt.supports P supp m q = true := Or.inr (supports_above P supp m q hq)
  refine ⟨nested_isDir_lift hwf hi ho hd, nested_contains_lift hwf hi ho hd, ?_, ?_⟩
  · intro c rest st hm r hr
    obtain ⟨ol, l, hl, rfl, hsub⟩ := nested_listdir_sub hwf hi ho hs r hr
    obtain ⟨l0, rfl, hc⟩ := listdir_mount_child P supp m q c rest st hm ol hl
    exact ⟨l, rfl, hsub c hc⟩
  · intro ol hl
    exact nested_listdir_union hwf hi ho hs ol hl

abbrev nestedOps3 : StoreOps (MtState (MtState (MtState σ))) :=
  nestedOps (mountOps P supp) (Mt.supports P supp)

/-- **the shape of the defect, three levels, every leaf store / part model / `is_supported`**:
root —`w`→ `M1` —`x`→ `M2` (NO default store) —`g`→ leaf.  `w ++ x` (where `M2` is mounted) and `w ++ x ++ g` (where the leaf is
mounted) are directories of the root and contained, `w ++ x` lists the first component of `g` -/
theorem nested_depth3 (w x g : Key) (hw : w ≠ []) (hx : x ≠ [])
    (d0 : Option (MtState (MtState σ))) (d1 : Option (MtState σ)) (leaf : σ) :
    let M2 : MtState σ := (none, [(g, leaf)])
    let M1 : MtState (MtState σ) := (d1, [(x, M2)])
    let root : MtState (MtState (MtState σ)) := (d0, [(w, M1)])
    (nestedOps3 P supp).isDir root (w ++ x) = .ok true ∧
    (nestedOps3 P supp).contains root (w ++ x) = .ok true ∧
    (nestedOps3 P supp).isDir root (w ++ (x ++ g)) = .ok true ∧
    (nestedOps3 P supp).contains root (w ++ (x ++ g)) = .ok true ∧
    (∀ c rest, g = c :: rest → ∀ r, (nestedOps3 P supp).listdir root (w ++ x) = .ok r → ∃ l, r = some l ∧ c ∈ l) := by
  intro M2 M1 root
  have hrootwf : tableWF (root.2.map (·.1)) = true := tableWF_single M1 hw
  have hM1wf : tableWF (M1.2.map (·.1)) = true := tableWF_single M2 hx
  have aboveX : Above M1.2 x := Or.inr ⟨x, M2, by simp [M1], List.prefix_refl _⟩
  have aboveG : Above M2.2 g := Or.inr ⟨g, leaf, by simp [M2], List.prefix_refl _⟩
  -- level 2: `M1` at `x ++ g`
  have h1 := nested_dir_lifts P supp M1 hM1wf 0 x M2 rfl g (owns_single x M2 g) (isDir_above P supp M2 g aboveG)
  -- level 3: the root at `w ++ x` and at `w ++ (x ++ g)`
  have h2 := nested_at_mount_point (mountOps P supp) (Mt.supports P supp) root hrootwf 0 w M1 rfl x (owns_single w M1 x) aboveX
  have h3 := nested_dir_lifts (mountOps P supp) (Mt.supports P supp) root hrootwf 0 w M1 rfl (x ++ g) (owns_single w M1 (x ++ g)) h1.1
  refine ⟨h2.1, h2.2.1, h3.1, h3.2, ?_⟩
  intro c rest hg r hr
  have hsX : x = [] ∨ Mt.supports (mountOps P supp) (Mt.supports P supp) M1 x = true :=
    Or.inr (supports_above _ _ M1 x aboveX)
  obtain ⟨ol, l, hl, rfl, hsub⟩ :=
    nested_listdir_sub (P := mountOps P supp) (supp := Mt.supports P supp) hrootwf (i := 0) rfl (owns_single w M1 x) hsX r hr
  -- `M1` at `x = x ++ []` lists what `M2` lists at its root
  have hl' : (nestedOps P supp).listdir M1 (x ++ []) = .ok ol := by
    rw [List.append_nil]
    exact hl
  obtain ⟨ol2, l2, hl2, rfl, hsub2⟩ :=
    nested_listdir_sub (P := P) (supp := supp) hM1wf (i := 0) rfl (owns_single x M2 []) (Or.inl rfl) ol hl'
  obtain ⟨l3, rfl, hc⟩ := listdir_mount_child P supp M2 [] c rest leaf (by simp [M2, hg]) ol2 hl2
  exact ⟨l, rfl, hsub c (hsub2 c hc)⟩

/-! #### witnesses on `MemoryStore` leaves: root —`web`→ `nM1` —`x/y/z`→ `nM2` (no default) —`gui`→ leaf holding `f` -/

def kweb : Key := [['w', 'e', 'b']]
def kxyz : Key := [['x'], ['y'], ['z']]
def kgui : Key := [['g', 'u', 'i']]
def kf : Key := [['f']]
def nLeaf : MemState := Mem.store memInit kf [7] (um 'l')
def nDflt : MemState := Mem.store memInit [['z']] [5] (um 't')
def nM2 : MtState MemState := (none, [(kgui, nLeaf)])
def nM1 : MtState (MtState MemState) := (none, [(kxyz, nM2)])
def nRoot : MtState (MtState (MtState MemState)) := (some (Mt.leaf (Mt.leaf nDflt)), [(kweb, nM1)])
abbrev R3 := nestedOps3 memOps (T (σ := MemState))

example : R3.isDir nRoot kweb = .ok true := by decide +kernel
example : R3.isDir nRoot (kweb ++ [['x']]) = .ok true := by decide +kernel
example : R3.isDir nRoot (kweb ++ kxyz) = .ok true := by decide +kernel
example : R3.isDir nRoot (kweb ++ kxyz ++ kgui) = .ok true := by decide +kernel
example : R3.contains nRoot kweb = .ok true := by decide +kernel
example : R3.contains nRoot (kweb ++ [['x']]) = .ok true := by decide +kernel
example : R3.contains nRoot (kweb ++ kxyz) = .ok true := by decide +kernel
example : R3.listdir nRoot kweb = .ok (some [['x']]) := by decide +kernel
example : R3.listdir nRoot (kweb ++ [['x']]) = .ok (some [['y']]) := by decide +kernel
example : R3.listdir nRoot (kweb ++ kxyz) = .ok (some [['g', 'u', 'i']]) := by decide +kernel
example : R3.listdir nRoot (kweb ++ kxyz ++ kgui) = .ok (some [['f']]) := by decide +kernel
example : R3.listdir nRoot [] = .ok (some [['w', 'e', 'b'], ['z']]) := by decide +kernel
-- a leaf key read through all three levels
example : R3.getBytes nRoot (kweb ++ kxyz ++ kgui ++ kf) = .ok [7] := by decide +kernel
example : R3.contains nRoot (kweb ++ kxyz ++ kgui ++ kf) = .ok true := by decide +kernel
example : R3.isDir nRoot (kweb ++ kxyz ++ kgui ++ kf) = .ok false := by decide +kernel
example : R3.getBytes nRoot [['z']] = .ok [5] := by decide +kernel

/-- **negative witness**: with the `is_supported` of before a6dff51 (which lets `KeyRouteNotFound` escape) the root loses
the inner mount point; the repaired one keeps it -/
theorem nested_old_loses_mount_point :
    oldNestedIsDir3 memOps T nRoot (kweb ++ kxyz) = .ok false ∧ R3.isDir nRoot (kweb ++ kxyz) = .ok true := by
  decide +kernel

-- where the old `is_supported` raised: `nM2` has no default store, `''` has no route
example : Mt.supportsOld (Mt.liftSupp (T (σ := MemState))) nM2 [] = none := by decide +kernel
example : Mt.supportsOld (Mt.supportsOld (Mt.liftSupp (T (σ := MemState)))) nM1 kxyz = none := by decide +kernel
example : Mt.supports memOps T nM2 [] = true := by decide +kernel
example : Mt.supports (mountOps memOps T) (Mt.supports memOps T) nM1 kxyz = true := by decide +kernel
-- the old code did find what lies strictly below the inner mount point (that is why the defect went unnoticed) …
example : oldNestedIsDir3 memOps T nRoot (kweb ++ kxyz ++ kgui) = .ok true := by decide +kernel
-- … and already two levels lose the parent of an inner mount point: root —`web`→ (no default) —`x/y/z`→ leaf
def nRoot2 : MtState (MtState MemState) := (none, [(kweb, (none, [(kxyz, nLeaf)]))])
example : oldNestedIsDir memOps T nRoot2 (kweb ++ [['x']]) = .ok false ∧
    (nestedOps memOps T).isDir nRoot2 (kweb ++ [['x']]) = .ok true := by decide +kernel

/-! #### why a missing route must not be answered with `False`

If a mounted mount-point store WITHOUT a default store answered `is_supported = False` for a key it has no route for, the outer
`route_to` would walk on — to a shallower mount or to the OUTER default store: a key below the mount prefix would be served by the
outer default store (reads and writes), while `keys()` and `listdir` of the outer composite — which hide the default store's entries
below a mount prefix — would not show it.  The first version of the repair (`a6dff51`) did exactly that; the model (`Mt.supports`
answers `false` there) refutes exclusivity and completeness for it below (`nested_exclusive_false_if_unsupported`,
`nested_keys_incomplete_if_unsupported`), the behaviour was reproduced on the code, and the repair was corrected (`2edf0fa`): the
code raises `KeyRouteNotFound` for such keys, as it always did.  For the code as it is, `nested_exclusive_partial` is the statement:
exclusive wherever the mounted composite supports the key; elsewhere the operation raises (outside this Boolean model). -/

/-- exclusivity for the MODEL's support function (missing route = `false`): a key whose innermost outer mount is entry `i` is read
from the composite mounted there.  False — see above; not a statement about the code, which raises instead. -/
def nested_exclusive_statement : Prop :=
  ∀ (o : MtState (MtState MemState)) (i : Nat) (p : Key) (m : MtState MemState) (q : Key),
    tableWF (o.2.map (·.1)) = true → o.2[i]? = some (p, m) → Owns o.2 i (p ++ q) →
    (nestedOps memOps T).getBytes o (p ++ q) = (mountOps memOps T).getBytes m q

def nested_keys_complete_statement : Prop :=
  ∀ (o : MtState (MtState MemState)) (x : Key) (ks : List Key), tableWF (o.2.map (·.1)) = true →
    (∀ e, e ∈ o.2 → tableWF (e.2.2.map (·.1)) = true) → x ≠ [] →
    (nestedOps memOps T).contains o x = .ok true → (nestedOps memOps T).keys o = .ok ks → x ∈ ks

/-- **exclusive as far as the mounted composite supports the key** (`q = []`: the mount point itself) -/
theorem nested_exclusive_partial (o : MtState (MtState σ)) (hwf : tableWF (o.2.map (·.1)) = true)
    (i : Nat) (p : Key) (m : MtState σ) (hi : o.2[i]? = some (p, m)) (q : Key) (ho : Owns o.2 i (p ++ q))
    (hs : q = [] ∨ Mt.supports P supp m q = true) :
    (nestedOps P supp).getBytes o (p ++ q) = (mountOps P supp).getBytes m q := by
  have := getBytes_part (mountOps P supp) (nested_route hwf hi ho hs) hi (List.prefix_append p q)
  rwa [List.drop_left] at this

/-- default store holding `web/foo`; at `web` a composite without default store, a leaf mounted at `x` -/
def fD : MemState := Mem.store memInit (kweb ++ [['f', 'o', 'o']]) [9] (um 'd')
def fIn : MtState MemState := (none, [([['x']], nLeaf)])
def fRoot : MtState (MtState MemState) := (some (Mt.leaf fD), [(kweb, fIn)])

example : Mt.supports memOps T fIn [['f', 'o', 'o']] = false := by decide +kernel
-- served by the outer default store although `web` is on its path; contained but neither in `keys()` nor listed
example : (nestedOps memOps T).getBytes fRoot (kweb ++ [['f', 'o', 'o']]) = .ok [9] := by decide +kernel
example : (nestedOps memOps T).contains fRoot (kweb ++ [['f', 'o', 'o']]) = .ok true := by decide +kernel
example : (nestedOps memOps T).keys fRoot = .ok [kweb, kweb ++ [['x']], kweb ++ [['x'], ['f']]] := by decide +kernel
example : (nestedOps memOps T).listdir fRoot kweb = .ok (some [['x']]) := by decide +kernel

theorem nested_exclusive_false_if_unsupported : ¬ nested_exclusive_statement := by
  intro h
  have := h fRoot 0 kweb fIn [['f', 'o', 'o']] (by decide +kernel) rfl
    ((route_innermost fRoot.2 (by decide +kernel) _ 0).mp (by decide +kernel))
  revert this
  decide +kernel

theorem nested_keys_incomplete_if_unsupported : ¬ nested_keys_complete_statement := by
  intro h
  have := h fRoot (kweb ++ [['f', 'o', 'o']]) [kweb, kweb ++ [['x']], kweb ++ [['x'], ['f']]]
    (by decide +kernel) (by decide +kernel) (by decide +kernel) (by decide +kernel) (by decide +kernel)
  revert this
  decide +kernel

-- the hypotheses of the nested theorems are satisfiable
example : (nestedOps memOps T).isDir nRoot2 (kweb ++ [['x']]) = .ok true :=
  (nested_at_mount_point memOps T nRoot2 (by decide +kernel) 0 kweb _ rfl [['x']]
    ((route_innermost nRoot2.2 (by decide +kernel) _ 0).mp (by decide +kernel))
    (Or.inr ⟨kxyz, nLeaf, by simp, by decide +kernel⟩)).1
example : ∃ l, some [['y']] = some l ∧ ['y'] ∈ l :=
  (nested_at_mount_point memOps T nRoot2 (by decide +kernel) 0 kweb _ rfl [['x']]
    ((route_innermost nRoot2.2 (by decide +kernel) _ 0).mp (by decide +kernel))
    (Or.inr ⟨kxyz, nLeaf, by simp, by decide +kernel⟩)).2.2.1 ['y'] [['z']] nLeaf (by simp [kxyz]) (some [['y']]) (by decide +kernel)
example : R3.isDir nRoot (kweb ++ kxyz) = .ok true :=
  (nested_depth3 memOps T kweb kxyz kgui (by decide +kernel) (by decide +kernel) _ none nLeaf).1
example : (nestedOps memOps T).getBytes nM1 (kxyz ++ (kgui ++ kf)) = (mountOps memOps T).getBytes nM2 (kgui ++ kf) :=
  nested_exclusive_partial memOps T nM1 (by decide +kernel) 0 kxyz nM2 rfl (kgui ++ kf)
    ((route_innermost nM1.2 (by decide +kernel) _ 0).mp (by decide +kernel)) (Or.inr (by decide +kernel))

end nested

end Liquer.C14

-- OBLIGATIONS: Liquer.C14.route_exclusive Liquer.C14.route_exclusive_default Liquer.C14.hit_iff_prefix Liquer.C14.route_innermost Liquer.C14.prefix_strips Liquer.C14.prefix_strips_reads Liquer.C14.mount_union_above Liquer.C14.mount_union_part Liquer.C14.mount_union_default Liquer.C14.mount_union_meta_key Liquer.C14.mount_union_listdir_part Liquer.C14.mount_union_listdir_default Liquer.C14.mount_union_listdir_noroute Liquer.C14.mount_union_keys Liquer.C14.mount_write_exclusive Liquer.C14.mount_write_frame Liquer.C14.mount_write_default_only Liquer.C14.mount_removedir_refuses Liquer.C14.to_root_key_reaches_partial Liquer.C14.to_root_key_default Liquer.C14.mount_keys_complete_partial Liquer.C14.mount_keys_complete_gen Liquer.C14.mount_keys_complete Liquer.C14.mount_keys_exact Liquer.C14.mount_keys_once Liquer.C14.to_root_key_chain Liquer.C14.to_root_key_nested_reaches
-- OBLIGATIONS: Liquer.C14.supports_dirs Liquer.C14.supports_isDir Liquer.C14.nested_dir_lifts Liquer.C14.nested_at_mount_point Liquer.C14.nested_depth3 Liquer.C14.nested_old_loses_mount_point Liquer.C14.nested_exclusive_partial
-- STATEMENT-ONLY: Liquer.C14.to_root_key_reaches_statement
-- OBLIGATIONS: Liquer.C14.nested_exclusive_false_if_unsupported Liquer.C14.nested_keys_incomplete_if_unsupported
