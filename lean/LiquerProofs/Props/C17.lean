/-
C17 — Access boundaries.  (a) `readOnlyOps S` = `ReadOnlyStore`, any underlying model `S`; the generated obligations of
`Inst/ReadOnly.lean` tie the refused methods to the classes of the current tree.  (a') `store.read_only().mount(key, other)`:
C14's mount model over tagged parts (`LiquerModel/StoreMountRO.lean`); the default store of the composite is the VIEW.
(b) `FileStore` with the D4 fix (`check_key`): accepted keys stay inside the root, the others are refused before anything is touched.
-/
import LiquerModel.StoreProxy
import LiquerProofs.Lemmas.StoreFile
import LiquerProofs.Lemmas.StoreSpec
import LiquerProofs.Lemmas.StoreFileFrame
import LiquerProofs.Inst.ReadOnly
import LiquerProofs.Lemmas.StoreMountRO

namespace Liquer.C17
open Liquer

/-- every mutating operation through the view is refused with the read-only error -/
theorem ro_refuses {σ : Type} (S : StoreOps σ) (s : σ) (op : StoreOp) :
    (readOnlyOps S).apply s op = .error .readOnly := by
  cases op <;> rfl

theorem ro_step_unchanged {σ : Type} (S : StoreOps σ) (s : σ) (op : StoreOp) : (readOnlyOps S).step s op = s := by
  simp [StoreOps.step, ro_refuses]

theorem ro_run_unchanged {σ : Type} (S : StoreOps σ) (s : σ) (h : List StoreOp) : (readOnlyOps S).run s h = s := by
  induction h with
  | nil => rfl
  | cons op rest ih =>
    simp only [StoreOps.run, List.foldl_cons, ro_step_unchanged] at ih ⊢
    exact ih

theorem ro_reads {σ : Type} (S : StoreOps σ) (s : σ) (k : Key) :
    (readOnlyOps S).obs s k = S.obs s k ∧ (readOnlyOps S).keys s = S.keys s := ⟨rfl, rfl⟩

theorem ro_hist_reads {σ : Type} (S : StoreOps σ) (s : σ) (h : List StoreOp) (k : Key) :
    (readOnlyOps S).obs ((readOnlyOps S).run s h) k = S.obs s k ∧
    S.obs ((readOnlyOps S).run s h) k = S.obs s k ∧
    S.keys ((readOnlyOps S).run s h) = S.keys s := by
  rw [ro_run_unchanged]
  exact ⟨rfl, rfl, rfl⟩

theorem ro_idem {σ : Type} (S : StoreOps σ) (s : σ) (op : StoreOp) (k : Key) :
    (readOnlyOps (readOnlyOps S)).apply s op = (readOnlyOps S).apply s op ∧
    (readOnlyOps (readOnlyOps S)).obs s k = (readOnlyOps S).obs s k := by
  refine ⟨?_, rfl⟩
  rw [ro_refuses, ro_refuses]

-- non-vacuity: a store that does accept the operation, refused through the view
example : (readOnlyOps specOps).apply [] (.makedir [['a']]) = .error .readOnly ∧
          specOps.apply [] (.makedir [['a']]) = .ok [([['a']], .dir)] := ⟨rfl, rfl⟩

theorem contained_comps (root : Path) (cs : List Str) (h : compsOK cs = true) : within root (pathOfC root cs) = true := by
  rw [pathOfC_ok root h]
  exact within_append root _

theorem meta_contained_comps (root : Path) (cs : List Str) (h : compsMetaOK cs = true) :
    within root (metaPathOfC root cs) = true := by
  rw [metaPathOfC_ok root h]
  exact within_append root _

/-- **containment**, for every root directory and every key string (any length, any characters):
a key `check_key` accepts stays inside the root … -/
theorem contained (root : Path) (key : List Char) (h : keyOK key = true) : within root (pathOf root key) = true :=
  contained_comps root _ h

/-- … and so does its metadata file (for which the key must also not denote the root itself) -/
theorem meta_contained (root : Path) (key : List Char) (h : metaKeyOK key = true) :
    within root (metaPathOf root key) = true :=
  meta_contained_comps root _ h

-- non-vacuity
example : keyOK "a/./b//c.txt".toList = true ∧ metaKeyOK "a/./b//c.txt".toList = true := by decide +kernel
example : pathOf [['r']] "a/./b//c.txt".toList = [['r'], ['a'], ['b'], "c.txt".toList] := by decide +kernel
example : metaPathOf [['r']] "a/b.txt".toList = [['r'], ['a'], "__metadata__".toList, "b.txt.json".toList] := by decide +kernel
-- the guards are not redundant: what they exclude does leave the root
example : within [['r']] (pathOf [['r']] "../x".toList) = false ∧ keyOK "../x".toList = false := by decide +kernel
example : within [['r']] (pathOf [['r']] "/x".toList) = false ∧ keyOK "/x".toList = false := by decide +kernel
example : within [['s'], ['r']] (metaPathOf [['s'], ['r']] []) = false ∧ keyOK [] = true ∧ metaKeyOK [] = false := by decide +kernel
example : within [['s'], ['r']] (metaPathOf [['s'], ['r']] ['.']) = false ∧ metaKeyOK ['.'] = false := by decide +kernel

/-- a key that is not accepted: every operation of the `FileStore` model fails with `KeyNotSupported`
(and, failing, changes nothing: `StoreOps.step` keeps the state) -/
theorem rejects (root : Path) (fs : PFS) (k : Key) (h : compsOK k = false) :
    (fileOps root).getBytes fs k = .error .keyNotSupported ∧
    (fileOps root).getMeta fs k = .error .keyNotSupported ∧
    (fileOps root).contains fs k = .error .keyNotSupported ∧
    (fileOps root).isDir fs k = .error .keyNotSupported ∧
    (fileOps root).listdir fs k = .error .keyNotSupported ∧
    (∀ op : StoreOp, op.key = k → (fileOps root).apply fs op = .error .keyNotSupported) := by
  have hke := compsOK_false_ne_nil h
  have hp : File.path root k = .error .keyNotSupported := by simp [File.path, h]
  have hm : File.metaPath root k = .error .keyNotSupported := by simp [File.metaPath, compsMetaOK, h]
  have hd : File.isDir root fs k = .error .keyNotSupported := by
    simp [File.isDir, hke, hp, bind, Except.bind]
  have hl : File.listdir root fs k = .error .keyNotSupported := by
    simp [File.listdir, hd, bind, Except.bind]
  refine ⟨?_, ?_, ?_, hd, hl, ?_⟩
  · simp [fileOps, File.getBytes, hp, bind, Except.bind]
  · simp [fileOps, File.getMeta, hp, bind, Except.bind]
  · simp [fileOps, File.contains, hke, hp, bind, Except.bind]
  · intro op hop
    cases op with
    | store k' d m =>
      simp only [StoreOp.key] at hop; subst hop
      simp [StoreOps.apply, fileOps, File.store, hp, bind, Except.bind]
    | storeMeta k' m =>
      simp only [StoreOp.key] at hop; subst hop
      simp [StoreOps.apply, fileOps, File.storeMeta, hm, bind, Except.bind]
    | remove k' =>
      simp only [StoreOp.key] at hop; subst hop
      simp [StoreOps.apply, fileOps, File.remove, hp, bind, Except.bind]
    | removedir k' r =>
      simp only [StoreOp.key] at hop; subst hop
      cases r <;>
        simp [StoreOps.apply, fileOps, File.removedir, File.removedirFuel, hke, hl, hm, bind, Except.bind, pure, Except.pure]
    | makedir k' =>
      simp only [StoreOp.key] at hop; subst hop
      simp [StoreOps.apply, fileOps, File.makedir, hp, bind, Except.bind]

theorem rejects_string (root : Path) (fs : PFS) (key : List Char) (h : keyOK key = false) :
    (fileOps root).getBytes fs (keyOfString key) = .error .keyNotSupported ∧
    (fileOps root).getMeta fs (keyOfString key) = .error .keyNotSupported ∧
    (fileOps root).contains fs (keyOfString key) = .error .keyNotSupported ∧
    (fileOps root).isDir fs (keyOfString key) = .error .keyNotSupported ∧
    (fileOps root).listdir fs (keyOfString key) = .error .keyNotSupported ∧
    (∀ op : StoreOp, op.key = keyOfString key → (fileOps root).apply fs op = .error .keyNotSupported) :=
  rejects root fs _ (by rw [keyOK_keyOfString]; exact h)

/-- a key that denotes the root itself has no metadata file: writing its metadata is refused -/
theorem meta_rejects (root : Path) (fs : PFS) (k : Key) (m : UMeta) (h : compsMetaOK k = false) :
    (fileOps root).storeMeta fs k m = .error .keyNotSupported := by
  simp [fileOps, File.storeMeta, File.metaPath, h, bind, Except.bind]

-- non-vacuity: rejected keys exist, and accepted keys are served
example : compsOK (keyOfString "a/../../x".toList) = false := by decide +kernel
example : compsMetaOK (keyOfString ".".toList) = false ∧ compsOK (keyOfString ".".toList) = true := by decide +kernel
example : (fileOps [['r']]).contains (fileInit [['r']]) (keyOfString "a".toList) = .ok false := by decide +kernel

theorem path_contained (root : Path) (k : Key) (p : Path) (h : File.path root k = .ok p) : within root p = true := by
  rw [File.path_eq h]
  exact within_append root _

theorem metaPath_contained (root : Path) (k : Key) (p : Path) (h : File.metaPath root k = .ok p) : within root p = true := by
  obtain ⟨_, nm, rfl⟩ := File.metaPath_eq h
  exact within_append root _

/-- **nothing outside the root is written or deleted**: after any history of operations (well-formed or not, any
keys) on a `FileStore` whose root directory exists, every path that is not at or below the root holds what it held -/
theorem contained_state (root : Path) (fs : PFS) (h : List StoreOp) (hr : rootReady root fs) (p : Path)
    (hp : within root p = false) : ((fileOps root).run fs h).get p = fs.get p :=
  (frame_run fs h hr).outside p hp

theorem root_kept (root : Path) (fs : PFS) (h : List StoreOp) (hr : rootReady root fs) :
    rootReady root ((fileOps root).run fs h) :=
  (frame_run fs h hr).ready hr

-- non-vacuity: the initial state of a store at `/s/r` is ready, and a sentinel beside the root survives a history
example : rootReady [['s'], ['r']] (fileInit [['s'], ['r']]) := by
  intro a ha
  have hl := ha.length_le
  obtain ⟨t, ht⟩ := ha
  match a, t, ht, hl with
  | [], _, _, _ => decide +kernel
  | [x], _, ht, _ => simp at ht; rw [ht.1]; decide +kernel
  | [x, y], _, ht, _ => simp at ht; rw [ht.1, ht.2.1]; decide +kernel
  | _ :: _ :: _ :: _, _, _, hl => simp at hl
example : ((fileOps [['s'], ['r']]).run ((fileInit [['s'], ['r']]).set [['s'], ['x']] (.dfile [9]))
    [.store [dotdot, ['x']] [1] { user := [] }, .store [['a']] [1] { user := [] }, .removedir [dot] true]).get [['s'], ['x']]
    = some (.dfile [9]) := by decide +kernel

/-! (a') `Store.mount` builds `MountPointStore(self)`: on a read-only view the DEFAULT store of the composite is the view.
Model: `mountOps (partOps S) supp` on states `(some (.ro s), tbl)` (`LiquerModel/StoreMountRO.lean`); `.ro s` = the view
of a store in state `s`, `.rw st` = a plain store.  `M P = mountOps P T` (`T` = `MemoryStore` / `FileStore` support every key). -/

section ViewMount
open Liquer.SV Liquer.MtL Liquer.MtRO

variable {σ : Type}

/-- **the store under the view never changes**: after ANY history (store, store_metadata, remove, removedir — recursive
or not —, makedir, on any keys, in or out of the mounts, succeeding or raising) on a composite whose default store is a
read-only view of a store in state `s`, the default store is still the view of `s` — for every routing table, every part
model `S` and every `is_supported`; both for the states the harness observes (`Mt.runX`: a raising recursive `removedir`
keeps what it had deleted) and for the model's own `run`. -/
theorem view_mount_default_unchanged (S : StoreOps σ) (supp : Part σ → Key → Bool) (s : σ) (tbl : List (Key × Part σ))
    (h : List StoreOp) :
    (Mt.runX (partOps S) supp (some (.ro s), tbl) h).1 = some (.ro s) ∧
    ((mountOps (partOps S) supp).run (some (.ro s), tbl) h).1 = some (.ro s) :=
  ⟨runX_inv (partOps S) supp _ (kept_fst (partOps S) supp (.ro s) (frozen_ro S s)) _ h rfl,
   run_inv (partOps S) supp _ (kept_fst (partOps S) supp (.ro s) (frozen_ro S s)) _ h rfl⟩

/-- … and the table keeps its prefixes and the kind (view / plain store) of every mounted part, so the theorems below
apply again after every operation -/
theorem view_mount_shape_kept (S : StoreOps σ) (supp : Part σ → Key → Bool) (s0 : MtState (Part σ)) (h : List StoreOp) :
    (Mt.runX (partOps S) supp s0 h).2.map (fun e => (e.1, e.2.isRO)) = s0.2.map (fun e => (e.1, e.2.isRO)) ∧
    ((mountOps (partOps S) supp).run s0 h).2.map (fun e => (e.1, e.2.isRO)) = s0.2.map (fun e => (e.1, e.2.isRO)) :=
  ⟨runX_inv (partOps S) supp _ (kept_shape S supp _) _ h rfl, run_inv (partOps S) supp _ (kept_shape S supp _) _ h rfl⟩

/-- **writes outside the mounts are refused**: a mutating operation whose key has no mount on its path (it is routed to
the default store, `route_exclusive_default`) — other than a recursive `removedir` (next theorem) and a `removedir` of the
root key (a no-op that succeeds, `view_mount_removedir_root`) — raises the read-only error and leaves the WHOLE composite
as it was. -/
theorem view_mount_refuses_outside (S : StoreOps σ) (s : σ) (tbl : List (Key × Part σ)) (op : StoreOp)
    (hrec : ∀ k, op ≠ .removedir k true) (hroot : isRemovedir op = true → opKey op ≠ [])
    (hn : NoMount tbl (opKey op)) :
    (M (partOps S)).apply (some (.ro s), tbl) op = .error .readOnly ∧
    Mt.stepX (partOps S) T (some (.ro s), tbl) op = (some (.ro s), tbl) ∧
    (M (partOps S)).step (some (.ro s), tbl) op = (some (.ro s), tbl) := by
  cases hop : isRemovedir op with
  | false =>
    have ha : (M (partOps S)).apply (some (.ro s), tbl) op = .error .readOnly := by
      rw [mount_write_default (partOps S) _ op hop hn]
      show Except.map _ ((partOps S).apply (.ro s) op) = _
      rw [part_apply_ro]
      rfl
    exact ⟨ha, (stepX_eq_step _ _ _ hop).trans (step_of_error ha), step_of_error ha⟩
  | true =>
    cases op with
    | removedir k r =>
      cases r with
      | true => exact absurd rfl (hrec k)
      | false => exact removedir_refused _ _ (removedirX_outside_nonrec S _ s rfl k (hroot hop) hn _)
    | _ => cases hop

/-- a recursive `removedir` of a non-root key with no mount on, at or below its path is refused as well and touches
nothing (not even transiently: the state the harness observes is the old one).  The error is the read-only error unless
the underlying store's own `listdir` / `is_dir` raises first (or the model's fuel runs out: `other`). -/
theorem view_mount_refuses_outside_recursive (S : StoreOps σ) (s : σ) (tbl : List (Key × Part σ)) (k : Key)
    (hk : k ≠ []) (hn : NoMount tbl k) (ha : ¬ Above tbl k) :
    ∃ e, (M (partOps S)).apply (some (.ro s), tbl) (.removedir k true) = .error e ∧ RefusedWith S s e ∧
      Mt.stepX (partOps S) T (some (.ro s), tbl) (.removedir k true) = (some (.ro s), tbl) ∧
      (M (partOps S)).step (some (.ro s), tbl) (.removedir k true) = (some (.ro s), tbl) := by
  obtain ⟨e, he, hr⟩ := removedirX_outside_rec S s (Mt.depthBound (partOps S) (some (.ro s), tbl) + 2)
    (some (.ro s), tbl) k rfl hk hn ha
  obtain ⟨h1, h2, h3⟩ := removedir_refused (partOps S) T he
  exact ⟨e, h1, hr, h2, h3⟩

/-- `removedir` of the root key does nothing and succeeds (on every composite) — the reason for the side condition above -/
theorem view_mount_removedir_root (S : StoreOps σ) (supp : Part σ → Key → Bool) (s0 : MtState (Part σ)) (r : Bool) :
    (mountOps (partOps S) supp).apply s0 (.removedir [] r) = .ok s0 := by
  show Mt.removedir (partOps S) supp s0 [] r = _
  unfold Mt.removedir Mt.removedirFull
  rw [removedirX_root]

/-- **reads outside the mounts are the reads of the store under the view**: for a key with no mount on, at or below its
path, `get_bytes` and `is_dir` return exactly what the underlying store returns; `contains` is the composite's
"directory or contained" of the underlying answers and `get_metadata` the underlying answer with the key field set to
the key asked for (not-found falling back to the directory test). -/
theorem view_mount_reads_default (S : StoreOps σ) (s : σ) (tbl : List (Key × Part σ)) (k : Key)
    (hn : NoMount tbl k) (ha : ¬ Above tbl k) :
    (M (partOps S)).getBytes (some (.ro s), tbl) k = S.getBytes s k ∧
    (M (partOps S)).isDir (some (.ro s), tbl) k = S.isDir s k ∧
    (M (partOps S)).contains (some (.ro s), tbl) k = (match S.isDir s k with
      | .error e => .error e
      | .ok true => .ok true
      | .ok false => S.contains s k) ∧
    (M (partOps S)).getMeta (some (.ro s), tbl) k = (match S.getMeta s k with
      | .ok m => .ok { m with key := k }
      | .error e =>
        if e = .keyNotFound ∨ e = .routeNotFound then
          match S.isDir s k with
          | .error e => .error e
          | .ok true => .ok (Mt.dirMeta k)
          | .ok false => .error .keyNotFound
        else .error e) := by
  refine ⟨?_, ?_, ?_, ?_⟩
  · rw [mount_getBytes_default (partOps S) _ k hn]; rfl
  · rw [mount_isDir_default (partOps S) _ k ha hn]; rfl
  · rw [mount_contains_default (partOps S) _ k ha hn]; rfl
  · rw [mount_getMeta_default (partOps S) _ k ha hn (.ro s) rfl]; rfl

/-- … hence EXACTLY the underlying answers when the underlying store is consistent on `k`: a directory is contained,
reported metadata carry the key asked for, "no metadata" implies "not a directory" -/
theorem view_mount_reads_default_exact (S : StoreOps σ) (s : σ) (tbl : List (Key × Part σ)) (k : Key)
    (hn : NoMount tbl k) (ha : ¬ Above tbl k)
    (hc : S.isDir s k = .ok false ∨ (S.isDir s k = .ok true ∧ S.contains s k = .ok true))
    (hm1 : ∀ m, S.getMeta s k = .ok m → m.key = k)
    (hm2 : S.getMeta s k = .error .keyNotFound → S.isDir s k = .ok false)
    (hm3 : S.getMeta s k ≠ .error .routeNotFound) :
    (M (partOps S)).getBytes (some (.ro s), tbl) k = S.getBytes s k ∧
    (M (partOps S)).isDir (some (.ro s), tbl) k = S.isDir s k ∧
    (M (partOps S)).contains (some (.ro s), tbl) k = S.contains s k ∧
    (M (partOps S)).getMeta (some (.ro s), tbl) k = S.getMeta s k := by
  obtain ⟨h1, h2, h3, h4⟩ := view_mount_reads_default S s tbl k hn ha
  refine ⟨h1, h2, ?_, ?_⟩
  · rw [h3]
    rcases hc with hc | ⟨hc, hc'⟩
    · rw [hc]
    · rw [hc, hc']
  · rw [h4]
    cases hm : S.getMeta s k with
    | ok m =>
      have := hm1 m hm
      cases m
      cases this
      rfl
    | error e =>
      cases e with
      | keyNotFound => simp [hm2 hm]
      | routeNotFound => exact absurd hm hm3
      | keyNotSupported => simp
      | readOnly => simp
      | other => simp

/-- `MemoryStore` is consistent on every key: through `store.read_only().mount(..)` the four point reads of a key
outside the mounts are exactly the reads of the `MemoryStore` under the view -/
theorem view_mount_reads_default_mem (s : MemState) (tbl : List (Key × Part MemState)) (k : Key)
    (hn : NoMount tbl k) (ha : ¬ Above tbl k) :
    (M (partOps memOps)).getBytes (some (.ro s), tbl) k = memOps.getBytes s k ∧
    (M (partOps memOps)).isDir (some (.ro s), tbl) k = memOps.isDir s k ∧
    (M (partOps memOps)).contains (some (.ro s), tbl) k = memOps.contains s k ∧
    (M (partOps memOps)).getMeta (some (.ro s), tbl) k = memOps.getMeta s k := by
  apply view_mount_reads_default_exact memOps s tbl k hn ha
  · show (Except.ok (Mem.isDir s k) : Except StoreErr Bool) = .ok false ∨
      ((Except.ok (Mem.isDir s k) : Except StoreErr Bool) = .ok true ∧
       (Except.ok (Mem.contains s k) : Except StoreErr Bool) = .ok true)
    cases hd : Mem.isDir s k with
    | false => exact Or.inl rfl
    | true =>
      -- `contains` starts with the tests of `is_dir`
      have : Mem.contains s k = true := by
        unfold Mem.isDir at hd
        unfold Mem.contains
        rw [hd]; rfl
      exact Or.inr ⟨rfl, congrArg Except.ok this⟩
  · intro m
    show Mem.getMeta s k = .ok m → _
    fun_cases Mem.getMeta s k <;> intro h <;> cases h <;> rfl
  · show Mem.getMeta s k = _ → (Except.ok (Mem.isDir s k) : Except StoreErr Bool) = .ok false
    fun_cases Mem.getMeta s k <;> intro h <;> cases h
    rename_i hd
    rw [Bool.not_eq_true _ |>.mp hd]
  · show Mem.getMeta s k ≠ _
    fun_cases Mem.getMeta s k <;> intro h <;> cases h

/-- **writes below a mount go to the mounted store only**: a store / store_metadata / remove / makedir whose key is owned
by the plain store mounted at entry `i` (innermost mount on the path, `route_innermost`) is that store's own operation on
the key with the prefix stripped; it replaces that entry's state and nothing else — the default stays the view of `s`. -/
theorem view_mount_writes_inside (S : StoreOps σ) (s : σ) (tbl : List (Key × Part σ))
    (hwf : tableWF (tbl.map (·.1)) = true) (op : StoreOp) (hop : isRemovedir op = false)
    (i : Nat) (p : Key) (st : σ) (hi : tbl[i]? = some (p, .rw st)) (ho : Owns tbl i (opKey op)) :
    (M (partOps S)).apply (some (.ro s), tbl) op =
      (S.apply st (stripOp p op)).map (fun st' => (some (.ro s), tbl.set i (p, .rw st'))) := by
  rw [apply_part (partOps S) (route_T_part (some (.ro s), tbl) hwf ho) hi (ho.prefix hi) hop, part_apply_rw]
  cases S.apply st (stripOp p op) <;> rfl

theorem view_mount_writes_inside_single (S : StoreOps σ) (s : σ) (key : Key) (other : σ) (hkey : key ≠ [])
    (op : StoreOp) (hop : isRemovedir op = false) (hk : key <+: opKey op) :
    (M (partOps S)).apply (viewMount s key other) op =
      (S.apply other (stripOp key op)).map (fun o' => viewMount s key o') := by
  obtain ⟨t, ht⟩ := hk
  exact view_mount_writes_inside S s _ (tableWF_single _ hkey) op hop 0 key other rfl (ht ▸ owns_single key _ t)

def vkM : Key := [['m']]
def vkIn : Key := [['m'], ['x']]
def vkOut : Key := [['z']]
def vum (c : Char) : UMeta := { user := [c] }
/-- the store under the view holds `z` and `d/y` -/
def vUnder : MemState := memOps.run memInit [.store vkOut [7] (vum 'u'), .store [['d'], ['y']] [8] (vum 'v')]
/-- `under.read_only().mount("m", MemoryStore())` -/
def vView : MtState (Part MemState) := viewMount vUnder vkM memInit
/-- what the seeded change builds instead: the default is `under` itself -/
def vBypass : MtState (Part MemState) := bypassMount vUnder vkM memInit
def vHist : List StoreOp :=
  [.store vkIn [1] (vum 'a'), .store vkOut [2] (vum 'b'), .remove vkOut, .makedir [['n']], .storeMeta vkOut (vum 'c'),
   .removedir [['d']] true, .removedir [['d']] false, .store [['m'], ['w']] [3] (vum 'd'), .remove [['m'], ['w']]]

/-- **the seeded mutation**: if the composite's default is the underlying store itself (`.rw`) instead of the view, a
`store` of a key outside the mount goes through and CHANGES the underlying store -/
theorem bypass_mount_writes_through :
    ((M (partOps memOps)).run vBypass [.store vkOut [2] (vum 'b')]).1 ≠ vBypass.1 ∧
    (M (partOps memOps)).getBytes vBypass vkOut = .ok [7] ∧
    (M (partOps memOps)).getBytes ((M (partOps memOps)).run vBypass [.store vkOut [2] (vum 'b')]) vkOut = .ok [2] ∧
    (M (partOps memOps)).apply vView (.store vkOut [2] (vum 'b')) = .error .readOnly := by
  decide +kernel

-- non-vacuity: the hypotheses of the theorems hold on the witnesses
example : tableWF (vView.2.map (·.1)) = true := by decide +kernel
example : NoMount vView.2 vkOut := (routeIdx_T_none vView.2 _).mp (by decide +kernel)
example : ¬ Above vView.2 vkOut := by
  rintro (e | ⟨p, st, hm, hp⟩)
  · cases e
  · simp [vView, viewMount] at hm
    rw [hm.1] at hp
    exact absurd hp (by decide +kernel)
example : Owns vView.2 0 vkIn := (routeIdx_T_some vView.2 (by decide +kernel) _ 0).mp (by decide +kernel)
example : (M (partOps memOps)).apply vView (.store vkIn [1] (vum 'a')) =
    (memOps.apply memInit (.store [['x']] [1] (vum 'a'))).map (fun o' => viewMount vUnder vkM o') :=
  view_mount_writes_inside_single memOps vUnder vkM memInit (by decide +kernel) (.store vkIn [1] (vum 'a')) rfl (by decide +kernel)
-- the mixed history: every write outside is refused, the store under the view is what it was …
example : (Mt.runX (partOps memOps) T vView vHist).1 = some (.ro vUnder) := by decide +kernel
example : (Mt.runX (partOps memOps) T vView vHist).1 = some (.ro vUnder) :=
  (view_mount_default_unchanged memOps T vUnder _ vHist).1
-- … the write inside is visible (and the one removed again is gone), the outside key still reads the old data
example : (M (partOps memOps)).getBytes (Mt.runX (partOps memOps) T vView vHist) vkIn = .ok [1] ∧
          (M (partOps memOps)).getBytes (Mt.runX (partOps memOps) T vView vHist) [['m'], ['w']] = .error .keyNotFound ∧
          (M (partOps memOps)).getBytes (Mt.runX (partOps memOps) T vView vHist) vkOut = .ok [7] ∧
          (M (partOps memOps)).getBytes (Mt.runX (partOps memOps) T vView vHist) [['d'], ['y']] = .ok [8] ∧
          (M (partOps memOps)).contains (Mt.runX (partOps memOps) T vView vHist) [['n']] = .ok false := by decide +kernel
-- the same history on the mutated composite destroys the underlying store's entries
example : (M (partOps memOps)).getBytes (Mt.runX (partOps memOps) T vBypass vHist) vkOut = .error .keyNotFound ∧
          (M (partOps memOps)).getBytes (Mt.runX (partOps memOps) T vBypass vHist) [['d'], ['y']] = .error .keyNotFound := by
  decide +kernel
example : (M (partOps memOps)).apply vView (.removedir [['d']] true) = .error .readOnly := by decide +kernel
example : (M (partOps memOps)).apply vView (.removedir [['d']] false) = .error .readOnly := by decide +kernel
-- why `Above` is excluded: a recursive `removedir` of the mount point (or the root's child above it) first deletes what
-- is below IN THE MOUNTED STORE and then raises at the mount point (`mount_removedir_refuses`); the view's store is untouched
example : (M (partOps memOps)).apply (Mt.runX (partOps memOps) T vView [.store vkIn [1] (vum 'a')]) (.removedir vkM true)
            = .error .other ∧
          (M (partOps memOps)).getBytes (Mt.stepX (partOps memOps) T
            (Mt.runX (partOps memOps) T vView [.store vkIn [1] (vum 'a')]) (.removedir vkM true)) vkIn = .error .keyNotFound ∧
          (Mt.stepX (partOps memOps) T
            (Mt.runX (partOps memOps) T vView [.store vkIn [1] (vum 'a')]) (.removedir vkM true)).1 = some (.ro vUnder) := by
  decide +kernel

end ViewMount

end Liquer.C17

-- OBLIGATIONS: Liquer.C17.ro_refuses Liquer.C17.ro_step_unchanged Liquer.C17.ro_run_unchanged Liquer.C17.ro_reads Liquer.C17.ro_hist_reads Liquer.C17.ro_idem
-- OBLIGATIONS: Liquer.C17.contained Liquer.C17.meta_contained Liquer.C17.contained_comps Liquer.C17.meta_contained_comps Liquer.C17.rejects Liquer.C17.rejects_string Liquer.C17.meta_rejects Liquer.C17.path_contained Liquer.C17.metaPath_contained
-- OBLIGATIONS: Liquer.C17.contained_state Liquer.C17.root_kept
-- OBLIGATIONS: Liquer.Inst.memory_mutators_refused Liquer.Inst.file_mutators_refused Liquer.Inst.mutators_modelled Liquer.Inst.modelled_refused Liquer.Inst.method_modelled
-- OBLIGATIONS: Liquer.C17.view_mount_default_unchanged Liquer.C17.view_mount_shape_kept Liquer.C17.view_mount_refuses_outside Liquer.C17.view_mount_refuses_outside_recursive Liquer.C17.view_mount_removedir_root Liquer.C17.view_mount_reads_default Liquer.C17.view_mount_reads_default_exact Liquer.C17.view_mount_reads_default_mem Liquer.C17.view_mount_writes_inside Liquer.C17.view_mount_writes_inside_single Liquer.C17.bypass_mount_writes_through
