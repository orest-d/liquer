/-
C20 — The web service is a faithful transport of the library.

Proved here: the wire (client-side `quote`, one server-side un-quote), the shape of `serve` (a failing
query never yields a 2xx), the registration gate for ALL enable/disable/register histories, the route table
(regenerated from the Flask URL map and the `ast` of the views) against the documented API, the
`RemoteStore` request table against the route table, and the refinement "a history of endpoint calls is the
same history of library calls".  Flask/werkzeug routing, header handling and WSGI are third party: they
enter through the regenerated table and the correspondence streams of harness/props/C20.py.
-/
import LiquerModel.Web
import LiquerProofs.Lemmas.Quote
import LiquerProofs.Inst.Routes

namespace Liquer.C20
open Liquer Liquer.Web

theorem gateStep_state (e : Bool) (op : GateOp) : (gateStep e op).1 = lastToggle e [op] := by
  cases op <;> rfl

theorem lastToggle_cons (e : Bool) (op : GateOp) (rest : List GateOp) :
    lastToggle e (op :: rest) = lastToggle (gateStep e op).1 rest := by
  cases op <;> rfl

theorem gateTrace_get (init : Bool) (h : List GateOp) (i : Nat) :
    (gateTrace init h)[i]? = h[i]?.map fun op => (gateStep (lastToggle init (h.take i)) op).2 := by
  induction h generalizing init i with
  | nil => rfl
  | cons op rest ih =>
    cases i with
    | zero => rfl
    | succ i =>
      rw [gateTrace, List.getElem?_cons_succ, List.getElem?_cons_succ, List.take_succ_cons,
        lastToggle_cons]
      exact ih _ i

/-- **C20 gate**: for ALL histories of `enable` / `disable` / `register` calls, from either initial flag:
the `i`-th call, if it is a `register`, is accepted iff the most recent toggle before it was `enable`
(the initial flag if there was none). -/
theorem c20_gate (init : Bool) (h : List GateOp) (i : Nat) (hi : h[i]? = some GateOp.register) :
    (gateTrace init h)[i]? = some (some (lastToggle init (h.take i))) := by
  rw [gateTrace_get, hi]; rfl

/-- toggles are never reported as registrations -/
theorem c20_gate_toggle (init : Bool) (h : List GateOp) (i : Nat) (op : GateOp) (hi : h[i]? = some op)
    (hop : op ≠ GateOp.register) : (gateTrace init h)[i]? = some none := by
  rw [gateTrace_get, hi]
  cases op <;> first | rfl | exact absurd rfl hop

theorem lastToggle_append (a b : List GateOp) (e : Bool) :
    lastToggle e (a ++ b) = lastToggle (lastToggle e a) b := by
  induction a generalizing e with
  | nil => rfl
  | cons o a ih => rw [List.cons_append, lastToggle_cons, lastToggle_cons, ih]

theorem lastToggle_registers (m : List GateOp) (e : Bool) (hm : ∀ o ∈ m, o = GateOp.register) :
    lastToggle e m = e := by
  induction m with
  | nil => rfl
  | cons o m ih =>
    cases hm o List.mem_cons_self
    exact ih (fun o ho => hm o (List.mem_cons_of_mem _ ho))

theorem gate_after_toggle (init : Bool) (pre mid post : List GateOp) (t : GateOp)
    (hmid : ∀ o ∈ mid, o = GateOp.register) :
    (gateTrace init (pre ++ t :: mid ++ GateOp.register :: post))[(pre ++ t :: mid).length]? =
      some (some (gateStep (lastToggle init pre) t).1) := by
  have hidx : (pre ++ t :: mid ++ GateOp.register :: post)[(pre ++ t :: mid).length]? =
      some GateOp.register := by
    rw [List.getElem?_append_right (Nat.le_refl _), Nat.sub_self]; rfl
  rw [c20_gate init _ _ hidx, List.take_left' rfl, lastToggle_append, lastToggle_cons,
    lastToggle_registers mid _ hmid]

/-- in particular (the D12 history): after `disable` nothing is accepted until the next `enable` -/
theorem c20_gate_disabled (init : Bool) (pre mid post : List GateOp)
    (hmid : ∀ o ∈ mid, o = GateOp.register) :
    (gateTrace init (pre ++ GateOp.disable :: mid ++ GateOp.register :: post))[(pre ++ GateOp.disable :: mid).length]? =
      some (some false) :=
  gate_after_toggle init pre mid post .disable hmid

/-- the mirror image: after `enable` every registration is accepted until the next `disable` -/
theorem c20_gate_enabled (init : Bool) (pre mid post : List GateOp)
    (hmid : ∀ o ∈ mid, o = GateOp.register) :
    (gateTrace init (pre ++ GateOp.enable :: mid ++ GateOp.register :: post))[(pre ++ GateOp.enable :: mid).length]? =
      some (some true) :=
  gate_after_toggle init pre mid post .enable hmid

/-- every call of a history has exactly one outcome (no call is dropped or answered twice) -/
theorem c20_gate_length (init : Bool) (h : List GateOp) : (gateTrace init h).length = h.length := by
  induction h generalizing init with
  | nil => rfl
  | cons o rest ih => rw [gateTrace, List.length_cons, List.length_cons, ih]

/-- the flag the gate ends with depends on the toggles only: registrations (accepted or refused) never change it -/
theorem c20_gate_register_neutral (init : Bool) (a b : List GateOp) :
    lastToggle init (a ++ GateOp.register :: b) = lastToggle init (a ++ b) := by
  rw [lastToggle_append, lastToggle_append]; rfl

example : gateTrace false [.disable, .register] = [none, some false] := by decide +kernel
example : (gateTrace false ([.disable] ++ GateOp.enable :: [.register] ++ GateOp.register :: [.disable]))[3]? =
    some (some true) := c20_gate_enabled false [.disable] [.register] [.disable] (by decide)
-- the hypotheses of `c20_gate_toggle`, of `c20_gate_enabled` / `_disabled` (`hmid`) and of `c20_gate` can be met
example : ([GateOp.enable] : List GateOp)[0]? = some GateOp.enable ∧ GateOp.enable ≠ GateOp.register := by decide +kernel
example : ∀ o ∈ [GateOp.register, GateOp.register], o = GateOp.register := by decide +kernel
example : (gateTrace true ([.enable] ++ GateOp.disable :: [.register, .register] ++ GateOp.register :: [.enable]))[4]? =
    some (some false) := c20_gate_disabled true [.enable] [.register, .register] [.enable] (by decide)
example : gateTrace false [.enable, .register, .disable, .register, .register, .enable, .register] =
    [none, some true, none, some false, some false, none, some true] := by decide +kernel
example : ([GateOp.enable, .register] : List GateOp)[1]? = some GateOp.register := by decide +kernel

/-- **C20 wire**: the path a quoting client sends is delivered to the view unchanged, for every query text
(`dec`: any byte decoder inverting UTF-8 encoding; `DecOK decUtf8` is `Liquer.decUtf8_ok`). -/
theorem c20_wire {dec : List UInt8 → List Char} (hd : DecOK dec) (s : List Char) :
    unquote dec (quote s) = s := by
  have := unquote_quote_append hd s [] (fun _ h => nomatch h)
  rwa [List.append_nil, List.append_nil] at this

example : DecOK decUtf8 := decUtf8_ok

/-- **C20 serve, failure side**: if evaluation raises, or ends in an error state, or the result cannot be
serialised in the requested format, the response is a 500 — never a 2xx. -/
theorem c20_serve_never_2xx_on_failure {V B} (env : ServeEnv V B) (dec : List UInt8 → List Char) (raw : Str)
    (hfail : env.evaluate (unquote dec raw) = .raises ∨ env.evaluate (unquote dec raw) = .errorState ∨
      ∃ v ext, env.evaluate (unquote dec raw) = .ok v ext ∧ env.serialise v ext = none) :
    serve env dec raw = .error 500 ∧ (serve env dec raw).is2xx = false := by
  have h : serve env dec raw = .error 500 := by
    rw [serve, serveQuery]
    rcases hfail with h | h | ⟨v, ext, h, hs⟩
    · rw [h]
    · rw [h]
    · rw [h]; simp only [hs]
  exact ⟨h, by rw [h]; rfl⟩

/-- **C20 serve, success side**: a 2xx response carries exactly the bytes and media type obtained by
evaluating the (un-quoted) query in process and serialising the result in the format of its extension. -/
theorem c20_serve_2xx {V B} (env : ServeEnv V B) (dec : List UInt8 → List Char) (raw : Str)
    (h2 : (serve env dec raw).is2xx = true) :
    ∃ v ext b m, env.evaluate (unquote dec raw) = .ok v ext ∧ env.serialise v ext = some (b, m) ∧
      serve env dec raw = .ok b m := by
  unfold serve serveQuery at h2 ⊢
  cases he : env.evaluate (unquote dec raw) with
  | raises => rw [he] at h2; cases h2
  | errorState => rw [he] at h2; cases h2
  | ok v ext =>
    cases hs : env.serialise v ext with
    | none => simp only [he, hs] at h2; cases h2
    | some bm => exact ⟨v, ext, bm.1, bm.2, rfl, hs, by simp only [hs]⟩

/-- **C20 transport**: requesting `quote q` returns what in-process evaluation of `q` followed by
serialisation gives -/
theorem c20_serve_faithful {V B} (env : ServeEnv V B) {dec : List UInt8 → List Char} (hd : DecOK dec)
    (q : Str) (v : V) (ext : Option Str) (b : B) (m : Str)
    (he : env.evaluate q = .ok v ext) (hs : env.serialise v ext = some (b, m)) :
    serve env dec (quote q) = .ok b m := by
  simp only [serve, serveQuery, c20_wire hd, he, hs]

/-! non-vacuity: an environment where `"a "` evaluates and serialises, `"b"` is an error state -/
def demoEnv : ServeEnv Nat Nat :=
  { evaluate := fun q => if q = ['a', ' '] then .ok 1 none else if q = ['b'] then .errorState else .raises,
    serialise := fun v _ => some (v + 1, ['t']) }
example : serve demoEnv decUtf8 (quote ['a', ' ']) = .ok 2 ['t'] :=
  c20_serve_faithful demoEnv decUtf8_ok _ 1 none 2 ['t'] (by simp [demoEnv]) rfl
example : (serve demoEnv decUtf8 (quote ['a', ' '])).is2xx = true := by
  rw [c20_serve_faithful demoEnv decUtf8_ok _ 1 none 2 ['t'] (by simp [demoEnv]) rfl]; rfl
example : demoEnv.evaluate (unquote decUtf8 ['b']) = .errorState := by
  have : unquote decUtf8 ['b'] = ['b'] := c20_wire decUtf8_ok ['b']
  rw [this]; simp [demoEnv]

/-- **C20 routes**, for the tables regenerated from the current tree: (1) every store operation and every
exposed cache operation has an endpoint in the documented API; (2) every documented endpoint is served and
its view performs exactly one call of that library operation on `get_store()` / `get_cache()` with the
path parameter as key (nothing else that could modify the store or cache); (3) every `RemoteStore` method
requests endpoints performing the operation it implements. -/
theorem c20_routes :
    (∀ op ∈ storeOps ++ cacheOps, ∃ s ∈ apiSpec, s.2.2 = op) ∧
    (∀ s ∈ apiSpec, ∃ r, findRoute Gen.routes s.1 s.2.1 = some r ∧ routeDoes r s.2.2 = true) ∧
    remoteOK Gen.routes Gen.remoteStoreRows = true := by
  refine ⟨?_, ?_, Inst.remote_store_ok⟩
  · simpa only [coverageOK, List.all_eq_true, List.any_eq_true, beq_iff_eq] using Inst.api_coverage
  · intro s hs
    have h := List.all_eq_true.mp Inst.routes_spec s hs
    split at h
    · next r hf => exact ⟨r, hf, h⟩
    · cases h

/-- read-only operations leave the library state alone (law of the library, hypothesis) -/
def ReadOnlyLaw {σ K P R} (lib : Lib σ K P R) : Prop :=
  ∀ op k p s, readOnly op = true → (lib.step op k p s).1 = s

theorem runCalls_filter {σ K P R} (lib : Lib σ K P R) (law : ReadOnlyLaw lib) (op : LibOp)
    (calls : List (LibOp × KeyArg)) (k : K) (p : P) (s : σ) :
    runCalls lib calls k p s = runCalls lib (calls.filter (fun c => c.1 == op || !readOnly c.1)) k p s := by
  induction calls generalizing s with
  | nil => rfl
  | cons c calls ih =>
    rw [List.filter_cons]
    split
    · exact ih _
    · next hc =>
      rw [Bool.or_eq_true, not_or, Bool.not_eq_true, Bool.not_eq_true, Bool.not_eq_false'] at hc
      show runCalls lib calls k p (lib.step c.1 k p s).1 = _
      rw [law c.1 k p s hc.2]
      exact ih s

theorem runCalls_routeDoes {σ K P R} (lib : Lib σ K P R) (law : ReadOnlyLaw lib) (r : Route) (op : LibOp)
    (h : routeDoes r op = true) (k : K) (p : P) (s : σ) :
    runCalls lib r.calls k p s = (lib.step op k p s).1 := by
  rw [routeDoes, beq_iff_eq] at h
  rw [runCalls_filter lib law op, h]
  rfl

example : routeDoes ⟨['/', 'x'], [sPOST], ['v'], [(.storeGetMetadata, .path), (.storeStore, .path)]⟩ .storeStore = true ∧
    routeDoes ⟨['/', 'x'], [sGET], ['v'], [(.storeRemove, .path), (.storeStore, .path)]⟩ .storeStore = false := by decide +kernel

/-- a history of calls to documented endpoints, executed by the served views … -/
def runEndpoints {σ K P R} (lib : Lib σ K P R) (routes : List Route) :
    List ((Str × Str) × K × P) → σ → Option σ
  | [], s => some s
  | ((rule, verb), k, p) :: rest, s =>
    match specOp rule verb, findRoute routes rule verb with
    | some _, some r => runEndpoints lib routes rest (runCalls lib r.calls k p s)
    | _, _ => none

/-- … and the same history as direct library calls -/
def runLibrary {σ K P R} (lib : Lib σ K P R) : List ((Str × Str) × K × P) → σ → Option σ
  | [], s => some s
  | ((rule, verb), k, p) :: rest, s =>
    match specOp rule verb with
    | some op => runLibrary lib rest (lib.step op k p s).1
    | none => none

theorem specOp_mem {rule verb : Str} {op : LibOp} (h : specOp rule verb = some op) :
    (rule, verb, op) ∈ apiSpec := by
  obtain ⟨⟨s1, s2, s3⟩, hs, rfl⟩ := Option.map_eq_some_iff.mp h
  have hp := List.find?_some hs
  rw [Bool.and_eq_true, beq_iff_eq, beq_iff_eq] at hp
  rw [← hp.1, ← hp.2]
  exact List.mem_of_find?_eq_some hs

/-- **C20 histories**: for every history (any length) of calls to documented store / cache endpoints, the
served store / cache ends in exactly the state the same library calls produce. -/
theorem c20_histories {σ K P R} (lib : Lib σ K P R) (law : ReadOnlyLaw lib)
    (h : List ((Str × Str) × K × P)) (s : σ) :
    runEndpoints lib Gen.routes h s = runLibrary lib h s := by
  induction h generalizing s with
  | nil => rfl
  | cons c rest ih =>
    obtain ⟨⟨rule, verb⟩, k, p⟩ := c
    simp only [runEndpoints, runLibrary]
    cases hop : specOp rule verb with
    | none => rfl
    | some op =>
      obtain ⟨r, hr, hd⟩ := c20_routes.2.1 (rule, verb, op) (specOp_mem hop)
      simp only at hr hd
      simp only [hr, runCalls_routeDoes lib law r op hd, ih]

/-! non-vacuity: a counter library where only `storeStore` changes the state -/
def demoLib : Lib Nat Unit Unit Nat :=
  { step := fun op _ _ s => if op = .storeStore then (s + 1, s) else (s, s) }
example : ReadOnlyLaw demoLib := by
  intro op k p s h
  cases op <;> simp_all [demoLib, readOnly]
example : specOp ['/', 'a', 'p', 'i', '/', 's', 't', 'o', 'r', 'e', '/', 'k', 'e', 'y', 's'] sGET = some .storeKeys := by
  decide +kernel

end Liquer.C20

-- OBLIGATIONS: Liquer.C20.c20_gate Liquer.C20.c20_gate_toggle Liquer.C20.c20_gate_disabled Liquer.C20.c20_wire Liquer.C20.c20_serve_never_2xx_on_failure Liquer.C20.c20_serve_2xx Liquer.C20.c20_serve_faithful Liquer.C20.c20_routes Liquer.C20.c20_histories Liquer.C20.c20_gate_enabled Liquer.C20.c20_gate_length Liquer.C20.c20_gate_register_neutral
