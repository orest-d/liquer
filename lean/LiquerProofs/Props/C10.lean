/-
C10 — state variables and mutable values are isolated between evaluations. Theorems over LiquerModel/Iso.lean.

"State variables set inside a query are visible only to the steps to their right in that query, and every evaluation starts
from the configured defaults, so one evaluation can never observe variables set by another.  A command that mutates its
input in place, or a caller that mutates a returned value or its metadata, cannot change what the cache subsequently serves,
what previously returned states contain, or the configured variable defaults."

Model: values are objects in a heap (`Heap`), a `State` is a pair of references (data, metadata dictionary holding the
variable dictionary); `evalChain` mirrors where the implementation copies (`vars_clone`, `State.clone` before a command
unless volatile, clone on `cache.store` and on `cache.get`) and where it does not (commands get live objects, link arguments
are live data, the caller gets the live state).  Histories (`Op`, `step`, `run`) interleave evaluations with mutations by the
caller of the states it was given.

Vocabulary (Lemmas/IsoHeap, IsoStage, IsoFrame, IsoSep):
  `cellsState h st`, `cellsVars vs` — the cells an object owns;      `absState h st`, `absVars h vs` — what it means now;
  `Inv w`      — all references of cache entries and defaults allocated; cache entries own pairwise disjoint cells, disjoint
                 from the defaults;
  `Sep s`      — `Inv` and: returned states, cache entries, defaults own pairwise disjoint cells;
  `Good w w' L` — the evaluation that went from `w` to `w'` wrote no cell of `w`, its new cache entries are new cells, and it
                 owns the new cells `L`, which no cache entry owns;
  `Op.target`  — the index of the returned state a caller operation addresses;
  `refChain d n acts` — the value-level meaning of a chain under the defaults `d` (no heap, no cache);
  `Agrees h st r`, `EntryOK d P h e`, `SoundW d P w`, `HSound d P s` — a heap state / a cache entry / the cache / a history
                 agree with that meaning (Lemmas/IsoCmdSim, IsoSound, IsoEvalSound);
  `Closed P`, `KeyOK d P`, `Safe d P` — the class of chains an evaluation stays in, "cache keys determine the meaning"
                 (what C02/C03 establish for the canonical text), "`getvar` and `cvapp` are not applied to a volatile state".

Commands see two sets of variables: those of the state they are handed (`state.vars`: `let`, `getvar`, `vapp`) and those of
the context (`context.vars`: `cvapp`) — the latter are the very objects of the PREDECESSOR state, taken before it was cloned
(`cmdH … ctx …`, `evalChain` passes the predecessor's variable list).  The predecessor is the initial state (deep copies of
the defaults) or the result of the recursive evaluation, so its cells were allocated by this evaluation: the footprint of a
command (`cmdFoot`) is the state in hand, the argument values and the context's variables, all owned by the running
evaluation, and the frame (section 1) covers them.  The caller operations include `mutInner` (`R[i].data[0][:] = l`, an
in-place write to a list nested in returned data; one cell per value, so it is a write to the data cell of state `i`).

Finding recorded by the last examples of section 6: a volatile state is not cloned before a command.  `getvar` hands out the
variable's own object as data, so in `vol/getvar-lst/app-x` the in-place `append` also changes the variable `lst` of the
returned state; `cvapp` appends to the context's variable, which for a volatile predecessor IS the variable of the state the
command returns, so in `vol/cvapp-lst-x` the variable `lst` of the returned state changes too (the value-level meaning keeps
`lst` at its default in both cases: after a clone the context's object is not the state's).  Nothing leaks to another
evaluation (the theorems of sections 1-3 hold for all chains), but the "result = meaning" theorems need the hypothesis `Safe`.
-/
import LiquerProofs.Lemmas.IsoEvalSound
import LiquerProofs.Lemmas.IsoExample

namespace Liquer.C10

open Liquer.Iso

/-! ### 1. frame of one evaluation (any fuel, any chain, any well-formed world) -/

/-- An evaluation never writes a cell that existed when it started: every in-place mutation by a command hits a clone or an
object this evaluation created.  The state it returns and the cache entries it adds are made of new cells, and the returned
state shares no cell with any cache entry; the defaults are the same list of references; well-formedness is preserved. -/
theorem eval_frame (n : Nat) (w : World) (absolute : Bool) (acts : List Act) (i : Inv w) :
    Inv (evalChain n w absolute acts).1 ∧
    (∀ a, a < w.heap.next → (evalChain n w absolute acts).1.heap.cells a = w.heap.cells a) ∧
    w.heap.next ≤ (evalChain n w absolute acts).1.heap.next ∧
    (evalChain n w absolute acts).1.defaults = w.defaults ∧
    (∀ e ∈ (evalChain n w absolute acts).1.cache,
      e ∈ w.cache ∨ ∀ a ∈ cellsState (evalChain n w absolute acts).1.heap e.2, w.heap.next ≤ a) ∧
    (∀ st, (evalChain n w absolute acts).2 = .st st →
      (∀ a ∈ cellsState (evalChain n w absolute acts).1.heap st,
        w.heap.next ≤ a ∧ a < (evalChain n w absolute acts).1.heap.next) ∧
      ∀ e ∈ (evalChain n w absolute acts).1.cache,
        Disj (cellsState (evalChain n w absolute acts).1.heap e.2) (cellsState (evalChain n w absolute acts).1.heap st)) := by
  have g := (Iso.eval_frame n).1 w absolute acts i (evalChain n w absolute acts).1 (evalChain n w absolute acts).2 rfl
  refine ⟨g.inv, g.post.frame, g.post.mono, g.post.dflt, fun e he => ?_, fun st hst => ?_⟩
  · rcases g.post.cache e he with ⟨h, -⟩ | h
    · exact Or.inl h
    · exact Or.inr h
  · have o := g.own
    rw [hst] at o
    exact ⟨o.rng, o.cache⟩

-- `Inv` is satisfiable with a reference among the defaults
example : Inv { heap := { next := 3 }, defaults := [("x".toList, .ref 1)] } :=
  ⟨fun _ _ => rfl, fun _ h => (nomatch h), fun a h => (by simp [cellsVars, cellsHV] at h; subst h; decide), List.Pairwise.nil,
   fun _ h => (nomatch h)⟩

/-- the same for the argument list of an action: the argument values are new objects no cache entry owns -/
theorem args_frame (n : Nat) (w : World) (args : List Arg) (i : Inv w) :
    Inv (evalArgs n w args).1 ∧
    (∀ a, a < w.heap.next → (evalArgs n w args).1.heap.cells a = w.heap.cells a) ∧
    (∀ vs, (evalArgs n w args).2 = some vs →
      (∀ a ∈ vs.flatMap cellsHV, w.heap.next ≤ a ∧ a < (evalArgs n w args).1.heap.next) ∧
      ∀ e ∈ (evalArgs n w args).1.cache, Disj (cellsState (evalArgs n w args).1.heap e.2) (vs.flatMap cellsHV)) := by
  have g := (Iso.eval_frame n).2 w args i (evalArgs n w args).1 (evalArgs n w args).2 rfl
  refine ⟨g.inv, g.post.frame, fun vs hvs => ?_⟩
  have o := g.own
  rw [hvs] at o
  exact ⟨o.rng, o.cache⟩

/-! ### 2. the separation invariant of histories -/

theorem sep_init {h0 : Heap} {d : List (Str × HV)} (b : Bool) (wf : h0.WF) (hd : ∀ a ∈ cellsVars d, a < h0.next) :
    Sep { w := { heap := h0, defaults := d, cacheOn := b } } := Sep.init b wf hd

/-- every operation — an evaluation of any chain, any mutation by the caller — preserves separation -/
theorem sep_step {s : Hist} (sp : Sep s) (op : Op) : Sep (step s op) := sp.step op

theorem sep_run {s : Hist} (sp : Sep s) (ops : List Op) : Sep (run s ops) := sp.run ops

/-! ### 3. isolation -/

/-- a caller mutating the returned state `i` (its data, a list nested in its data, a variable's value, the variable
dictionary, the metadata) changes no other returned state, no cache entry and not the defaults -/
theorem caller_isolation {s : Hist} (sp : Sep s) (op : Op) (i : Nat) (ht : op.target = some i) :
    (step s op).returned = s.returned ∧ (step s op).w.cache = s.w.cache ∧ (step s op).w.defaults = s.w.defaults ∧
    (∀ j st, j ≠ i → s.nth j = some st → absState (step s op).w.heap st = absState s.w.heap st) ∧
    (∀ e ∈ s.w.cache, absState (step s op).w.heap e.2 = absState s.w.heap e.2) ∧
    absVars (step s op).w.heap s.w.defaults = absVars s.w.heap s.w.defaults :=
  ⟨(caller_keeps op i ht).1, (caller_keeps op i ht).2.1, (caller_keeps op i ht).2.2.1, Iso.caller_isolation sp op i ht⟩

/-- an evaluation — whatever its commands mutate in place — changes no previously returned state, no entry the cache had and
not the defaults; it writes no old cell at all -/
theorem eval_isolation {s : Hist} (sp : Sep s) (q : List Act) :
    (∀ a, a < s.w.heap.next → (step s (.eval q)).w.heap.cells a = s.w.heap.cells a) ∧
    (∀ j st, s.nth j = some st →
      (step s (.eval q)).nth j = some st ∧ absState (step s (.eval q)).w.heap st = absState s.w.heap st) ∧
    (∀ e ∈ s.w.cache, absState (step s (.eval q)).w.heap e.2 = absState s.w.heap e.2) ∧
    (∀ e ∈ (step s (.eval q)).w.cache,
      e ∈ s.w.cache ∨ ∀ a ∈ cellsState (step s (.eval q)).w.heap e.2, s.w.heap.next ≤ a) ∧
    (step s (.eval q)).w.defaults = s.w.defaults ∧
    absVars (step s (.eval q)).w.heap s.w.defaults = absVars s.w.heap s.w.defaults := by
  obtain ⟨h1, h2, h3, h4⟩ := Iso.eval_isolation sp q
  exact ⟨eval_frame_cells sp q, fun j st hn => ⟨eval_nth q hn, h1 j st hn⟩, h2, h3, (eval_keeps sp q).1, h4⟩

theorem defaults_never_change {s : Hist} (sp : Sep s) (ops : List Op) :
    (run s ops).w.defaults = s.w.defaults ∧
      absVars (run s ops).w.heap (run s ops).w.defaults = absVars s.w.heap s.w.defaults := run_dflt sp ops

/-- what a returned state contains changes only by the caller's own operations on that state -/
theorem returned_never_changes {s : Hist} (sp : Sep s) (ops : List Op) {j : Nat} {st : HState} (hn : s.nth j = some st)
    (ht : ∀ op ∈ ops, op.target ≠ some j) :
    (run s ops).nth j = some st ∧ absState (run s ops).w.heap st = absState s.w.heap st := run_returned sp ops hn ht

/-! ### 4. every result is the value-level meaning of its chain, whatever happened before -/

/-- `Safe` follows from a syntactic condition: no `vol` to the left of a `getvar` or a `cvapp` in the chains of the class -/
theorem safe_of_no_vol_before_getvar {d : List (Str × Val)} {P : List Act → Prop}
    (hsyn : ∀ acts act, P acts → acts.getLast? = some act →
      (String.ofList act.name = "getvar" ∨ String.ofList act.name = "cvapp") →
      ∀ b ∈ acts.dropLast, String.ofList b.name ≠ "vol") : Safe d P := safe_of_syntactic hsyn

/-- `KeyOK` follows from injectivity of the key text on the class -/
theorem keyOK_of_injective_keys {d : List (Str × Val)} {P : List Act → Prop}
    (hinj : ∀ a b acts acts', P acts → P acts' → keyOf a acts = keyOf b acts' → acts = acts') : KeyOK d P :=
  keyOK_of_injective hinj

example : Closed Ex.P0 ∧ KeyOK Ex.d0 Ex.P0 ∧ Safe Ex.d0 Ex.P0 := ⟨Ex.closed0, Ex.keyOK0, Ex.safe0⟩

/-- one evaluation in any well-formed world with a sound cache: the cache stays sound and the returned state agrees with
the meaning of the chain — data, variables, volatility, caching — for every fuel -/
theorem eval_is_meaning {d : List (Str × Val)} {P : List Act → Prop} (hC : Closed P) (hK : KeyOK d P) (hS : Safe d P)
    (n : Nat) (w : World) (absolute : Bool) (acts : List Act) (i : Inv w) (sw : SoundW d P w) (hP : P acts) :
    SoundW d P (evalChain n w absolute acts).1 ∧
    ∀ st, (evalChain n w absolute acts).2 = .st st → ∃ m r, refChain d m acts = some r ∧
      (absState (evalChain n w absolute acts).1.heap st).data = r.data ∧
      (absState (evalChain n w absolute acts).1.heap st).vars = r.vars ∧
      (absState (evalChain n w absolute acts).1.heap st).volatile = r.volatile ∧
      (absState (evalChain n w absolute acts).1.heap st).caching = r.caching := by
  have h := (eval_sound hC hK hS n).1 w absolute acts i sw hP _ _ rfl
  refine ⟨h.1, fun st hst => ?_⟩
  have h2 := h.2
  rw [hst] at h2
  obtain ⟨m, r, h3, h4, -⟩ := h2
  exact ⟨m, r, h3, h4.abs⟩

/-- separation and soundness of the cache survive every history: evaluations of chains of the class (with commands that
mutate in place) and arbitrary mutations by the caller -/
theorem history_sound {d : List (Str × Val)} {P : List Act → Prop} (hC : Closed P) (hK : KeyOK d P) (hS : Safe d P)
    {s : Hist} (hs : HSound d P s) (ops : List Op) (hP : ∀ q, Op.eval q ∈ ops → P q) : HSound d P (run s ops) :=
  hs.run hC hK hS ops hP

/-- what the cache serves: at any point of any history every entry is ready, non-volatile, cacheable and agrees with the
meaning of every chain of the class that has its key -/
theorem cache_entry_is_meaning {d : List (Str × Val)} {P : List Act → Prop} (hK : KeyOK d P) {s : Hist}
    (hs : HSound d P s) {e : Str × HState} (he : e ∈ s.w.cache) {absolute : Bool} {acts : List Act} (hP : P acts)
    (hk : keyOf absolute acts = e.1) :
    ∃ m r, refChain d m acts = some r ∧ (absState s.w.heap e.2).data = r.data ∧ (absState s.w.heap e.2).vars = r.vars ∧
      (absState s.w.heap e.2).volatile = false ∧ (absState s.w.heap e.2).caching = true ∧
      (absState s.w.heap e.2).status = statusReady := by
  obtain ⟨abs', acts', m, r, h1, h2, h3, h4, h5, h6, h7⟩ := hs.sound.entries e he
  refine ⟨m, r, ?_, h4.abs.1, h4.abs.2.1, h4.abs.2.2.1.trans h5, h4.abs.2.2.2.trans h6, h7⟩
  rw [hK absolute abs' acts acts' hP h1 (hk.trans h2.symm) m]
  exact h3

/-- THE isolation statement: start from an empty cache with configured defaults `dd` (allocated, distinct names).  After ANY
history — evaluations of chains of the class, in-place mutating commands, the caller mutating every state it was given —
the state returned by a final evaluation of `q` has the data, variables, volatility and caching of the value-level meaning of
`q` under the defaults as they were configured at the start.  Nothing an earlier evaluation or the caller did is visible. -/
theorem result_is_meaning {P : List Act → Prop} (hC : Closed P) {h0 : Heap} {dd : List (Str × HV)} (b : Bool) (wf : h0.WF)
    (hd : ∀ a ∈ cellsVars dd, a < h0.next) (hkeys : (dd.map Prod.fst).Nodup) (hK : KeyOK (absVars h0 dd) P)
    (hS : Safe (absVars h0 dd) P) (ops : List Op) (q : List Act) (hP : ∀ q', Op.eval q' ∈ ops ++ [.eval q] → P q')
    (st : HState)
    (hst : (run { w := { heap := h0, defaults := dd, cacheOn := b } } (ops ++ [.eval q])).returned.getLast? = some (some st)) :
    ∃ m r, refChain (absVars h0 dd) m q = some r ∧
      (absState (run { w := { heap := h0, defaults := dd, cacheOn := b } } (ops ++ [.eval q])).w.heap st).data = r.data ∧
      (absState (run { w := { heap := h0, defaults := dd, cacheOn := b } } (ops ++ [.eval q])).w.heap st).vars = r.vars ∧
      (absState (run { w := { heap := h0, defaults := dd, cacheOn := b } } (ops ++ [.eval q])).w.heap st).volatile = r.volatile ∧
      (absState (run { w := { heap := h0, defaults := dd, cacheOn := b } } (ops ++ [.eval q])).w.heap st).caching = r.caching := by
  have hs0 : HSound (absVars h0 dd) P { w := { heap := h0, defaults := dd, cacheOn := b } } := HSound.init b wf hd hkeys
  have hs := hs0.run hC hK hS ops (fun q' hq' => hP q' (List.mem_append_left _ hq'))
  rw [run_append] at hst ⊢
  have he := (hs.eval hC hK hS (hP q (by simp))).2
  rw [last_returned] at hst
  generalize (evalChain (evalFuel q) { (run _ ops).w with calls := [] } false q).2 = r at hst he
  cases r with
  | fail => simp [resOpt] at hst
  | st st' =>
    obtain rfl : st' = st := by simpa [resOpt] using hst
    obtain ⟨m, r, h1, h2⟩ := he st' rfl
    exact ⟨m, r, h1, h2.abs⟩

theorem meaning_unique {d : List (Str × Val)} {m m' : Nat} {q : List Act} {r r' : RState}
    (h : refChain d m q = some r) (h' : refChain d m' q = some r') : r = r' := by
  have h1 := refChain_mono h (Nat.le_max_left m m')
  have h2 := refChain_mono h' (Nat.le_max_right m m')
  rw [h1] at h2
  exact Option.some.inj h2

/-- one evaluation can never observe what another evaluation or the caller did: two histories from the same configuration —
however different — that end with an evaluation of the same chain return states with the same data, variables, volatility
and caching -/
theorem result_independent_of_history {P : List Act → Prop} (hC : Closed P) {h0 : Heap} {dd : List (Str × HV)}
    (b b' : Bool) (wf : h0.WF) (hd : ∀ a ∈ cellsVars dd, a < h0.next) (hkeys : (dd.map Prod.fst).Nodup)
    (hK : KeyOK (absVars h0 dd) P) (hS : Safe (absVars h0 dd) P) (ops ops' : List Op) (q : List Act)
    (hP : ∀ q', Op.eval q' ∈ ops ++ [.eval q] → P q') (hP' : ∀ q', Op.eval q' ∈ ops' ++ [.eval q] → P q')
    (st st' : HState)
    (hst : (run { w := { heap := h0, defaults := dd, cacheOn := b } } (ops ++ [.eval q])).returned.getLast? = some (some st))
    (hst' : (run { w := { heap := h0, defaults := dd, cacheOn := b' } } (ops' ++ [.eval q])).returned.getLast? =
      some (some st')) :
    let H := (run { w := { heap := h0, defaults := dd, cacheOn := b } } (ops ++ [.eval q])).w.heap
    let H' := (run { w := { heap := h0, defaults := dd, cacheOn := b' } } (ops' ++ [.eval q])).w.heap
    (absState H st).data = (absState H' st').data ∧ (absState H st).vars = (absState H' st').vars ∧
      (absState H st).volatile = (absState H' st').volatile ∧ (absState H st).caching = (absState H' st').caching := by
  obtain ⟨m, r, h1, h2, h3, h4, h5⟩ := result_is_meaning hC b wf hd hkeys hK hS ops q hP st hst
  obtain ⟨m', r', h1', h2', h3', h4', h5'⟩ := result_is_meaning hC b' wf hd hkeys hK hS ops' q hP' st' hst'
  obtain rfl := meaning_unique h1 h1'
  exact ⟨h2.trans h2'.symm, h3.trans h3'.symm, h4.trans h4'.symm, h5.trans h5'.symm⟩

/-! ### 5. variable scope on the value-level meaning -/

/-- a `let-k-v` step makes `getvar-k` to its right return `v` -/
theorem let_visible_to_the_right {d : List (Str × Val)} {n : Nat} {acts : List Act} {r : RState} (k v : Str)
    (hne : acts ≠ []) (h : refChain d n acts = some r) :
    ∃ m, refChain d m (acts ++ [.mk "let".toList [.text k, .text v], .mk "getvar".toList [.text k]]) =
      some { r with data := .str v, vars := setVarV r.vars k (.str v) } :=
  let_visible_right String.ofList_toList String.ofList_toList k v hne h

/-- every chain starts from the configured defaults … -/
theorem chain_starts_from_defaults (d : List (Str × Val)) (n : Nat) (act : Act) :
    refChain d (n + 1) [act] =
      (refArgs d n act.args).bind (fun args => cmdV { vars := d } (String.ofList act.name) args) :=
  first_step_from_defaults n act

/-- … and so does every link argument: its value is the meaning of the linked chain under the defaults, whatever variables
the steps to the left of the action have set -/
theorem link_argument_from_defaults (d : List (Str × Val)) (n : Nat) (q : List Act) (rest : List Arg) :
    refArgs d (n + 1) (.link q :: rest) = (refChain d n q).bind (fun v => (refArgs d n rest).map (fun vs => v.data :: vs)) :=
  refArgs_link d n q rest

/-- a chain that never assigns `k` reads the configured default of `k` -/
theorem unassigned_variable_is_default {d : List (Str × Val)} (k : Str) {m : Nat} {acts : List Act} {r : RState}
    (h : refChain d m acts = some r) (hn : NoSet k acts) : getVarV r.vars k = getVarV d k :=
  unset_var_is_default k m acts r h hn

example : NoSet (Ex.S "lst") Ex.qAGX ∧ (refChain Ex.d0 9 Ex.qAGX).isSome = true := by
  refine ⟨fun b hb hn => ?_, by decide +kernel⟩
  simp only [Ex.qAGX, List.mem_cons, List.not_mem_nil, or_false] at hb
  rcases hb with rfl | rfl | rfl <;> exact absurd hn (by decide +kernel)

/-! ### 6. a concrete history -/

section example_history
open Ex

/-- data / variables of the `i`-th returned state as they are now -/
def dataOf (s : Hist) (i : Nat) : Option Val := (s.nth i).map (fun st => (absState s.w.heap st).data)
def varsOf (s : Hist) (i : Nat) : Option (List (Str × Val)) := (s.nth i).map (fun st => (absState s.w.heap st).vars)

def zz : List Val := [.str (S "zz")]

/-- evaluate `mk-a/app-b`; the caller overwrites the returned list; evaluate it again, then `mk-a/app-b/app-c` (whose
predecessor comes from the cache and is appended to in place), then `mk-a/getvar-lst/app-x` (appends to the variable's
object), overwrite the variable `lst` of that result, evaluate it again -/
def ops1 : List Op :=
  [.eval qAB, .mutData 0 zz, .eval qAB, .eval qABC, .eval qAGX, .mutVar 3 (S "lst") zz, .eval qAGX]

example : Sep (run s0 ops1) ∧ HSound d0 P0 (run s0 ops1) := by
  refine ⟨sep_run sep0 _, history_sound closed0 keyOK0 safe0 (HSound.init true h0_wf dd_lt dd_keys) _ (fun q hq => ?_)⟩
  simp only [ops1, List.mem_cons, Op.eval.injEq, List.not_mem_nil, or_false, reduceCtorEq, false_or] at hq
  rcases hq with rfl | rfl | rfl | rfl | rfl <;> simp only [P0, chains, List.mem_cons, true_or, or_true]

example :
    dataOf (run s0 ops1) 0 = some (.list zz) ∧
    dataOf (run s0 ops1) 1 = some (.list [.str (S "a"), .str (S "b")]) ∧
    dataOf (run s0 ops1) 2 = some (.list [.str (S "a"), .str (S "b"), .str (S "c")]) ∧
    dataOf (run s0 ops1) 3 = some (.list [.str (S "d1"), .str (S "x")]) ∧
    varsOf (run s0 ops1) 3 = some [(S "lst", .list zz)] ∧
    dataOf (run s0 ops1) 4 = some (.list [.str (S "d1"), .str (S "x")]) ∧
    varsOf (run s0 ops1) 4 = some d0 ∧
    absVars (run s0 ops1).w.heap (run s0 ops1).w.defaults = d0 :=
  ⟨rfl, rfl, rfl, rfl, rfl, rfl, rfl, rfl⟩

/-- `ext` mutates its link argument in place (`o.append("m")`): the cached value of the link `/mk-z` is not affected -/
example :
    dataOf (run s0 [.eval qAE, .eval [.mk (S "mk") [.text (S "b")], extZ]]) 0 = some (.list [.str (S "a"), .str (S "z")]) ∧
    dataOf (run s0 [.eval qAE, .eval [.mk (S "mk") [.text (S "b")], extZ]]) 1 = some (.list [.str (S "b"), .str (S "z")]) :=
  ⟨rfl, rfl⟩

/-- `cvapp` as the FIRST action of a chain: the context's variables are the initial state's own copies of the configured
defaults (cell 1 is the copy of `lst`, cell 0 the configured object).  The append hits the copy; the state handed to the
command is a clone of the initial state, so the result still has the default; the configured defaults abstract to `d0` -/
example :
    (run s0 [.eval qCG]).w.heap.valAt 1 = .list [.str (S "d1"), .str (S "x")] ∧
    (run s0 [.eval qCG]).w.heap.valAt 0 = .list [.str (S "d1")] ∧
    dataOf (run s0 [.eval qCG]) 0 = some (.list [.str (S "d1")]) ∧
    varsOf (run s0 [.eval qCG]) 0 = some d0 ∧
    (refChain d0 9 qCG).map (fun r => (r.data, r.vars)) = some (.list [.str (S "d1")], d0) ∧
    absVars (run s0 [.eval qCG]).w.heap (run s0 [.eval qCG]).w.defaults = d0 :=
  ⟨rfl, rfl, rfl, rfl, rfl, rfl⟩

/-- that chain (and its one-step prefix, served from the cache the second time) satisfies the hypotheses of the theorems of
section 4: `cvapp` follows no `vol` -/
example : HSound d0 P0 (run s0 [.eval [cvX], .eval qCG, .eval qCG]) := by
  refine history_sound closed0 keyOK0 safe0 (HSound.init true h0_wf dd_lt dd_keys) _ (fun q hq => ?_)
  simp only [List.mem_cons, Op.eval.injEq, List.not_mem_nil, or_false] at hq
  rcases hq with rfl | rfl | rfl <;> simp only [P0, chains, List.mem_cons, true_or, or_true]

/-- data of the cache entry under a key, as it is now -/
def cacheData (s : Hist) (k : Str) : Option Val := (s.w.entry k).map (fun e => (absState s.w.heap e).data)

/-- evaluate `mk-a/pair-~X~/mk-z~E` (data `[[a],[z]]`: a list nested in the data) and `mk-a/app-b`; the caller overwrites the
inner list of the first result in place (`mutInner`); evaluate the first chain again -/
def ops2 : List Op := [.eval qAP, .eval qAB, .mutInner 0 zz, .eval qAP]

example : (Op.mutInner 0 zz).target = some 0 ∧ Sep (run s0 ops2) ∧ HSound d0 P0 (run s0 ops2) := by
  refine ⟨rfl, sep_run sep0 _,
    history_sound closed0 keyOK0 safe0 (HSound.init true h0_wf dd_lt dd_keys) _ (fun q hq => ?_)⟩
  simp only [ops2, List.mem_cons, Op.eval.injEq, List.not_mem_nil, or_false, reduceCtorEq, false_or] at hq
  rcases hq with rfl | rfl | rfl <;> simp only [P0, chains, List.mem_cons, true_or, or_true]

/-- the write shows in the state it was made on and nowhere else: not in the cache entry, not in the other returned state,
not in what the next evaluation returns -/
example :
    dataOf (run s0 ops2) 0 = some (.list [.list zz, .list [.str (S "z")]]) ∧
    dataOf (run s0 ops2) 1 = some (.list [.str (S "a"), .str (S "b")]) ∧
    cacheData (run s0 ops2) (keyOf false qAP) = some (.list [.list [.str (S "a")], .list [.str (S "z")]]) ∧
    dataOf (run s0 ops2) 2 = some (.list [.list [.str (S "a")], .list [.str (S "z")]]) ∧
    absVars (run s0 ops2).w.heap (run s0 ops2).w.defaults = d0 :=
  ⟨rfl, rfl, rfl, rfl, rfl⟩

/-- why `Safe` is needed (finding): in the volatile chain `vol/getvar-lst/app-x` the state is not cloned between steps, the
data IS the variable's object, and the `append` changes the variable `lst` of the returned state; the value-level meaning
keeps the default.  (The defaults themselves and every other state are untouched — `defaults_never_change`.) -/
example :
    varsOf (run s0 [.eval [vol, getL, appX]]) 0 = some [(S "lst", .list [.str (S "d1"), .str (S "x")])] ∧
    (refChain d0 9 [vol, getL, appX]).map (·.vars) = some d0 ∧
    absVars (run s0 [.eval [vol, getL, appX]]).w.heap (run s0 [.eval [vol, getL, appX]]).w.defaults = d0 :=
  ⟨rfl, rfl, rfl⟩

/-- the same for `cvapp` (finding): after `vol` the state is not cloned, the context's variable `lst` IS the variable of the
state the command returns, and the append shows in the result's variables; the value-level meaning keeps the default.  (The
configured defaults are untouched: the volatile state still holds the initial state's copies.) -/
example :
    varsOf (run s0 [.eval [vol, cvX]]) 0 = some [(S "lst", .list [.str (S "d1"), .str (S "x")])] ∧
    (refChain d0 9 [vol, cvX]).map (·.vars) = some d0 ∧
    absVars (run s0 [.eval [vol, cvX]]).w.heap (run s0 [.eval [vol, cvX]]).w.defaults = d0 :=
  ⟨rfl, rfl, rfl⟩

end example_history

end Liquer.C10

-- OBLIGATIONS: Liquer.C10.eval_frame Liquer.C10.args_frame Liquer.C10.sep_init Liquer.C10.sep_step Liquer.C10.sep_run Liquer.C10.caller_isolation Liquer.C10.eval_isolation Liquer.C10.defaults_never_change Liquer.C10.returned_never_changes Liquer.C10.safe_of_no_vol_before_getvar Liquer.C10.keyOK_of_injective_keys Liquer.C10.eval_is_meaning Liquer.C10.history_sound Liquer.C10.cache_entry_is_meaning Liquer.C10.result_is_meaning Liquer.C10.meaning_unique Liquer.C10.result_independent_of_history Liquer.C10.let_visible_to_the_right Liquer.C10.chain_starts_from_defaults Liquer.C10.link_argument_from_defaults Liquer.C10.unassigned_variable_is_default
