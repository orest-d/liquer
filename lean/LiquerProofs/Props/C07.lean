/-
C07 — Store contract.

The contract is a set of theorems about the reference store `specOps` on every tree state (`fs.tree`, an invariant of
every well-formed history); the models of `MemoryStore` and `FileStore` (a POSIX tree with `__metadata__/<name>.json`
sibling files) refine it on every well-formed history (the latter over keys with plain components); proxies are the identity.

Reads are pure *by construction*: `getBytes`, `getMeta`, `contains`, `isDir`, `keys`, `listdir` of a
`StoreOps σ` return a value and no state, so no read can change what a later operation sees
(for the implementation this is the `reads-pure` clause of the harness oracle).
-/
import LiquerProofs.Lemmas.StoreSpec
import LiquerProofs.Lemmas.StoreMem
import LiquerProofs.Lemmas.StoreFileRef3
import LiquerModel.StoreFile
import LiquerModel.StoreProxy

namespace Liquer.C07
open Liquer

theorem spec_store_get (fs : FS) (k : Key) (d : Data) (m : UMeta) :
    (specOps.step fs (.store k d m)).get k = some (.file d { m with size := some d.length, md5 := some d }) := by
  show ((fs.mkdirs (ancestors k)).set k _).get k = _
  rw [FS.get_set, if_pos rfl]

/-- **read-back**: after `store k d m` the same bytes are read and the metadata describe what was stored:
key, name, not a directory, size, checksum (`md5` is modelled as the data itself), and the caller's fields. -/
theorem spec_store_read (fs : FS) (k : Key) (d : Data) (m : UMeta) :
    specOps.getBytes (specOps.step fs (.store k d m)) k = .ok d ∧
    specOps.getMeta (specOps.step fs (.store k d m)) k =
      .ok { key := k, name := keyName k, isDir := false, size := some d.length, md5 := some d, user := m.user } :=
  specOps_read_file (spec_store_get fs k d m)

/-- the tree invariant is kept by every well-formed operation … -/
theorem spec_tree_step (fs : FS) (op : StoreOp) (ht : fs.tree = true) (hwf : wfOp fs op = true) :
    (specOps.step fs op).tree = true :=
  (FS.tree_iff _).mpr (Liquer.spec_tree_step ((FS.tree_iff fs).mp ht) op hwf)

/-- … hence by every well-formed history, of any length -/
theorem spec_tree (fs : FS) (h : List StoreOp) (ht : fs.tree = true) (hwf : wfHist fs h = true) :
    (specOps.run fs h).tree = true :=
  (FS.tree_iff _).mpr (Liquer.spec_tree_run ((FS.tree_iff fs).mp ht) h hwf)

theorem spec_reachable_tree (h : List StoreOp) (hwf : wfHist [] h = true) : (specOps.run [] h).tree = true :=
  spec_tree [] h (by decide) hwf

/-- **presence**: after a well-formed `store k …` the key and all its ancestors are contained, the ancestors
are directories and the key is not -/
theorem spec_store_present (fs : FS) (k : Key) (d : Data) (m : UMeta) (ht : fs.tree = true)
    (hwf : wfOp fs (.store k d m) = true) :
    specOps.contains (specOps.step fs (.store k d m)) k = .ok true ∧
    specOps.isDir (specOps.step fs (.store k d m)) k = .ok false ∧
    ∀ a ∈ ancestors k, specOps.contains (specOps.step fs (.store k d m)) a = .ok true ∧
                       specOps.isDir (specOps.step fs (.store k d m)) a = .ok true := by
  have hT := (FS.tree_iff _).mp (spec_tree_step fs _ ht hwf)
  have h := spec_store_get fs k d m
  generalize specOps.step fs (.store k d m) = fs' at h hT
  have hs : (fs'.get k).isSome = true := by rw [h]; rfl
  have hke : k.isEmpty = false := by simpa using hT.nonroot k hs
  refine ⟨?_, ?_, fun a ha => ?_⟩
  · rw [specOps_contains, hs, Bool.or_true]
  · rw [specOps_isDir, hke, h]; rfl
  · rw [specOps_contains, specOps_isDir, hT.anc k hs a ha, Option.isSome_some, beq_self_eq_true, Bool.or_true]
    exact ⟨rfl, rfl⟩

/-- **exactly once**: in every tree state a contained key occurs exactly once in `keys()`, its parent is a
directory and lists its name exactly once -/
theorem spec_listed_once (fs : FS) (q : Key) (ht : fs.tree = true) (hq : q ≠ [])
    (hc : specOps.contains fs q = .ok true) :
    (∃ ks, specOps.keys fs = .ok ks ∧ ks.count q = 1) ∧
    (∃ l, specOps.listdir fs (parentKey q) = .ok (some l) ∧ l.count (keyName q) = 1) := by
  have hqe : q.isEmpty = false := by simpa using hq
  have hs : (fs.get q).isSome = true := by
    rw [specOps_contains, hqe] at hc
    exact Except.ok.inj hc
  obtain ⟨h1, h2, h3⟩ := Liquer.spec_listed_once ((FS.tree_iff _).mp ht) hs
  refine ⟨⟨_, rfl, h1⟩, ⟨fs.children (parentKey q), ?_, h3⟩⟩
  show (if fs.isDirB (parentKey q) then _ else _) = _
  rw [h2]; rfl

/-- … in particular after a well-formed `store k …`, for `k` and every ancestor of `k` -/
theorem spec_store_once (fs : FS) (k : Key) (d : Data) (m : UMeta) (ht : fs.tree = true)
    (hwf : wfOp fs (.store k d m) = true) :
    ∀ a ∈ ancestors k ++ [k],
      (∃ ks, specOps.keys (specOps.step fs (.store k d m)) = .ok ks ∧ ks.count a = 1) ∧
      (∃ l, specOps.listdir (specOps.step fs (.store k d m)) (parentKey a) = .ok (some l) ∧ l.count (keyName a) = 1) := by
  intro a ha
  have ht' := spec_tree_step fs _ ht hwf
  obtain ⟨hp1, _, hp3⟩ := spec_store_present fs k d m ht hwf
  have hk : k ≠ [] := by
    cases wfOp_step hwf with
    | store _ _ hk _ _ => exact hk
  rcases List.mem_append.mp ha with h | h
  · exact spec_listed_once _ a ht' (ancestors_ne_nil h) (hp3 a h).1
  · simp at h; subst h
    exact spec_listed_once _ a ht' hk hp1

/-- **removal**: after a well-formed `remove k` the key is gone and reading it fails -/
theorem spec_remove (fs : FS) (k : Key) (ht : fs.tree = true) (hwf : wfOp fs (.remove k) = true) :
    specOps.contains (specOps.step fs (.remove k)) k = .ok false ∧
    specOps.getBytes (specOps.step fs (.remove k)) k = .error .keyNotFound ∧
    specOps.getMeta (specOps.step fs (.remove k)) k = .error .keyNotFound ∧
    (∃ ks, specOps.keys (specOps.step fs (.remove k)) = .ok ks ∧ k ∉ ks) := by
  have hT := (FS.tree_iff _).mp ht
  cases hw : wfOp_step hwf with
  | @remove _ d0 m0 hg =>
    have hne : k ≠ [] := hT.nonroot k (by rw [hg]; rfl)
    have hgone : (specOps.step fs (.remove k)).get k = none := FS.get_erase fs k k ▸ if_pos rfl
    refine ⟨?_, (specOps_read_absent hgone hne).1, (specOps_read_absent hgone hne).2, ⟨_, rfl, ?_⟩⟩
    · rw [specOps_contains, hgone, List.isEmpty_eq_false_iff.mpr hne]; rfl
    · rw [FS.mem_keys_iff, hgone]; exact Bool.false_ne_true

/-- removal of a directory (recursive, or empty): the key and everything below it is gone -/
theorem spec_removedir (fs : FS) (k : Key) (r : Bool) (ht : fs.tree = true) (hwf : wfOp fs (.removedir k r) = true)
    (q : Key) (hq : k <+: q) :
    specOps.contains (specOps.step fs (.removedir k r)) q = .ok false := by
  have hT := (FS.tree_iff _).mp ht
  -- in both cases the state is that of the recursive removal: nothing lies below an empty directory
  have key : ∀ fs', WfStep fs (.removedir k r) fs' → k ≠ [] ∧ fs'.get q = none := by
    intro fs' hw
    cases hw with
    | removeTree hk _ => exact ⟨hk, by rw [FS.get_prune, if_pos hq]⟩
    | removeEmpty hk _ hc =>
      refine ⟨hk, ?_⟩
      rw [FS.get_erase]
      split
      · rfl
      · next e => exact hT.nothing_below (Or.inr hc) ((mem_ancestors k q).mpr ⟨hk, hq, fun e' => e e'.symm⟩)
  obtain ⟨hk, hg⟩ := key _ (wfOp_step hwf)
  have hqe : q.isEmpty = false := by
    cases q with
    | nil => exact absurd (List.prefix_nil.mp hq) hk
    | cons _ _ => rfl
  rw [specOps_contains, hg, hqe]; rfl

/-- **frame**: an operation on `k` leaves everything observable about `k'` unchanged unless `k'` is `k`, an ancestor
of `k` (a prefix, including the root) or a descendant of `k` (an extension) -/
theorem spec_frame (fs : FS) (op : StoreOp) (k' : Key) (h : ¬ (k' <+: op.key ∨ op.key <+: k')) :
    specOps.obs (specOps.step fs op) k' = specOps.obs fs k' :=
  spec_frame_obs fs op k' h

/-- the frame lifted to histories: keys unrelated to every operation of the history are untouched -/
theorem spec_frame_run (fs : FS) (h : List StoreOp) (k' : Key)
    (hk : ∀ op ∈ h, ¬ (k' <+: op.key ∨ op.key <+: k')) :
    specOps.obs (specOps.run fs h) k' = specOps.obs fs k' := by
  induction h generalizing fs with
  | nil => rfl
  | cons op rest ih =>
    simp only [StoreOps.run, List.foldl_cons]
    have := ih (specOps.step fs op) (fun o ho => hk o (List.mem_cons_of_mem _ ho))
    simp only [StoreOps.run] at this
    rw [this, spec_frame fs op k' (hk op List.mem_cons_self)]

-- non-vacuity of the hypotheses above
example : FS.tree [] = true ∧ wfOp [] (.store [['a'], ['b']] [1, 2] { user := ['u'] }) = true := by decide +kernel
example : wfHist [] [.store [['a'], ['b']] [1] { user := ['u'] }, .storeMeta [['a'], ['b']] { user := ['v'] },
    .makedir [['a'], ['c']], .remove [['a'], ['b']], .removedir [['a'], ['c']] false, .removedir [['a']] true] = true := by decide +kernel
example : wfOp (specOps.step [] (.store [['a'], ['b']] [1] { user := ['u'] })) (.remove [['a'], ['b']]) = true := by decide +kernel
example : wfOp (specOps.step [] (.makedir [['a'], ['b']])) (.removedir [['a']] true) = true := by decide +kernel
-- the frame has instances: `e` is unrelated to `a/b`
example : ¬ ([['e']] <+: (StoreOp.store [['a'], ['b']] [1] { user := [] }).key ∨
             (StoreOp.store [['a'], ['b']] [1] { user := [] }).key <+: [['e']]) := by decide +kernel
-- ill-formed operations are really excluded: storing below a file
example : wfOp (specOps.step [] (.store [['a']] [1] { user := [] })) (.store [['a'], ['b']] [1] { user := [] }) = false := by decide +kernel

/-- all keys of the history consist of non-empty components (keys are `/`-separated strings without empty parts) -/
def normalHist (h : List StoreOp) : Prop := ∀ op ∈ h, ∀ c ∈ op.key, c ≠ []

/-- **`MemoryStore` refines the reference store**: after every well-formed history (any length) every key shows the same
`contains`, `is_dir`, bytes, metadata fields and the same directory listing up to order, and `keys()` lists the same
keys up to order.  (`ObsEquiv`, `keysEquiv`: `LiquerProofs/Lemmas/StoreRefine.lean`.) -/
theorem mem_refines (h : List StoreOp) (hwf : wfHist [] h = true) (hn : normalHist h) (k : Key) :
    ObsEquiv (memOps.obs (memOps.run memInit h) k) (specOps.obs (specOps.run [] h) k) ∧
    keysEquiv (memOps.keys (memOps.run memInit h)) (specOps.keys (specOps.run [] h)) := by
  obtain ⟨hs, ht⟩ := refines_run (ok := fun _ => True) (fun h _ => mem_refines_step h) ⟨sim_init, FS.tree_nil⟩ h (fun _ _ => trivial) hwf
  exact ⟨hs.obsEquiv ht ((AllComps.nil _).run h hn) k, hs.keysEquiv ht⟩

/-- after every prefix of a well-formed history the next operation of the memory store succeeds -/
theorem mem_never_fails (h : List StoreOp) (op : StoreOp) (hwf : wfHist [] (h ++ [op]) = true) :
    ∃ s', memOps.apply (memOps.run memInit h) op = .ok s' :=
  refines_next (ok := fun _ => True) (fun h _ => mem_refines_step h) ⟨sim_init, FS.tree_nil⟩ h op (fun _ _ => trivial) hwf

/-- the abstraction function: the memory state reached by a well-formed history *is* (binding by binding) the
specification state reached by the same history -/
theorem mem_abs (h : List StoreOp) (hwf : wfHist [] h = true) (k : Key) :
    (absMem (memOps.run memInit h)).get k = (specOps.run [] h).get k :=
  absMem_get (refines_run (ok := fun _ => True) (fun h _ => mem_refines_step h) ⟨sim_init, FS.tree_nil⟩ h (fun _ _ => trivial) hwf).1 k

-- non-vacuity: a normal well-formed history with nested keys, overwrite, metadata update and recursive removal
example : wfHist [] [.store [['a'], ['b'], ['d']] [1] { user := ['u'] }, .store [['a'], ['b'], ['d']] [] { user := ['v'] },
    .storeMeta [['a'], ['b'], ['d']] { user := ['w'] }, .removedir [['a'], ['b']] true] = true := by decide +kernel
example : normalHist [.store [['a'], ['b'], ['d']] [1] { user := ['u'] }, .removedir [['a'], ['b']] true] := by
  unfold normalHist
  decide +kernel

/-- `ProxyStore` / `IndexerStore` (on the observed fields): the identity -/
theorem proxy_refines {σ : Type} (S : StoreOps σ) : proxyOps S = S := by
  cases S; rfl

/-- observations agree up to the order of listings and the kind of failure of `get_bytes`
(`FileStore.get_bytes` of a directory raises `IsADirectoryError`, the reference store `KeyNotFound`) -/
structure ObsEquivF (a b : KeyObs) : Prop where
  contains : a.contains = b.contains
  isDir : a.isDir = b.isDir
  bytes : (∃ d, a.bytes = .ok d ∧ b.bytes = .ok d) ∨ (∃ e e', a.bytes = .error e ∧ b.bytes = .error e')
  metadata : a.metadata = b.metadata
  listdir : listingEquiv a.listdir b.listdir

/-- keys a `FileStore` history may use: components that are non-empty, not `.`, `..` or the reserved folder name -/
def plainComponent (c : Str) : Prop := c ≠ [] ∧ c ≠ dot ∧ c ≠ dotdot ∧ c ≠ metaDirName

/-- **`FileStore` refines the reference store**: for every root directory, after every well-formed history (any
length) over keys with plain components, every plain key shows the same `contains`, `is_dir`, metadata fields, the
same bytes (or a failure on both sides), the same directory listing up to order (the `__metadata__` folders are never
listed), and `keys()` succeeds and lists the same keys up to order.  The proof is the simulation `SimF`
(`LiquerProofs/Lemmas/StoreFileRef.lean`): every file of the reference state is a data file at `path_for_key` plus a
metadata file at `metadata_path_for_key`, every directory a directory node, and there is nothing else below the root
except `__metadata__` folders inside existing directories. -/
theorem file_refines (root : Path) (h : List StoreOp) (hwf : wfHist [] h = true)
    (hn : ∀ op ∈ h, ∀ c ∈ op.key, plainComponent c) (k : Key) (hk : ∀ c ∈ k, plainComponent c) :
    ObsEquivF ((fileOps root).obs ((fileOps root).run (fileInit root) h) k) (specOps.obs (specOps.run [] h) k) ∧
    (∃ ks, (fileOps root).keys ((fileOps root).run (fileInit root) h) = .ok ks ∧
           ks.Perm ((specOps.run [] h).map (·.1))) := by
  obtain ⟨hs, hp, ht⟩ := refines_run file_refines_step ⟨simF_init root, plainFS_iff.mpr (AllComps.nil _), FS.tree_nil⟩ h hn hwf
  obtain ⟨o1, o2, o3, o4, o5⟩ := hs.obs hp ht (k := k) hk
  exact ⟨⟨o1, o2, o3, o4, o5⟩, hs.keys_perm hp ht⟩

/-- after every prefix of a well-formed history over plain keys the next operation of the `FileStore` model succeeds
(no `IsADirectoryError`, `NotADirectoryError`, non-empty `rmdir`, or exhausted fuel) -/
theorem file_never_fails (root : Path) (h : List StoreOp) (op : StoreOp) (hwf : wfHist [] (h ++ [op]) = true)
    (hn : ∀ o ∈ h ++ [op], ∀ c ∈ o.key, plainComponent c) :
    ∃ s', (fileOps root).apply ((fileOps root).run (fileInit root) h) op = .ok s' :=
  refines_next file_refines_step ⟨simF_init root, plainFS_iff.mpr (AllComps.nil _), FS.tree_nil⟩ h op hn hwf

-- non-vacuity: a plain well-formed history with a nested key, an overwrite, a metadata update, a removal and a
-- recursive removal; the model's own observations (computed, not derived from the theorem)
def fileDemo : List StoreOp :=
  [.store [['a'], ['b'], ['d']] [1] { user := ['u'] }, .store [['a'], ['b'], ['d']] [2, 3] { user := ['v'] },
   .store [['a'], ['e']] [4] { user := ['w'] }, .storeMeta [['a'], ['e']] { user := ['x'] },
   .remove [['a'], ['b'], ['d']], .makedir [['a'], ['c']], .removedir [['a'], ['b']] true]

example : wfHist [] fileDemo = true := by decide +kernel
example : ∀ op ∈ fileDemo, ∀ c ∈ op.key, plainComponent c := by
  unfold plainComponent
  decide +kernel
example : ((fileOps [['r']]).getBytes ((fileOps [['r']]).run (fileInit [['r']]) (fileDemo.take 3)) [['a'], ['b'], ['d']]).toOption
    = some [2, 3] := by decide +kernel
/-- the POSIX tree the demonstration history leaves below `r` -/
theorem fileDemo_run : (fileOps [['r']]).run (fileInit [['r']]) fileDemo =
    [([['r'], ['a'], ['c'], metaDirName], .dir), ([['r'], ['a'], ['c']], .dir),
     ([['r'], ['a'], metaDirName, ['e'] ++ jsonExt], .mfile { user := ['x'] }), ([['r'], ['a'], metaDirName], .dir),
     ([['r'], ['a'], ['e']], .dfile [4]), ([['r'], ['a']], .dir), ([['r']], .dir)] := by decide +kernel

example : ((fileOps [['r']]).keys ((fileOps [['r']]).run (fileInit [['r']]) fileDemo)).toOption
    = some [[['a']], [['a'], ['c']], [['a'], ['e']]] := by rw [fileDemo_run]; decide +kernel
example : ((fileOps [['r']]).contains ((fileOps [['r']]).run (fileInit [['r']]) fileDemo) [['a'], ['b'], ['d']]).toOption
    = some false := by rw [fileDemo_run]; decide +kernel
example : ((fileOps [['r']]).getMeta ((fileOps [['r']]).run (fileInit [['r']]) fileDemo) [['a'], ['e']]).toOption
    = some { key := [['a'], ['e']], name := ['e'], isDir := false, size := none, md5 := none, user := ['x'] } := by
  rw [fileDemo_run]; decide +kernel
-- … and the reference store shows the same (`file_refines` says so for every history)
example : (specOps.keys (specOps.run [] fileDemo)).toOption = some [[['a'], ['c']], [['a'], ['e']], [['a']]] := by decide +kernel

end Liquer.C07

-- OBLIGATIONS: Liquer.C07.spec_store_read Liquer.C07.spec_store_present Liquer.C07.spec_listed_once Liquer.C07.spec_store_once Liquer.C07.spec_remove Liquer.C07.spec_removedir Liquer.C07.spec_frame Liquer.C07.spec_frame_run Liquer.C07.spec_tree_step Liquer.C07.spec_tree Liquer.C07.spec_reachable_tree
-- OBLIGATIONS: Liquer.C07.mem_refines Liquer.C07.mem_never_fails Liquer.C07.mem_abs Liquer.C07.proxy_refines
-- OBLIGATIONS: Liquer.C07.file_refines Liquer.C07.file_never_fails
