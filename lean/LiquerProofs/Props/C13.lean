/-
C13 — Every cache back-end is a faithful key-value map of states: for every history the outputs of the back-end model equal
those of the key-value specification `kvOpsC cfg` (`keys` up to order, `outsEq`; `kvOps` of `CacheCore` is `kvOpsC kvCfgDrop`) —
memory, file (any injective digest, any codec with decode ∘ encode = id: XOR, Fernet), SQL (`delete_before_insert`), store-backed
(`storec_refines`: all eight operations, any cache path — the constructor drops leading slashes; with the path kept as given the
statement is false, `storec_unnormalised_false`: `to_path` strips the slash, `keys()`/`clean()` do not) — and `+`, the conditional
wrappers and the proxy preserve this.
Models: the code **as fixed by D2, D6a, D8, D9, D9b, D17, D18** and by b0a69e7 / 39a373f (cache path).
-/
import LiquerProofs.Lemmas.CacheMemRef
import LiquerProofs.Lemmas.CacheCombRef
import LiquerProofs.Lemmas.CacheFileRef
import LiquerProofs.Lemmas.CacheSqlRef
import LiquerProofs.Lemmas.CacheStoreRef
import LiquerProofs.Lemmas.CacheStoreRef2
import LiquerProofs.Lemmas.CachePaths
import LiquerProofs.Lemmas.CacheXor
import LiquerProofs.Lemmas.CacheWitness

namespace Liquer.C13
open Liquer

/-- after a successful store: present, listed exactly once, `get` = the value stored, status `ready`, that query -/
theorem kv_store_get (c : KVCfg) (kv : KV) (st : CState) (he : st.metadata.isError = false) (d : Str) (hd : st.data = some d) :
    ((kvOpsC c).store kv st).2 = .true ∧
    kvView c ((kvOpsC c).store kv st).1 st.metadata.query =
      { entry := some ({ st.metadata with status := ready }, some d),
        served := some { metadata := { st.metadata with status := ready }, data := some d },
        meta? := some { st.metadata with status := ready }, present := true, listed := 1 } :=
  Liquer.kv_store_get c kv st he d hd

theorem kv_remove (c : KVCfg) (kv : KV) (k : Str) :
    kvView c ((kvOpsC c).remove kv k).1 k = { entry := none, served := none, meta? := none, present := false, listed := 0 } :=
  Liquer.kv_remove c kv k

theorem kv_clean (c : KVCfg) (kv : KV) (k : Str) :
    kvView c ((kvOpsC c).clean kv) k = { entry := none, served := none, meta? := none, present := false, listed := 0 } :=
  Liquer.kv_clean c kv k

/-- metadata-only writes never make data retrievable -/
theorem kv_meta_only_no_data (c : KVCfg) (kv : KV) (m : CMeta) (h : (kv.get m.query).bind (·.2) = none) :
    ((kvOpsC c).get ((kvOpsC c).storeMeta kv m).1 m.query).2 = none :=
  Liquer.kv_meta_only_no_data c kv m h

/-- … and never change the data an entry holds, except for dropping it -/
theorem kv_meta_data (c : KVCfg) (kv : KV) (m : CMeta) :
    ((((kvOpsC c).storeMeta kv m).1.get m.query).bind (·.2)) = none ∨
    ((((kvOpsC c).storeMeta kv m).1.get m.query).bind (·.2)) = (kv.get m.query).bind (·.2) :=
  Liquer.kv_meta_data c kv m

/-- operations on one key never affect another key, whatever characters the keys contain -/
theorem kv_frame (c : KVCfg) (kv : KV) (op : CacheOp) (k k' : Str) (hk : op.key? = some k) (hne : k' ≠ k) :
    kvView c ((kvOpsC c).step kv op).1 k' = kvView c kv k' :=
  Liquer.kv_frame c kv op k k' hk hne

theorem kvOps_is_instance : kvOpsC kvCfgDrop = kvOps := kvOps_eq

example : ("a/".toList : Str) ≠ "a".toList ∧ (CacheOp.store { metadata := { query := "a".toList, status := [], typeId := [] }, data := some [] }).key? = some "a".toList := by decide +kernel
example : (KV.get ([] : KV) "a".toList).bind (·.2) = none := rfl

/-- the executable well-formedness check of the model file implies the one the theorems use -/
theorem histOK_bool (S : CacheOps KV) (h : List CacheOp) : ∀ kv,
    histOK (fun kv op => op.hasData && op.typeStable kv) S kv h = true → HistOK S okF kv h := by
  induction h with
  | nil => intro kv _; trivial
  | cons op rest ih =>
    intro kv hb
    simp only [histOK, Bool.and_eq_true] at hb
    exact ⟨⟨hb.1.1, hb.1.2⟩, ih _ hb.2⟩

/-- **`MemoryCache`**: every history of states that carry a value -/
theorem memc_refines (h : List CacheOp) (hall : ∀ op ∈ h, op.hasData = true) :
    outsEq (memCOps.run [] h).2 ((kvOpsC kvCfgKeep).run [] h).2 :=
  (mem_sim.run h [] [] RM_init (histOK_of_all _ _ h hall [])).2

/-- **`FileCache`, `XORFileCache`, `FernetFileCache`**: injective digest, codec with decode ∘ encode = id,
metadata-only writes on entries with data keep the type identifier -/
theorem filec_refines (c : FileCfg) (ok : Crash.CodecOK c) (hinj : ∀ a b, c.h a = c.h b → a = b) (h : List CacheOp)
    (hok : HistOK (kvOpsC kvCfgKeep) okF [] h) :
    outsEq ((fileCOps c).run [] h).2 ((kvOpsC kvCfgKeep).run [] h).2 :=
  ((file_sim c ok hinj).run h [] [] (RF_init c) hok).2

/-- **`SQLCache` / `SQLStringCache`** with `delete_before_insert`: against the given specification `kvOps` -/
theorem sqlc_refines (c : SqlCfg) (ok : SqlOK c) (h : List CacheOp) (hall : ∀ op ∈ h, op.hasData = true) :
    outsEq ((sqlCOps c).run {} h).2 (kvOps.run [] h).2 := by
  rw [← kvOps_eq]
  exact ((sql_sim c ok).run h {} [] (RS_init c) (histOK_of_all _ _ h hall [])).2

/-- **`StoreCache`** over the reference store, point operations (`get`, `get_metadata`, `store`, `store_metadata`, `remove`,
`contains`) on keys whose paths are distinct and not directories of one another -/
theorem storec_refines_partial (c : StoreCCfg) (U : Str → Prop) (ok : CodecS c) (paths : PathsOK c U) (fs : FS)
    (hinit : RSt c U fs []) (h : List CacheOp) (hok : HistOK (kvOpsC kvCfgStore) (okSt U) [] h) :
    outsEq ((storeCOps c specOps).run fs h).2 ((kvOpsC kvCfgStore).run [] h).2 :=
  ((storec_sim c U ok paths).run h fs [] hinit hok).2

/-- the statement for a `StoreCache` whose constructor kept the path as given: also `keys()` and `clean()`.  **False**
(`storec_unnormalised_false`): it allows cache paths that start with `/`; proved with that one extra hypothesis
(`storec_refines_keys_partial`).  The constructor therefore drops leading slashes (`StoreCCfg.norm`, fixes b0a69e7 and 39a373f)
and the full statement for the constructed cache is `storec_refines`. -/
def storec_unnormalised_statement : Prop :=
  ∀ (c : StoreCCfg) (U : Str → Prop), CodecS c → PathsOK c U → ∀ (h : List CacheOp),
    HistOK (kvOpsC kvCfgStore) (fun kv op => op.hasData = true ∧ op.typeStable kv = true ∧ ∀ k, op.key? = some k → U k) [] h →
    outsEq ((storeCOps c specOps).run (storeCInit c specOps []) h).2 ((kvOpsC kvCfgStore).run [] h).2

/-- **`StoreCache`** over the reference store, **all eight operations** (`keys()` and `clean()` included), every history from
the freshly constructed cache, flat and nested scheme, keys whose paths are distinct and not directories of one another —
the conclusion of `storec_unnormalised_statement` under one extra hypothesis: **the cache path does not start with `/`**
(the empty path is covered).

Excluded region: `c.path = '/' :: r`.  There the statement is false (`storec_unnormalised_false`, `storec_slash_keys`,
`storec_slash_clean`): `to_path` strips one leading `/` from `f"{self.path}/…"`, so the entries are stored under `r/…`,
while `keys()` and `clean()` test the store keys against the unstripped `self.path + "/"`; `keys()` is then empty and
`clean()` removes nothing.  The point operations are unaffected (`storec_refines_partial` has no such hypothesis).
Directories never disturb the listing: `keys()` skips them, `clean()` removes files first and may leave directories
behind, which no operation of the cache observes. -/
theorem storec_refines_keys_partial (c : StoreCCfg) (U : Str → Prop) (ok : CodecS c) (paths : PathsOK c U)
    (hpath : ∀ r, c.path ≠ '/' :: r) (h : List CacheOp)
    (hok : HistOK (kvOpsC kvCfgStore) (fun kv op => op.hasData = true ∧ op.typeStable kv = true ∧ ∀ k, op.key? = some k → U k) [] h) :
    outsEq ((storeCOps c specOps).run (storeCInit c specOps []) h).2 ((kvOpsC kvCfgStore).run [] h).2 :=
  ((storec_sim2 c U ok paths hpath).run h _ [] (RSt2_init c U hpath) hok).2

/-- the same from any related pair of states (e.g. a store that already holds directories, or a reopened cache) -/
theorem storec_refines_keys_from (c : StoreCCfg) (U : Str → Prop) (ok : CodecS c) (paths : PathsOK c U)
    (hpath : ∀ r, c.path ≠ '/' :: r) (fs : FS) (kv : KV) (hinit : RSt2 c U fs kv) (h : List CacheOp)
    (hok : HistOK (kvOpsC kvCfgStore) (okSt2 U) kv h) :
    outsEq ((storeCOps c specOps).run fs h).2 ((kvOpsC kvCfgStore).run kv h).2 :=
  ((storec_sim2 c U ok paths hpath).run h fs kv hinit hok).2

def demoState (q : String) : CState := { metadata := { query := q.toList, status := [], typeId := [] }, data := some [] }

/-- a cache at `/c` with an honest codec -/
def slashCfg (flat : Bool) : StoreCCfg := { Witness.storeCfg flat with path := "/c".toList }

theorem slashCfg_ok (flat : Bool) : CodecS (slashCfg flat) := (Witness.storeCfg_ok flat).withPath _

/-- `StoreCache(store, "/c")`: after `store(a)`, `keys()` is empty (the specification lists `a`) -/
theorem storec_slash_keys :
    ((storeCOps (slashCfg false) specOps).run (storeCInit (slashCfg false) specOps []) [.store (demoState "a"), .keys]).2 =
      [.res .true, .keys []] ∧
    ((kvOpsC kvCfgStore).run [] [.store (demoState "a"), .keys]).2 = [.res .true, .keys ["a".toList]] := by decide +kernel

/-- … and `clean()` removes nothing: the entry is still there -/
theorem storec_slash_clean :
    ((storeCOps (slashCfg false) specOps).run (storeCInit (slashCfg false) specOps []) [.store (demoState "a"), .clean, .contains "a".toList]).2 =
      [.res .true, .unit, .bool true] ∧
    ((kvOpsC kvCfgStore).run [] [.store (demoState "a"), .clean, .contains "a".toList]).2 = [.res .true, .unit, .bool false] := by decide +kernel

/-- the negation of `storec_unnormalised_statement`: why the constructor has to normalise the path -/
theorem storec_unnormalised_false : ¬ storec_unnormalised_statement := by
  intro hs
  have paths : PathsOK (slashCfg false) (fun k => k = "a".toList) :=
    ⟨fun a b ha hb _ => ha.trans hb.symm, fun a b ha hb => by
      rw [ha, hb]; exact StoreC.not_mem_ancestors_of_length _ _ (Nat.le_refl _)⟩
  have h := hs (slashCfg false) (fun k => k = "a".toList) (slashCfg_ok false) paths [.store (demoState "a"), .keys]
    ⟨⟨rfl, rfl, fun k hk => (Option.some.inj hk).symm⟩, ⟨rfl, rfl, fun k hk => by cases hk⟩, trivial⟩
  rw [storec_slash_keys.1, storec_slash_keys.2] at h
  exact absurd (outEq_keys.1 (outsEq_cons.1 (outsEq_cons.1 h).2).1).length_eq (by decide)

theorem normPath_no_slash (p r : Str) : StoreC.normPath p ≠ '/' :: r := by
  induction p with
  | nil => nofun
  | cons a t ih =>
    by_cases ha : a = '/'
    · subst ha; exact ih
    · rw [StoreC.normPath.eq_2 _ (StoreC.noslash_of_head rfl ha)]
      exact StoreC.noslash_of_head rfl ha r

/-- **`StoreCache(store, path, flat)` as constructed** (`storeCacheOps` / `storeCacheNew`: the constructor keeps
`path.lstrip("/")`) over the reference store, **all eight operations** (`keys()` and `clean()` included), every history from
the freshly constructed cache, flat and nested scheme, **any cache path** (empty, with any number of leading slashes), keys
whose paths are distinct and not directories of one another: the outputs are those of the key-value specification. -/
theorem storec_refines (c : StoreCCfg) (U : Str → Prop) (ok : CodecS c.norm) (paths : PathsOK c.norm U) (h : List CacheOp)
    (hok : HistOK (kvOpsC kvCfgStore) (fun kv op => op.hasData = true ∧ op.typeStable kv = true ∧ ∀ k, op.key? = some k → U k) [] h) :
    outsEq ((storeCacheOps c specOps).run (storeCacheNew c specOps []) h).2 ((kvOpsC kvCfgStore).run [] h).2 :=
  storec_refines_keys_partial c.norm U ok paths (fun r => normPath_no_slash c.path r) h hok

theorem codecS_norm (c : StoreCCfg) (ok : CodecS c) : CodecS c.norm := ok.withPath _

/-- a path without a leading slash is kept as it is -/
theorem norm_of_no_slash (c : StoreCCfg) (h : ∀ r, c.path ≠ '/' :: r) : c.norm = c := by
  rw [StoreCCfg.norm, StoreC.normPath.eq_2 _ h]

/-- the constructed cache at `/c` and at `//c` is the cache at `c` -/
theorem storec_slash_same (flat : Bool) :
    (slashCfg flat).norm = { Witness.storeCfg flat with path := "c".toList } ∧
    ({ Witness.storeCfg flat with path := "//c".toList } : StoreCCfg).norm = { Witness.storeCfg flat with path := "c".toList } := by
  constructor <;> simp [slashCfg, StoreCCfg.norm, StoreC.normPath]

/-- `StoreCache(store, "/c")` as constructed: after `store(a)`, `clean()` removes the entry (compare `storec_slash_clean`) -/
theorem storec_slash_fixed :
    ((storeCacheOps (slashCfg false) specOps).run (storeCacheNew (slashCfg false) specOps []) [.store (demoState "a"), .contains "a".toList, .clean, .contains "a".toList]).2 =
      [.res .true, .bool true, .unit, .bool false] := by
  rw [storeCacheOps, storeCacheNew, (storec_slash_same false).1]
  decide +kernel

/-- both path schemes are injective on all key strings -/
theorem storec_paths_injective (c : StoreCCfg) (c0 : Char) (r : Str) (hp : c.path = c0 :: r) (hc : c0 ≠ '/')
    (hinj : c.flat = true → ∀ a b, c.h a = c.h b → a = b) (a b : Str) (h : StoreC.toPath c a = StoreC.toPath c b) : a = b :=
  StoreC.toPath_injective c (StoreC.noslash_of_head hp hc) hinj a b h

/-- the flat scheme satisfies the path hypotheses for **all** keys (slash-free injective digest) -/
theorem storec_flat_pathsOK (c : StoreCCfg) (hf : c.flat = true) (c0 : Char) (r : Str) (hp : c.path = c0 :: r) (hc : c0 ≠ '/')
    (hinj : ∀ a b, c.h a = c.h b → a = b) (hslash : ∀ k, '/' ∉ c.h k) : PathsOK c (fun _ => True) :=
  ⟨fun a b _ _ h => StoreC.toPath_injective c (StoreC.noslash_of_head hp hc) (fun _ => hinj) a b h,
   fun a b _ _ => StoreC.toPath_flat_prefixFree c (StoreC.noslash_of_head hp hc) hf hslash a b⟩

/-! the nested scheme is *not* prefix-free on all strings: a key one of whose components is `0state_.data` turns the data
file of a shorter key into a directory — and (on a store that normalises paths, like `FileStore`) it is not injective:
`a/` and `a` meet.  Concrete witnesses: -/

def demoNested : StoreCCfg :=
  { path := "c".toList, flat := false, h := id, encM := fun m => m.query, decM := fun s => some { query := s, status := ready, typeId := [] },
    serD := fun _ _ => [], deD := fun _ _ => some (some []) }

example : StoreC.toPath demoNested "a".toList ∈ ancestors (StoreC.toPath demoNested "a/0state_.data/b".toList) := by decide +kernel

/-- negation of the refinement statement outside `PathsOK`: after storing only `a/0state_.data/b`, `contains("a")` is `True` -/
theorem storec_nested_confusion :
    ((storeCOps demoNested specOps).run (storeCInit demoNested specOps []) [.store (demoState "a/0state_.data/b"), .contains "a".toList]).2 ≠
    ((kvOpsC kvCfgStore).run [] [.store (demoState "a/0state_.data/b"), .contains "a".toList]).2 := by decide +kernel

/-- what a path-normalising store (pathlib: empty and `.` components vanish) makes of a path -/
def normComps (p : Key) : Key := p.filter (fun c => c != [] && c != ['.'])

theorem storec_nested_normalised_not_injective :
    normComps (StoreC.toPath demoNested "a/".toList) = normComps (StoreC.toPath demoNested "a".toList) ∧
    normComps (StoreC.toPath demoNested "a//b".toList) = normComps (StoreC.toPath demoNested "a/b".toList) ∧
    ("a/".toList : Str) ≠ "a".toList := by decide +kernel

theorem combine_refines {α β α' β' : Type} {A : CacheOps α} {B : CacheOps β} {SA : CacheOps α'} {SB : CacheOps β'}
    {RA : α → α' → Prop} {RB : β → β' → Prop} {p : CacheOp → Prop}
    (simA : CSim A SA RA (fun _ => p)) (simB : CSim B SB RB (fun _ => p)) (hrem : ∀ k, p (.remove k))
    (h : List CacheOp) (hall : ∀ op ∈ h, p op) (a : α) (b : β) (a' : α') (b' : β') (ha : RA a a') (hb : RB b b') :
    outsEq ((combineOps A B).run (a, b) h).2 ((combineOps SA SB).run (a', b') h).2 :=
  ((combine_sim simA simB hrem).run h (a, b) (a', b') ⟨ha, hb⟩ (histOK_of_all _ _ h hall _)).2

theorem cond_refines {α α' : Type} {A : CacheOps α} {SA : CacheOps α'} {RA : α → α' → Prop} {p : CacheOp → Prop} (g : CMeta → Bool)
    (simA : CSim A SA RA (fun _ => p)) (hrem : ∀ k, p (.remove k))
    (h : List CacheOp) (hall : ∀ op ∈ h, p op) (a : α) (a' : α') (ha : RA a a') :
    outsEq ((guardOps g A).run a h).2 ((guardOps g SA).run a' h).2 :=
  ((guard_sim g simA hrem).run h a a' ha (histOK_of_all _ _ h hall _)).2

theorem proxy_refines {α α' : Type} {A : CacheOps α} {SA : CacheOps α'} {RA : α → α' → Prop} {ok : α' → CacheOp → Prop}
    (simA : CSim A SA RA ok) (h : List CacheOp) (a : α) (a' : α') (ha : RA a a') (hok : HistOK (proxyCOps SA) ok a' h) :
    outsEq ((proxyCOps A).run a h).2 ((proxyCOps SA).run a' h).2 :=
  ((proxy_sim simA).run h a a' ha hok).2

/-- `NoCache() + MemoryCache()` against the composed specification -/
theorem no_plus_mem_refines (h : List CacheOp) (hall : ∀ op ∈ h, op.hasData = true) :
    outsEq ((combineOps noCOps memCOps).run ((), []) h).2 ((combineOps noCOps (kvOpsC kvCfgKeep)).run ((), []) h).2 :=
  combine_refines (p := fun op => op.hasData = true) (RA := fun _ _ => True) (fun s t op _ _ => no_sim s t op trivial trivial) mem_sim (fun _ => rfl)
    h hall () [] () [] trivial RM_init

/-- `MemoryCache().if_contains(…)` and the other conditional wrappers (any guard) -/
theorem mem_if_refines (g : CMeta → Bool) (h : List CacheOp) (hall : ∀ op ∈ h, op.hasData = true) :
    outsEq ((guardOps g memCOps).run [] h).2 ((guardOps g (kvOpsC kvCfgKeep)).run [] h).2 :=
  cond_refines (p := fun op => op.hasData = true) g mem_sim (fun _ => rfl) h hall [] [] RM_init

/-- `MemoryCache().if_contains(…) + MemoryCache()` (a conditional member in front of an unconditional one; any guard): the two
congruences compose -/
theorem if_plus_mem_refines (g : CMeta → Bool) (h : List CacheOp) (hall : ∀ op ∈ h, op.hasData = true) :
    outsEq ((combineOps (guardOps g memCOps) memCOps).run ([], []) h).2
      ((combineOps (guardOps g (kvOpsC kvCfgKeep)) (kvOpsC kvCfgKeep)).run ([], []) h).2 :=
  combine_refines (p := fun op => op.hasData = true) (guard_sim g mem_sim (fun _ => rfl)) mem_sim (fun _ => rfl)
    h hall [] [] [] [] RM_init RM_init

example : Crash.CodecOK Witness.fileCfg ∧ (∀ a b, Witness.fileCfg.h a = Witness.fileCfg.h b → a = b) := ⟨Witness.fileCfg_ok, fun _ _ h => h⟩
example : SqlOK Witness.sqlCfg := Witness.sqlCfg_ok
theorem storeCfg_pathsOK : PathsOK (Witness.storeCfg true) (fun _ => True) :=
  storec_flat_pathsOK _ rfl 'c' "ache".toList (by decide +kernel) (by decide) (Witness.storeCfg_hinj true) (Witness.storeCfg_noslash true)
example : CodecS (Witness.storeCfg true) ∧ PathsOK (Witness.storeCfg true) (fun _ => True) := ⟨Witness.storeCfg_ok true, storeCfg_pathsOK⟩

def demoHist : List CacheOp :=
  [.store (demoState "a"), .storeMeta { query := "a".toList, status := ready, typeId := [] }, .get "a".toList, .store (demoState "a/"),
   .remove "a".toList, .get "a/".toList, .keys, .clean]
example : ∀ op ∈ demoHist, op.hasData = true := by decide +kernel
example : histOK (fun kv op => op.hasData && op.typeStable kv) (kvOpsC kvCfgKeep) [] demoHist = true := by decide +kernel
example : (memCOps.run [] demoHist).2 = ((kvOpsC kvCfgKeep).run [] demoHist).2 := by decide +kernel
example : HistOK (kvOpsC kvCfgKeep) okF [] demoHist := histOK_bool _ _ _ (by decide)
example (c : StoreCCfg) (U : Str → Prop) : RSt c U [] [] :=
  { fileOK := fun _ _ => rfl, noDir := fun _ _ h => by simp [FS.get] at h, hasData := fun _ _ _ h => by simp [KV.get] at h }
example : HistOK (kvOpsC kvCfgStore) (okSt (fun _ => True)) [] [.store (demoState "a"), .get "a".toList] :=
  ⟨⟨rfl, rfl, _, rfl, trivial⟩, ⟨rfl, rfl, _, rfl, trivial⟩, trivial⟩
/-- the hypotheses of `storec_refines_keys_partial` are satisfiable: codec, paths (all keys), cache path `cache`, and a history
with `keys` and `clean` -/
example : CodecS (Witness.storeCfg true) ∧ PathsOK (Witness.storeCfg true) (fun _ => True) ∧ (∀ r, (Witness.storeCfg true).path ≠ '/' :: r) ∧
    HistOK (kvOpsC kvCfgStore) (fun kv op => op.hasData = true ∧ op.typeStable kv = true ∧ ∀ k, op.key? = some k → (fun _ => True) k) [] demoHist :=
  ⟨Witness.storeCfg_ok true, storeCfg_pathsOK, fun r h => (by cases h),
   ⟨rfl, rfl, fun _ _ => trivial⟩, ⟨rfl, by decide, fun _ _ => trivial⟩, ⟨rfl, rfl, fun _ _ => trivial⟩, ⟨rfl, rfl, fun _ _ => trivial⟩,
   ⟨rfl, rfl, fun _ _ => trivial⟩, ⟨rfl, rfl, fun _ _ => trivial⟩, ⟨rfl, rfl, fun _ _ => trivial⟩, ⟨rfl, rfl, fun _ _ => trivial⟩, trivial⟩
example (c : StoreCCfg) (hpath : ∀ r, c.path ≠ '/' :: r) : RSt2 c (fun _ => True) (storeCInit c specOps []) [] := RSt2_init c _ hpath
/-- on two concrete caches (nested with path `c`, flat with the empty path) the whole demonstration history, `keys` and `clean`
included, runs to the outputs of the specification -/
example : ((storeCOps demoNested specOps).run (storeCInit demoNested specOps []) demoHist).2 = ((kvOpsC kvCfgStore).run [] demoHist).2 := by decide +kernel
example : ((storeCOps { demoNested with path := [], flat := true } specOps).run (storeCInit { demoNested with path := [], flat := true } specOps []) demoHist).2 =
    ((kvOpsC kvCfgStore).run [] demoHist).2 := by decide +kernel

theorem xor_involutive (code b : Data) (hne : code ≠ []) : xorEnc code (xorEnc code b) = b := Liquer.xor_involutive code b hne

theorem xor_hides (code b : Data) (hne : code ≠ []) (h0 : ∀ x ∈ code, x ≠ 0) (i : Nat) (hi : i < b.length) :
    (xorEnc code b)[i]? ≠ b[i]? := Liquer.xor_hides code b hne h0 i hi

/-- the XOR file layer never merges two values: different stored bytes give different files -/
theorem xor_injective (code a b : Data) (hne : code ≠ []) (h : xorEnc code a = xorEnc code b) : a = b := by
  have := congrArg (xorEnc code) h
  rwa [xor_involutive code a hne, xor_involutive code b hne] at this

/-- and it keeps the length (a reader sizing the value by the file is right) -/
theorem xor_length (code b : Data) (hne : code ≠ []) : (xorEnc code b).length = b.length :=
  xorEnc_length code b hne

example : ([0x5A, 0x13, 0xC7] : Data) ≠ [] ∧ ∀ x ∈ ([0x5A, 0x13, 0xC7] : Data), x ≠ 0 := by decide +kernel

end Liquer.C13

-- OBLIGATIONS: Liquer.C13.kv_store_get Liquer.C13.kv_remove Liquer.C13.kv_clean Liquer.C13.kv_meta_only_no_data Liquer.C13.kv_meta_data Liquer.C13.kv_frame Liquer.C13.kvOps_is_instance
-- OBLIGATIONS: Liquer.C13.memc_refines Liquer.C13.filec_refines Liquer.C13.sqlc_refines Liquer.C13.storec_refines_partial Liquer.C13.storec_paths_injective Liquer.C13.storec_flat_pathsOK Liquer.C13.storec_nested_confusion Liquer.C13.storec_nested_normalised_not_injective
-- OBLIGATIONS: Liquer.C13.storec_refines_keys_partial Liquer.C13.storec_refines_keys_from Liquer.C13.storec_slash_keys Liquer.C13.storec_slash_clean Liquer.C13.storec_unnormalised_false Liquer.C13.storec_refines Liquer.C13.storec_slash_same Liquer.C13.storec_slash_fixed Liquer.C13.norm_of_no_slash
-- OBLIGATIONS: Liquer.C13.combine_refines Liquer.C13.cond_refines Liquer.C13.proxy_refines Liquer.C13.no_plus_mem_refines Liquer.C13.mem_if_refines Liquer.C13.if_plus_mem_refines Liquer.C13.xor_involutive Liquer.C13.xor_hides Liquer.C13.xor_injective Liquer.C13.xor_length
