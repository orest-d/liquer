/-
C03 — Any text can be passed as an argument; encoded arguments are URL-path safe.
Property theorems only; helper lemmas live in LiquerProofs/Lemmas/{Text,Quote,Token,TokenSafe}.lean.
-/
import LiquerProofs.Inst.EscapeTable
import LiquerProofs.Lemmas.TokenSafe

namespace Liquer.C03

theorem inst_tableOK : tableOK Gen.escapeTable = true := Inst.escapeTable_ok

theorem inst_sepCovered : sepCovered Gen.escapeTable = true := Inst.escapeTable_sepCovered

theorem inst_quoteSafe : ∀ n : Fin 128, quoteSafe (Char.ofNat n.val) = Gen.quoteSafeProbe.contains (Char.ofNat n.val) :=
  Inst.quoteSafe_probe

theorem decUtf8_ok : DecOK decUtf8 := Liquer.decUtf8_ok

/-! ### round trip of a single token: `decode_token(encode_token(s)) == s` for every string -/

theorem decodeToken_encodeToken (tbl : EscTable) (dec : List UInt8 → List Char)
    (h : tableOK tbl = true) (hd : DecOK dec) (s : List Char) :
    decodeToken tbl dec (encodeToken tbl s) = s :=
  Liquer.decodeToken_encodeToken tbl dec h hd s

-- non-vacuity: the hypotheses hold for the real table and decoder, and the round trip is exercised
-- on a string with `~`, `https://`, `%7E`, separators and non-ASCII characters.
example : tableOK Gen.escapeTable = true ∧ DecOK decUtf8 := ⟨inst_tableOK, decUtf8_ok⟩
/-- info: ("~~~Hx.org~Ia~_b~.c%257E%C3%A9%E2%82%AC", "~https://x.org/a-b c%7Eé€") -/
#guard_msgs in
#eval
  let e := encodeToken Gen.escapeTable "~https://x.org/a-b c%7Eé€".toList
  (String.ofList e, String.ofList (decodeToken Gen.escapeTable decUtf8 e))

theorem real_roundtrip (s : List Char) :
    decodeToken Gen.escapeTable decUtf8 (encodeToken Gen.escapeTable s) = s :=
  decodeToken_encodeToken _ _ inst_tableOK decUtf8_ok s

/-- every character of an encoded token is an ASCII letter, digit, `_`, `.`, `~` or `%`;
in particular there is no bare `/`, `-` or space. (`tableOK` is not needed for this part.) -/
theorem encodeToken_safe (tbl : EscTable) (_h : tableOK tbl = true) (hs : sepCovered tbl = true)
    (s : List Char) : ∀ c ∈ encodeToken tbl s, tokSafe c = true :=
  encodeToken_safe' tbl hs s

theorem encodeToken_no_separator (tbl : EscTable) (h : tableOK tbl = true)
    (hs : sepCovered tbl = true) (s : List Char) :
    '/' ∉ encodeToken tbl s ∧ '-' ∉ encodeToken tbl s ∧ ' ' ∉ encodeToken tbl s := by
  refine ⟨?_, ?_, ?_⟩ <;> exact fun hm => absurd (encodeToken_safe tbl h hs s _ hm) (by decide)

/-- every `%` of an encoded token starts a `%XY` escape with two upper-case hexadecimal digits:
the token is a concatenation of blocks, each a bare safe character other than `%` or such an
escape. -/
theorem encodeToken_blocks (tbl : EscTable) (_h : tableOK tbl = true) (hs : sepCovered tbl = true)
    (s : List Char) :
    ∃ blocks : List (List Char), encodeToken tbl s = blocks.flatMap id ∧
      ∀ b ∈ blocks, (∃ c, b = [c] ∧ tokSafe c = true ∧ c ≠ '%') ∨
        (∃ x y, x < 16 ∧ y < 16 ∧ b = ['%', hexDigitUpper x, hexDigitUpper y]) := by
  refine ⟨((applyTable tbl s).flatMap atomsOf).map Atom.str, ?_, ?_⟩
  · rw [encodeToken_eq_quote, quote_eq, flatAtoms, List.flatMap_id, List.flatMap_def]
  · intro b hb
    obtain ⟨a, ha, rfl⟩ := List.mem_map.mp hb
    obtain ⟨c, hc, hac⟩ := List.mem_flatMap.mp ha
    cases a with
    | pct v => exact Or.inr ⟨_, _, byte_hi_lt v, byte_lo_lt v, rfl⟩
    | ch x =>
      obtain ⟨rfl, hq⟩ := mem_atomsOf_ch hac
      exact Or.inl ⟨x, rfl, tokSafe_of_mem_applyTable hs hc hq, quoteSafe_ne_pct hq⟩

-- non-vacuity: hypotheses hold for the real table; a string full of separators is encoded safely
example : tableOK Gen.escapeTable = true ∧ sepCovered Gen.escapeTable = true :=
  ⟨inst_tableOK, inst_sepCovered⟩
/-- info: ("a~Ib~_c~.d%25%C3%A9", true) -/
#guard_msgs in
#eval
  let e := encodeToken Gen.escapeTable "a/b-c d%é".toList
  (String.ofList e, e.all tokSafe)
-- and `tokSafe` is a real restriction
example : tokSafe '/' = false ∧ tokSafe '-' = false ∧ tokSafe ' ' = false ∧ tokSafe '?' = false ∧
    tokSafe '#' = false ∧ tokSafe '&' = false := by decide +kernel

theorem real_safe (s : List Char) : ∀ c ∈ encodeToken Gen.escapeTable s, tokSafe c = true :=
  encodeToken_safe _ inst_tableOK inst_sepCovered s

theorem real_no_separator (s : List Char) :
    '/' ∉ encodeToken Gen.escapeTable s ∧ '-' ∉ encodeToken Gen.escapeTable s ∧
      ' ' ∉ encodeToken Gen.escapeTable s :=
  encodeToken_no_separator _ inst_tableOK inst_sepCovered s

theorem real_blocks (s : List Char) :
    ∃ blocks : List (List Char), encodeToken Gen.escapeTable s = blocks.flatMap id ∧
      ∀ b ∈ blocks, (∃ c, b = [c] ∧ tokSafe c = true ∧ c ≠ '%') ∨
        (∃ x y, x < 16 ∧ y < 16 ∧ b = ['%', hexDigitUpper x, hexDigitUpper y]) :=
  encodeToken_blocks _ inst_tableOK inst_sepCovered s

/-! ### list-of-lists form: `decode(encode(ql)) == ql` -/

/-- The round trip of a whole query, for every list of commands each of which is non-empty and
starts with a non-empty token (`decode` drops the other commands, see the examples below). -/
theorem decodeLL_encodeLL (tbl : EscTable) (dec : List UInt8 → List Char)
    (h : tableOK tbl = true) (hs : sepCovered tbl = true) (hd : DecOK dec)
    (ql : List (List (List Char)))
    (hne : ∀ cmd ∈ ql, ∃ t ts, cmd = t :: ts ∧ t ≠ []) :
    decodeLL tbl dec (encodeLL tbl ql) = ql := by
  have hsep : ∀ s c, tokSafe c = false → c ∉ encodeToken tbl s := fun s c hc hm =>
    absurd (encodeToken_safe' tbl hs s _ hm) (by rw [hc]; decide)
  cases ql with
  | nil => rfl
  | cons q0 ql0 =>
    rw [decodeLL, encodeLL, map_split_join '/' _ _ _ (List.cons_ne_nil _ _), List.filter_eq_self]
    · -- `decode` keeps every command: each starts with a non-empty token
      intro cmd hcmd
      obtain ⟨t, ts, rfl, ht⟩ := hne cmd hcmd
      cases t with
      | nil => exact absurd rfl ht
      | cons => rfl
    · -- one command: no `/` in it, and `-` separates the encoded tokens again
      intro qv hqv
      obtain ⟨t, ts, rfl, _⟩ := hne qv hqv
      refine ⟨fun hm => ?_, map_split_join '-' _ _ _ (List.cons_ne_nil _ _) fun s _ =>
        ⟨hsep s _ rfl, decodeToken_encodeToken tbl dec h hd s⟩⟩
      rcases mem_joinWith hm with h' | ⟨v, hv, hc⟩
      · cases h'
      · obtain ⟨s, _, rfl⟩ := List.mem_map.mp hv
        exact hsep s _ rfl hc

-- non-vacuity: a query satisfying `hne` with empty non-first tokens, separators and non-ASCII text
example : ∀ cmd ∈ [["a~b".toList, [], "https://x/y-z w".toList, "é%7E".toList], ["c".toList, []]],
    ∃ t ts, cmd = t :: ts ∧ t ≠ [] := by
  intro cmd hcmd
  simp only [List.mem_cons, List.not_mem_nil, or_false] at hcmd
  rcases hcmd with rfl | rfl
  · exact ⟨_, _, rfl, by decide⟩
  · exact ⟨_, _, rfl, by decide⟩
/-- info: ("a~~b--~Hx~Iy~_z~.w-%C3%A9%257E/c-", true) -/
#guard_msgs in
#eval
  let ql := [["a~b".toList, [], "https://x/y-z w".toList, "é%7E".toList], ["c".toList, []]]
  let e := encodeLL Gen.escapeTable ql
  (String.ofList e, decodeLL Gen.escapeTable decUtf8 e == ql)
-- the precondition is needed: an empty command or a command starting with "" is dropped
/-- info: (false, false, true) -/
#guard_msgs in
#eval
  let rt := fun ql => decodeLL Gen.escapeTable decUtf8 (encodeLL Gen.escapeTable ql) == ql
  (rt [["a".toList], [], ["b".toList]], rt [[[], "x".toList]], rt [])

theorem real_roundtripLL (ql : List (List (List Char)))
    (hne : ∀ cmd ∈ ql, ∃ t ts, cmd = t :: ts ∧ t ≠ []) :
    decodeLL Gen.escapeTable decUtf8 (encodeLL Gen.escapeTable ql) = ql :=
  decodeLL_encodeLL _ _ inst_tableOK inst_sepCovered decUtf8_ok ql hne

/-! ### injectivity: two different arguments never share an encoding (so no two different queries share a cache key
through their arguments) -/

/-- `encode_token` is injective on all texts -/
theorem real_injective (s t : List Char)
    (h : encodeToken Gen.escapeTable s = encodeToken Gen.escapeTable t) : s = t := by
  have := congrArg (decodeToken Gen.escapeTable decUtf8) h
  rwa [real_roundtrip, real_roundtrip] at this

/-- the query-level encoder is injective on the queries it can carry -/
theorem real_injectiveLL (ql ql' : List (List (List Char)))
    (hne : ∀ cmd ∈ ql, ∃ t ts, cmd = t :: ts ∧ t ≠ [])
    (hne' : ∀ cmd ∈ ql', ∃ t ts, cmd = t :: ts ∧ t ≠ [])
    (h : encodeLL Gen.escapeTable ql = encodeLL Gen.escapeTable ql') : ql = ql' := by
  have := congrArg (decodeLL Gen.escapeTable decUtf8) h
  rwa [real_roundtripLL ql hne, real_roundtripLL ql' hne'] at this

-- the precondition of `real_injectiveLL` matters: a dropped command makes two queries collide
/-- info: true -/
#guard_msgs in
#eval encodeLL Gen.escapeTable [["a".toList], []] == encodeLL Gen.escapeTable [["a".toList], [[]]]

end Liquer.C03

-- OBLIGATIONS: Liquer.C03.inst_tableOK Liquer.C03.inst_sepCovered Liquer.C03.inst_quoteSafe Liquer.C03.decUtf8_ok Liquer.C03.decodeToken_encodeToken Liquer.C03.real_roundtrip Liquer.C03.encodeToken_safe Liquer.C03.encodeToken_no_separator Liquer.C03.encodeToken_blocks Liquer.C03.real_safe Liquer.C03.real_no_separator Liquer.C03.real_blocks Liquer.C03.decodeLL_encodeLL Liquer.C03.real_roundtripLL Liquer.C03.real_injective Liquer.C03.real_injectiveLL
