/-
C18 — Metadata truthfully describes every result.

Theorems about `metaOf` / `metaQ` (LiquerModel/EvalMeta.lean: the metadata `Context.evaluate` returns with the state), for
EVERY query, fuel, as-typed text, extra parameters and injected input; and about the copy kept by the CACHE, on the cache
model of the evaluator (`evalQ`, LiquerModel/Eval.lean; `keptAfter` = the record (status, state) under the canonical key after
the evaluation), in a `Sound` world for a closed class of queries with the canonical-text hypothesis (as in C05/C09).
The fields of `MetaRec` recorded by the evaluating context only (namespace / version flag of the resolved command,
`parent_query`, `argument_queries`, `direct_subqueries`) are not carried by the entries of the cache model; for those and
for the copy kept by the STORE (`store_key`) `c18_kept_copy_agrees_statement` records the full statement as a schema over
unmodelled values; it is covered by the oracle of harness/props/C18.py on the implementation only.
-/
import LiquerProofs.Lemmas.EvalMetaAttrs
import LiquerProofs.Lemmas.EvalKept

namespace Liquer.C18

theorem c18_outcome_agrees (env : Env) (n : Nat) (q : Query) (raw : Str) (extra : Extra) (input : Option Val) :
    (metaQ env n q raw extra input).1 = (refQ env n q raw extra input).1 :=
  metaQ_fst env n q raw extra input

/-- … in particular metadata is returned exactly when the reference interpretation returns a state -/
theorem c18_meta_iff_state (env : Env) (n : Nat) (q : Query) (raw : Str) (extra : Extra) (input : Option Val) :
    (metaOf env n q raw extra input).isSome = true ↔ ∃ e, (refQ env n q raw extra input).1 = .st e := by
  rw [← c18_outcome_agrees, Option.isSome_iff_exists]
  simp only [metaOf_eq_some]
  exact ⟨fun ⟨_, e, h⟩ => ⟨e, congrArg Prod.fst h⟩, fun ⟨e, h⟩ => ⟨_, e, Prod.ext h rfl⟩⟩

/-- status, error flag and "a value can be obtained" agree -/
theorem c18_status_iff (env : Env) (n : Nat) (q : Query) (raw : Str) (extra : Extra) (input : Option Val) (m : MetaRec)
    (h : metaOf env n q raw extra input = some m) :
    ∃ e, (refQ env n q raw extra input).1 = .st e ∧ m.isError = e.isError ∧
      (m.isError = false ↔ (((Outcome.st e).obs).bind (·.value)).isSome = true) ∧
      (m.lastName ≠ none →
        (m.status = some Gen.metaStatusReady ∨ m.status = some Gen.metaStatusError) ∧
        (m.status = some Gen.metaStatusReady ↔ m.isError = false)) := by
  obtain ⟨e, he, hd, _⟩ := metaOf_describes h
  refine ⟨e, he, hd.isError, ?_, fun hl => ?_⟩
  · rw [hd.isError]; cases hv : e.isError <;> simp [Outcome.obs, hv]
  · rw [hd.status_of_action hl]
    cases m.isError <;> simp [statuses_distinct.symm]

/-- the case the side condition of `c18_status_iff` leaves out: before any action the metadata carries no status -/
example : (initMeta none).status = none ∧ (initMeta none).lastName = none := ⟨rfl, rfl⟩

theorem c18_describes_value (env : Env) (n : Nat) (q : Query) (raw : Str) (extra : Extra) (input : Option Val) (m : MetaRec)
    (h : metaOf env n q raw extra input = some m) :
    ∃ e, (refQ env n q raw extra input).1 = .st e ∧
      m.typeId = typeIdIn Gen.valueTypeTable e.data ∧ m.dataKind = dataKindIn Gen.valueTypeTable e.data ∧
      m.query = q.encode Gen.escapeTable ∧
      m.lastCommand = e.commands.getLast?.getD [] ∧
      m.filename = e.filename ∧ m.extension = e.extension ∧ m.attrs = e.attrs ∧
      (∀ f, m.filename = some f → m.extension = some (extensionOf f) ∧
        m.mimetype = some (StateTypes.mimeFromExt Gen.mimetypes (extensionOf f) Gen.metaDefaultMimetype)) ∧
      (m.filename = none → m.extension = none ∧ (m.lastName ≠ none → m.mimetype = some Gen.metaDefaultMimetype)) := by
  obtain ⟨e, he, hd, hq⟩ := metaOf_describes h
  exact ⟨e, he, hd.typeId, hd.dataKind, hq, hd.lastCommand, hd.filename, hd.extension, hd.attrs, hd.fileMime,
    fun hf => ⟨(hd.noFileMime hf).1, fun hl => by rw [(hd.noFileMime hf).2, if_pos (Option.isSome_iff_ne_none.mpr hl)]⟩⟩

/-- the last step of a query with predecessor `p` is reached: `p` is empty (`e0`, `m0` initial) or evaluates successfully to
`e0`, `m0`; `parent` is the `parent_query` the step sees -/
def Reaches (env : Env) (n : Nat) (input : Option Val) (p : Query) (e0 : EState) (m0 : MetaRec) (parent : Str) : Prop :=
  (p.segments.isEmpty = true ∧ e0 = C18R.initSt env input ∧ m0 = initMeta input ∧ parent = []) ∨
  (p.segments.isEmpty = false ∧ metaQ env n p (p.encode Gen.escapeTable) .none input = (.st e0, m0) ∧ e0.isError = false ∧
    parent = p.encode Gen.escapeTable)

theorem metaQ_reached (env : Env) (n : Nat) (q p : Query) (r : Option Seg) (raw : Str) (extra : Extra) (input : Option Val)
    (hp : q.predecessor = some (p, r)) (e0 : EState) (m0 : MetaRec) (parent : Str) (hr : Reaches env n input p e0 m0 parent) :
    metaQ env (n+1) q raw extra input = metaPost env n e0 m0 parent r (q.encode Gen.escapeTable) raw extra := by
  rcases hr with ⟨hpe, rfl, rfl, rfl⟩ | ⟨hpe, hm, he0, rfl⟩
  · rw [metaQ_succ, Query.isResource_eq, Query.predecessor_not_isRes hp, hp]
    -- the initial state is no error state: `metaAfter` passes it on to `metaPost`
    simp [hpe, metaAfter, C18R.initSt, initSt]
  · rw [metaQ_succ_pred env n raw extra input hp hpe, hm]
    simp [metaAfter, he0]

/-- one command action applied to a successful state: what `evaluate_action` records -/
theorem c18_action_step (env : Env) (n : Nat) (st : EState) (m0 : MetaRec) (parent : Str) (hd : Option Header) (a : Action)
    (key raw : Str) (extra : Extra) (e : EState) (m : MetaRec)
    (h : metaPost env n st m0 parent (some (.transform hd [a] none)) key raw extra = (.st e, m)) :
    m.lastCommand = a.toList Gen.escapeTable ∧ m.lastName = some a.name ∧ m.parentQuery = some parent ∧ m.query = key ∧
    (∀ nss sig, namespacesOf st.vars = some nss → resolve env.reg nss a.name = some sig →
      m.lastNs = some sig.ns ∧ m.lastVersionKnown = true ∧ m.argumentQueries = linkQueries a.params ∧
      m.attrs = mergeAttrs m0.attrs sig.attrs) ∧
    (∀ nss, namespacesOf st.vars = some nss → resolve env.reg nss a.name = none →
      m.lastNs = none ∧ m.lastVersionKnown = false ∧ m.argumentQueries = [] ∧ m.directSubqueries = [] ∧
      m.attrs = mergeAttrs m0.attrs []) := by
  rcases metaPost_cases h with ⟨hc, _⟩ | ⟨_, _, hc, _⟩ | ⟨hd', a', e2, hc, hr, _, rfl⟩
  · cases hc
  · cases hc
  cases hc
  cases n with
  | zero => nomatch hr
  | succ n =>
    refine ⟨rfl, rfl, rfl, rfl, fun nss sig hns hrs => ?_, fun nss hns hrs => ?_⟩
    · obtain ⟨hs, ha⟩ := actionInfo_resolved env n st a raw parent extra hns hrs
      simp [actionMeta, hs, ha]
    · rw [actionInfo_unresolved env n st a raw parent extra hns hrs]
      exact ⟨rfl, rfl, rfl, rfl, rfl⟩

/-- when the evaluation reaches the last action of `q`, the metadata names it, the canonical text of the query it was
applied to, and the namespace / argument queries of the command it resolved to -/
theorem c18_last_action (env : Env) (n : Nat) (q p : Query) (hd : Option Header) (a : Action) (raw : Str) (extra : Extra)
    (input : Option Val) (hp : q.predecessor = some (p, some (.transform hd [a] none)))
    (e0 : EState) (m0 : MetaRec) (parent : Str) (hr : Reaches env n input p e0 m0 parent)
    (m : MetaRec) (h : metaOf env (n+1) q raw extra input = some m) :
    m.lastCommand = a.toList Gen.escapeTable ∧ m.lastName = some a.name ∧
    m.parentQuery = some (if p.segments.isEmpty then [] else p.encode Gen.escapeTable) ∧
    m.query = q.encode Gen.escapeTable ∧
    (∀ nss sig, namespacesOf e0.vars = some nss → resolve env.reg nss a.name = some sig →
      m.lastNs = some sig.ns ∧ m.lastVersionKnown = true ∧ m.argumentQueries = linkQueries a.params ∧
      m.attrs = mergeAttrs m0.attrs sig.attrs) ∧
    (∀ nss, namespacesOf e0.vars = some nss → resolve env.reg nss a.name = none →
      m.lastNs = none ∧ m.lastVersionKnown = false ∧ m.argumentQueries = [] ∧ m.directSubqueries = [] ∧
      m.attrs = mergeAttrs m0.attrs []) := by
  obtain ⟨e, he⟩ := metaOf_eq_some.mp h
  rw [metaQ_reached env n q p _ raw extra input hp e0 m0 parent hr] at he
  obtain ⟨h1, h2, h3, h4, h5, h6⟩ := c18_action_step env n e0 m0 parent hd a _ raw extra e m he
  refine ⟨h1, h2, ?_, h4, h5, h6⟩
  rw [h3]
  rcases hr with ⟨hpe, _, _, rfl⟩ | ⟨hpe, _, _, rfl⟩ <;> simp [hpe]

/-- all fields except query text, filename, extension, mimetype -/
def SameExceptFile (a b : MetaRec) : Prop :=
  a.status = b.status ∧ a.isError = b.isError ∧ a.typeId = b.typeId ∧ a.dataKind = b.dataKind ∧
  a.lastCommand = b.lastCommand ∧ a.lastName = b.lastName ∧ a.lastNs = b.lastNs ∧ a.lastVersionKnown = b.lastVersionKnown ∧
  a.parentQuery = b.parentQuery ∧ a.argumentQueries = b.argumentQueries ∧ a.directSubqueries = b.directSubqueries ∧
  a.attrs = b.attrs

/-- a trailing file name changes only the query text and filename / extension / mimetype -/
theorem c18_filename (env : Env) (n : Nat) (q p : Query) (hd : Option Header) (f : Str) (raw : Str) (extra : Extra)
    (input : Option Val) (hp : q.predecessor = some (p, some (.transform hd [] (some f)))) (hpe : p.segments.isEmpty = false)
    (m : MetaRec) (h : metaOf env (n+1) q raw extra input = some m) :
    ∃ m0, metaOf env n p (p.encode Gen.escapeTable) .none input = some m0 ∧ SameExceptFile m m0 ∧
      m.query = q.encode Gen.escapeTable ∧
      (m.isError = false → m.filename = some f ∧ m.extension = some (extensionOf f) ∧
        m.mimetype = some (StateTypes.mimeFromExt Gen.mimetypes (extensionOf f) Gen.metaDefaultMimetype)) ∧
      (m.isError = true → m.filename = m0.filename ∧ m.extension = m0.extension ∧ m.mimetype = m0.mimetype) := by
  obtain ⟨e, he⟩ := metaOf_eq_some.mp h
  rw [metaQ_succ_pred env n raw extra input hp hpe] at he
  obtain ⟨st, hst, hcase⟩ := metaAfter_cases he
  have hm : metaQ env n p (p.encode Gen.escapeTable) .none input = (.st st, _) := Prod.ext hst rfl
  have hd0 := metaQ_describes env n p _ .none input st _ hm
  refine ⟨_, metaOf_eq_some.mpr ⟨st, hm⟩, ?_⟩
  rcases hcase with ⟨hse, _, rfl⟩ | ⟨hse, hpost⟩
  · -- the predecessor failed: its record travels on under the new query text
    rw [hd0.propagate_eq hse]
    refine ⟨⟨rfl, rfl, rfl, rfl, rfl, rfl, rfl, rfl, rfl, rfl, rfl, rfl⟩, rfl, fun hne => ?_, fun _ => ⟨rfl, rfl, rfl⟩⟩
    cases (hd0.isError.trans hse).symm.trans hne
  · rcases metaPost_cases hpost with ⟨hc, _⟩ | ⟨_, f', hc, _, rfl⟩ | ⟨_, _, _, hc, _⟩
    · cases hc
    · cases hc
      refine ⟨⟨rfl, rfl, rfl, rfl, rfl, rfl, rfl, rfl, rfl, rfl, rfl, rfl⟩, rfl, fun _ => ⟨rfl, rfl, rfl⟩, fun hne => ?_⟩
      cases (hd0.isError.trans hse).symm.trans hne
    · cases hc

/-- capitalised attribute keys of any earlier step of a successful evaluation are present at the end — any number `k` of
steps later -/
theorem c18_attributes (env : Env) (input : Option Val) {p q : Query} {k : Nat} (hch : Chain p q k)
    (n : Nat) (raw : Str) (extra : Extra) (e : EState) (m : MetaRec)
    (h : metaQ env (n+k) q raw extra input = (.st e, m)) (he : e.isError = false) :
    ∃ e0 m0, metaQ env n p (p.encode Gen.escapeTable) .none input = (.st e0, m0) ∧ e0.isError = false ∧
      ∀ key, isUpperFirst key = true → key ∈ m0.attrs.map (·.1) → key ∈ m.attrs.map (·.1) := by
  induction hch generalizing n raw extra e m with
  | one q r hp hpe =>
    obtain ⟨e0, m0, h0, he0, hpost⟩ := metaQ_step_ok env n p q r raw extra input hp hpe e m h he
    exact ⟨e0, m0, h0, he0, metaPost_capital_persists hpost⟩
  | step q' q r k _ hq hqe ih =>
    obtain ⟨e1, m1, h1, he1, hpost⟩ := metaQ_step_ok env (n+k) q' q r raw extra input hq hqe e m h he
    obtain ⟨e0, m0, h0, he0, hall⟩ := ih n _ .none e1 m1 h1 he1
    exact ⟨e0, m0, h0, he0, fun key hu hk => metaPost_capital_persists hpost key hu (hall key hu hk)⟩

/-- what one action does to the attributes (`cmd` = the attributes of the command it resolved to): capitalised keys persist
(with their value unless the command redefines the key); the non-capitalised keys are exactly the command's own (without
`volatile`) and every non-capitalised attribute is literally one of the command's -/
theorem c18_attributes_step (inherited cmd : List (Str × Str)) :
    (∀ k, isUpperFirst k = true → k ∈ inherited.map (·.1) → k ∈ (mergeAttrs inherited cmd).map (·.1)) ∧
    (∀ kv, isUpperFirst kv.1 = true → kv ∈ inherited → kv.1 ∉ cmd.map (·.1) → kv ∈ mergeAttrs inherited cmd) ∧
    (∀ k, isUpperFirst k = false → (k ∈ (mergeAttrs inherited cmd).map (·.1) ↔ (k ∈ cmd.map (·.1) ∧ k ≠ s "volatile"))) ∧
    (∀ kv, isUpperFirst kv.1 = false → kv ∈ mergeAttrs inherited cmd → kv ∈ cmd) :=
  ⟨fun k hu hk => mergeAttrs_capital_persists inherited cmd k hu hk,
   fun kv hu hk hno => foldl_upsert_keeps _ _ kv (List.mem_filter.mpr ⟨hk, hu⟩) fun kv' hkv' heq =>
     hno (List.mem_map.mpr ⟨kv', (List.mem_filter.mp hkv').1, heq.symm⟩),
   fun k hl => by rw [mergeAttrs_keys, hl]; simp,
   fun kv hl h => (foldl_upsert_mem _ _ _ h).elim
     (fun h => nomatch hl.symm.trans (List.mem_filter.mp h).2) fun h => (List.mem_filter.mp h).1⟩

namespace Ex

/-- the real vocabulary; no decoder is needed: the queries are hand-built ASTs without links or sub-evaluation -/
def env0 : Env := { reg := Gen.registry, defaults := [], dec := fun _ => [] }
def act (name : String) (pos : Nat) : Action := .mk (s name) [] pos
def qOne : Query := .mk [.transform none [act "one" 0] none] false
def qA1 : Query := .mk [.transform none [act "one" 0, act "attr1" 4] none] false
def qA2 : Query := .mk [.transform none [act "one" 0, act "attr1" 4, act "attr2" 10] none] false
def qFile : Query := .mk [.transform none [act "one" 0, act "attr1" 4, act "attr2" 10] (some (s "x.TXT"))] false
def qBoom : Query := .mk [.transform none [act "one" 0, act "boom" 4] none] false
def qBoomFile : Query := .mk [.transform none [act "one" 0, act "boom" 4] (some (s "x.txt"))] false

/-- metadata is returned, an action was executed, status `ready` -/
example : (metaOf env0 6 qA2 (s "one/attr1/attr2") .none none).map (fun m => (m.status, m.isError, m.lastName)) =
      some (some (s "ready"), false, some (s "attr2")) ∧
    (metaOf env0 6 qA2 (s "one/attr1/attr2") .none none).map (fun m => (m.parentQuery, m.typeId, m.dataKind)) =
      some (some (s "one/attr1"), s "generic", s "Integer") := by decide +kernel

/-- a failing evaluation: status `error`, flag set, still the failing action and its parent -/
example : (metaOf env0 6 qBoomFile (s "one/boom/x.txt") .none none).map (fun m => (m.status, m.isError, m.lastName, m.parentQuery)) =
      some (some (s "error"), true, some (s "boom"), some (s "one")) ∧
    (metaOf env0 6 qBoomFile (s "one/boom/x.txt") .none none).map (fun m => (m.filename, m.mimetype, m.query)) =
      some (none, some (s "application/octet-stream"), s "one/boom/x.txt") := by decide +kernel

def Outcome.isGood : Outcome → Bool
  | .st e => !e.isError
  | _ => false

theorem Outcome.isGood_elim {o : Outcome} (h : Outcome.isGood o = true) : ∃ e, o = .st e ∧ e.isError = false := by
  cases o with
  | st e => exact ⟨e, rfl, by simpa [Outcome.isGood] using h⟩
  | _ => simp [Outcome.isGood] at h

theorem good_run {x : Outcome × MetaRec} (h : Outcome.isGood x.1 = true) : ∃ e, x = (.st e, x.2) ∧ e.isError = false := by
  obtain ⟨e, he, hg⟩ := Outcome.isGood_elim h
  exact ⟨e, Prod.ext he rfl, hg⟩

theorem keys : qOne.encode Gen.escapeTable = s "one" ∧ qA1.encode Gen.escapeTable = s "one/attr1" ∧
    qA2.encode Gen.escapeTable = s "one/attr1/attr2" := by decide +kernel

/-- hypotheses of `c18_last_action` / `c18_action_step`: `one/attr1/attr2` reaches its last action `attr2`, which resolves -/
example : qA2.predecessor = some (qA1, some (.transform none [act "attr2" 10] none)) ∧
    (∃ e0 m0, Reaches env0 5 none qA1 e0 m0 (qA1.encode Gen.escapeTable)) ∧
    (metaOf env0 6 qA2 (s "one/attr1/attr2") .none none).isSome = true ∧
    (resolve env0.reg [s "root"] (s "attr2")).isSome = true := by
  -- one run: `one/attr1/attr2` succeeds, hence so did its predecessor
  obtain ⟨e, hq, hg⟩ := good_run (x := metaQ env0 6 qA2 (s "one/attr1/attr2") .none none) (by decide +kernel)
  obtain ⟨e0, m0, h0, hg0, _⟩ := metaQ_step_ok env0 5 qA1 qA2 _ _ .none none rfl rfl e _ hq hg
  exact ⟨rfl, ⟨e0, m0, .inr ⟨rfl, h0, hg0, rfl⟩⟩, Option.isSome_iff_exists.mpr ⟨_, metaOf_eq_some.mpr ⟨e, hq⟩⟩,
    by decide +kernel⟩

/-- … and an unknown command is recorded without namespace and version -/
example : (metaOf env0 6 (.mk [.transform none [act "one" 0, act "zzz" 4] none] false) (s "one/zzz") .none none).map
      (fun m => (m.lastName, m.lastNs, m.lastVersionKnown, m.isError)) = some (some (s "zzz"), none, false, true) := by
  decide +kernel

/-- hypotheses of `c18_filename`, successful case: only query text, filename, extension, mimetype differ -/
example : qFile.predecessor = some (qA2, some (.transform none [] (some (s "x.TXT")))) ∧ qA2.segments.isEmpty = false ∧
    (metaOf env0 7 qFile (s "one/attr1/attr2/x.TXT") .none none).map (fun m => (m.isError, m.filename, m.extension)) =
      some (false, some (s "x.TXT"), some (s "txt")) ∧
    (metaOf env0 7 qFile (s "one/attr1/attr2/x.TXT") .none none).map (fun m => (m.mimetype, m.lastName)) =
      some (some (s "text/plain"), some (s "attr2")) := by
  refine ⟨rfl, rfl, ?_⟩
  decide +kernel

/-- … failing case: the file name is not applied -/
example : qBoomFile.predecessor = some (qBoom, some (.transform none [] (some (s "x.txt")))) ∧
    (metaOf env0 6 qBoomFile (s "one/boom/x.txt") .none none).map (fun m => (m.isError, m.filename)) = some (true, none) := by
  refine ⟨rfl, by decide +kernel⟩

/-- hypotheses of `c18_attributes`: `one/attr1/attr2` is two steps after `one`, one step after `one/attr1`; it succeeds; the
capitalised `Keep` of `attr1` is still there after `attr2`, whose own `low`/`Other` replaced `attr1`'s `low` -/
example : Chain qOne qA2 2 ∧ Chain qA1 qA2 1 ∧
    Outcome.isGood (metaQ env0 (4+2) qA2 (s "one/attr1/attr2") .none none).1 = true ∧
    (metaOf env0 5 qA1 (s "one/attr1") .none none).map (·.attrs) = some [(s "Keep", s "k1"), (s "low", s "l1"), (s "ns", s "root")] ∧
    (metaOf env0 6 qA2 (s "one/attr1/attr2") .none none).map (·.attrs) =
      some [(s "Keep", s "k1"), (s "Other", s "o2"), (s "low", s "l2"), (s "ns", s "root")] := by
  refine ⟨Chain.step qOne qA1 qA2 _ 1 (Chain.one qOne qA1 _ rfl rfl) rfl rfl, Chain.one qA1 qA2 _ rfl rfl, ?_⟩
  decide +kernel

/-- `c18_attributes_step` on the attributes above -/
example : isUpperFirst (s "Keep") = true ∧ isUpperFirst (s "low") = false ∧
    mergeAttrs [(s "Keep", s "k1"), (s "low", s "l1"), (s "ns", s "root")] [(s "Other", s "o2"), (s "low", s "l2"), (s "ns", s "root")] =
      [(s "Keep", s "k1"), (s "Other", s "o2"), (s "low", s "l2"), (s "ns", s "root")] := by decide +kernel

end Ex

/-- SUCCESS.  In a sound world with the cache enabled, after an evaluation that returns a successful, non-volatile,
caching-enabled state through an action or a file name (`hasStep`), the record kept under the canonical key has status
`ready` and holds a state `s` equal to the returned one up to `status`.  The metadata model returns metadata for this
evaluation, and every record it returns (any fuel) agrees with the kept state on every state-determined field
(`stateView` / `recOfState`), carries no error flag, and — once an action was executed — has the kept status. -/
theorem c18_kept_copy_success {env : Env} {C : Query → Prop} {T : Str → Prop} (hC : Closed env C T)
    (hcanon : ∀ q, C q → CanonOK env q) (n : Nat) (w : World) (q : Query) (raw : Str) (hS : Sound env w)
    (hen : w.enabled = true) (hCq : C q) (st : EState)
    (h : (evalQ env (n+1) w q raw .none none true).2 = .st st)
    (hc : st.caching = true) (he : st.isError = false) (hv : st.volatile = false) (hstep : q.hasStep = true) :
    ∃ s, keptAfter env (n+1) w q raw = some (statusReady, some s) ∧ s.core = st.core ∧
      (∃ m, (metaOf env m q raw .none none).isSome = true) ∧
      ∀ m mrec, metaOf env m q raw .none none = some mrec →
        mrec.stateView = recOfState s ∧ mrec.isError = false ∧
        (mrec.lastName ≠ none → mrec.status = some statusReady) := by
  obtain ⟨hex, hall⟩ := meta_describes_returned hC hcanon (n+1) w q raw hS hCq st h
  -- the cache serves the state as returned, or as just stored (status `ready`)
  obtain ⟨s, hg, hcore⟩ : ∃ s, (evalQ env (n+1) w q raw .none none true).1.get (q.encode Gen.escapeTable) = some s ∧
      s.core = st.core := by
    rcases present_after env n w _ q raw st hen (Prod.ext rfl h) hc he hv hstep with hg | hg <;> exact ⟨_, hg, rfl⟩
  refine ⟨s, World.kept_of_get hg, hcore, hex, fun m mrec hm => ?_⟩
  have hv := hall m mrec hm
  have herr : mrec.isError = false := (congrArg MetaRec.isError hv).trans he
  refine ⟨by rw [hv, recOfState_core hcore], herr, fun hl => ?_⟩
  obtain ⟨e, hq⟩ := metaOf_eq_some.mp hm
  rw [(metaQ_describes env m q raw .none none e mrec hq).status_of_action hl, herr]
  rfl

/-- what `stateView = recOfState s` says field by field (status and media type as `recOfState` computes them) -/
theorem c18_kept_copy_fields (m : MetaRec) (s : EState) (h : m.stateView = recOfState s) :
    m.query = s.query ∧ m.isError = s.isError ∧
    m.typeId = typeIdIn Gen.valueTypeTable s.data ∧ m.dataKind = dataKindIn Gen.valueTypeTable s.data ∧
    m.lastCommand = s.commands.getLast?.getD [] ∧ m.lastName = (s.commands.getLast?.getD []).head? ∧
    m.filename = s.filename ∧ m.extension = s.extension ∧ m.attrs = s.attrs ∧
    m.status = (recOfState s).status ∧ m.mimetype = (recOfState s).mimetype :=
  ⟨congrArg MetaRec.query h, congrArg MetaRec.isError h, congrArg MetaRec.typeId h, congrArg MetaRec.dataKind h,
    congrArg MetaRec.lastCommand h, congrArg MetaRec.lastName h, congrArg MetaRec.filename h, congrArg MetaRec.extension h,
    congrArg MetaRec.attrs h, (congrArg MetaRec.status h :), (congrArg MetaRec.mimetype h :)⟩

/-- ERROR.  In a sound world with the cache enabled, after an evaluation (typed as the canonical text) that returns an
error state, the record kept under the canonical key is metadata-only with status `error`; the metadata model returns
metadata, and every record it returns carries the error flag and the same status: both are marked as error. -/
theorem c18_kept_copy_error {env : Env} {C : Query → Prop} {T : Str → Prop} (hC : Closed env C T)
    (hcanon : ∀ q, C q → CanonOK env q) (n : Nat) (w : World) (q : Query) (hS : Sound env w)
    (hen : w.enabled = true) (hCq : C q) (st : EState)
    (h : (evalQ env (n+1) w q (q.encode Gen.escapeTable) .none none true).2 = .st st) (he : st.isError = true) :
    keptAfter env (n+1) w q (q.encode Gen.escapeTable) = some (s "error", none) ∧
      (∃ m, (metaOf env m q (q.encode Gen.escapeTable) .none none).isSome = true) ∧
      ∀ m mrec, metaOf env m q (q.encode Gen.escapeTable) .none none = some mrec →
        mrec.isError = true ∧ mrec.status = some (s "error") := by
  obtain ⟨m0, e, href, hcore⟩ := ref_of_eval hC hcanon (n+1) w q _ hS hCq st h
  obtain ⟨hsome, hall⟩ := metaQ_of_ref href
  have hee : e.isError = true := by rw [← EState.core_isError hcore]; exact he
  have hmiss := hS.miss_of_bad n q _ h (.inl he)
  -- the final world is sound, so there is no data under the key afterwards
  have hnodata := Sound.no_data_of_ref_error
    (evalQ_refines hC hcanon (n+1) w q (q.encode Gen.escapeTable) .none none true hS hCq (fun _ => rfl)).1 (hcanon q hCq) href hee
  refine ⟨?_, ⟨m0, hsome⟩, fun m mrec hm => ?_⟩
  · obtain ⟨X, henX, hw'⟩ := error_filed env n w (evalQ env (n+1) w q (q.encode Gen.escapeTable) .none none true).fst q st hen hmiss
      (Prod.ext rfl h) he
    -- the kept record is `("error", data of X if the cache keeps data)`, and there is no data afterwards
    rw [hw', World.dataAt_eq_kept, World.kept_storeMeta_self X henX] at hnodata
    unfold keptAfter
    rw [hw', World.kept_storeMeta_self X henX, show (if X.metaKeepsData then _ else none) = none from hnodata]
  · have hd := metaQ_describes env m q _ .none none e mrec (hall m mrec hm)
    have herr : mrec.isError = true := hd.isError.trans hee
    have hl : mrec.lastName ≠ none := fun hn => nomatch (hd.noAction hn).symm.trans herr
    exact ⟨herr, by rw [hd.status_of_action hl, herr]; rfl⟩

/-- UNCACHED.  In a sound world, after an evaluation that returns a successful but volatile or cache-disabled state
through an action or a file name, no record is kept under the canonical key — in particular no data, visible or hidden
(C05's `not_admitted`, sharpened) — while the returned metadata still describes the returned state. -/
theorem c18_kept_copy_uncached {env : Env} {C : Query → Prop} {T : Str → Prop} (hC : Closed env C T)
    (hcanon : ∀ q, C q → CanonOK env q) (n : Nat) (w : World) (q : Query) (raw : Str) (hS : Sound env w) (hCq : C q)
    (st : EState) (h : (evalQ env (n+1) w q raw .none none true).2 = .st st)
    (he : st.isError = false) (hbad : st.volatile = true ∨ st.caching = false) (hstep : q.hasStep = true) :
    keptAfter env (n+1) w q raw = none ∧
      (evalQ env (n+1) w q raw .none none true).1.dataAt (q.encode Gen.escapeTable) = none ∧
      (∃ m, (metaOf env m q raw .none none).isSome = true) ∧
      ∀ m mrec, metaOf env m q raw .none none = some mrec → mrec.stateView = recOfState st := by
  have hmiss := hS.miss_of_bad n q raw h (.inr hbad)
  obtain ⟨X, hw'⟩ := uncached_removed env n w (evalQ env (n+1) w q raw .none none true).fst q raw st hmiss
    (Prod.ext rfl h) hstep he hbad
  have hk : keptAfter env (n+1) w q raw = none := by
    unfold keptAfter; rw [hw']; exact World.kept_remove_self X _
  refine ⟨hk, ?_, meta_describes_returned hC hcanon (n+1) w q raw hS hCq st h⟩
  rw [World.dataAt_eq_kept]
  unfold keptAfter at hk
  rw [hk]; rfl

namespace KeptEx
open Liquer.Ex

/-- the common hypotheses: a closed class with the canonical-text hypothesis, the empty world is sound and enabled -/
example : Closed env0 CK T0 ∧ (∀ q, CK q → CanonOK env0 q) ∧ Sound env0 {} ∧ ({} : World).enabled = true ∧
    CK qOneAdd ∧ CK qOneBoom ∧ CK qOneVol ∧ CK qOneNocache :=
  ⟨closedK, canonK, Sound.empty _, rfl, Or.inl rfl, Or.inr (Or.inl rfl), Or.inr (Or.inr (Or.inl rfl)),
    Or.inr (Or.inr (Or.inr (Or.inl rfl)))⟩

/-- `c18_kept_copy_success`: `one/add-2` from the empty world is successful, non-volatile, caching on, has a step; the kept
record is `ready` and core-equal to the returned state; the metadata of the metadata model agrees with the kept state on
the state-determined fields (and these are not trivial: `add`, `ready`, `Integer`) -/
example :
    let r := evalQ env0 9 {} qOneAdd (s "one/add-2") .none none true
    qOneAdd.hasStep = true ∧
    (match r.2, keptAfter env0 9 {} qOneAdd (s "one/add-2") with
     | .st st, some (status, some k) =>
       st.caching && !st.isError && !st.volatile && decide (status = statusReady) && decide (k.core = st.core) &&
       decide ((metaOf env0 8 qOneAdd (s "one/add-2") .none none).map (·.stateView) = some (recOfState k)) &&
       decide (((recOfState k).lastName, (recOfState k).status, (recOfState k).dataKind) =
         (some (s "add"), some (s "ready"), s "Integer"))
     | _, _ => false) = true := by
  decide +kernel

/-- `c18_kept_copy_error`: `one/boom` typed canonically fails; the kept record is metadata-only with status `error`, and so
is the returned metadata -/
example :
    qOneBoom.encode Gen.escapeTable = s "one/boom" ∧
    (evalQ env0 9 {} qOneBoom (s "one/boom") .none none true).2.obs.map (·.value) = some none ∧
    keptAfter env0 9 {} qOneBoom (s "one/boom") = some (s "error", none) ∧
    (metaOf env0 8 qOneBoom (s "one/boom") .none none).map (fun m => (m.isError, m.status)) =
      some (true, some (s "error")) := by
  decide +kernel

/-- `c18_kept_copy_uncached`: `one/vol` (volatile) and `one/nocache` (caching switched off) succeed and have a step;
nothing is kept under their keys, while the prefix `one` is kept -/
example :
    qOneVol.hasStep = true ∧ qOneNocache.hasStep = true ∧
    (match (evalQ env0 9 {} qOneVol (s "one/vol") .none none true).2 with
     | .st st => !st.isError && st.volatile | _ => false) = true ∧
    (match (evalQ env0 9 {} qOneNocache (s "one/nocache") .none none true).2 with
     | .st st => !st.isError && !st.caching | _ => false) = true ∧
    keptAfter env0 9 {} qOneVol (s "one/vol") = none ∧ keptAfter env0 9 {} qOneNocache (s "one/nocache") = none ∧
    ((evalQ env0 9 {} qOneVol (s "one/vol") .none none true).1.kept (s "one")).map (·.1) = some statusReady := by
  decide +kernel

end KeptEx

/-- full statement about the copies of the metadata kept by the cache and by the store: for a successful evaluation
they agree with the returned metadata on every field of `MetaRec`; for a failed one both are marked as error.
`cached` / `stored` stand for `cache.get_metadata(encode q)` / `store.get_metadata(store_key)` after the evaluation:
they are arbitrary values here, not connected to any model, so this definition is a schema and cannot be proved as it
stands.  The CACHE part is proved on the cache model by `c18_kept_copy_success` / `c18_kept_copy_error` /
`c18_kept_copy_uncached` (for the fields of `MetaRec` that are a function of the kept state; the entries of the cache model
do not carry the context-recorded fields).  The STORE copy (`store_key`) has no model: it remains covered by the
implementation-side oracle of harness/props/C18.py only. -/
def c18_kept_copy_agrees_statement : Prop :=
  ∀ (env : Env) (n : Nat) (q : Query) (raw : Str) (input : Option Val) (m : MetaRec)
    (cached stored : Option MetaRec),
    metaOf env n q raw .none input = some m →
    (∀ c, cached = some c ∨ stored = some c →
      (m.isError = false → c = m) ∧ (m.isError = true → c.isError = true ∧ c.status = some Gen.metaStatusError))

end Liquer.C18

-- OBLIGATIONS: Liquer.C18.c18_outcome_agrees Liquer.C18.c18_meta_iff_state Liquer.C18.c18_status_iff Liquer.C18.c18_describes_value Liquer.C18.c18_action_step Liquer.C18.c18_last_action Liquer.C18.c18_filename Liquer.C18.c18_attributes Liquer.C18.c18_attributes_step Liquer.C18.c18_kept_copy_success Liquer.C18.c18_kept_copy_fields Liquer.C18.c18_kept_copy_error Liquer.C18.c18_kept_copy_uncached
-- STATEMENT-ONLY: Liquer.C18.c18_kept_copy_agrees_statement
