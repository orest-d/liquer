/-
C12 — concurrent evaluations sharing a cache are serializable. Theorems over LiquerModel/EvalO.lean and Conc.lean.

"When several evaluations of overlapping queries run concurrently against one shared cache, under every interleaving of their
cache accesses each evaluation returns exactly what it would return when run alone, and every value left in the cache equals
the value of a fresh evaluation of its key.  In particular an entry that another evaluation is still producing is never served
as a finished result."

Model: a thread is the evaluator run against an oracle (`evalQO`: every `get` consumes the next answer of a list, every cache
operation is appended to a trace).  A thread's own steps are the `get` / `store` / `remove` operations of its trace (`ownOps`);
`stepThread` performs the thread's next own operation on the shared cache `World` (a `get` records the cache's answer).
Progress-metadata writes (`store_metadata`) are not predicted: they are environment steps `envMeta c k status` — anybody may
write metadata for ANY key with ANY status at ANY time.  `StepAny` lets any thread move or the environment write metadata;
`Reach env c c'` is its reflexive-transitive closure: all schedules, any length, any number of threads, interleaved with
arbitrary metadata writes.  (`runEvents` runs a list of such events, `runSchedule` a list of thread indices, `finishAll` lets the
threads finish.)  An environment write between two steps of a thread changes what the cache answers later, but the cache stays
`Sound` whatever is written, so every answer a thread receives is still a miss or the finished value of the key.

Vocabulary (Lemmas/ConcW.lean, ConcO3.lean, ConcO5.lean, EvalDefs.lean):
  `GoodAt env k st`   — `st` is, up to `status`, the successful, non-volatile, cacheable reference value of the key text `k`;
  `Sound env w`       — every data-bearing entry of `w` is `GoodAt` its key (= "equals the value of a fresh evaluation of its key");
  `GoodAns env k a`   — the answer `a` to `get k` is a miss or `GoodAt` `k`;
  `GoodPairs env tr A` — the `i`-th answer of `A` is good for the key of the `i`-th `get` of the trace `tr`;
  `OpGood env op`     — `op` writes no data, or stores `GoodAt` data under its own key;
  `Closed env C T`, `CanonOK env q` — the class of queries an evaluation stays in, and C02's print-parse round trip for them
                         (hypotheses exactly as in C01/C04).
Proof structure: ConcO1 (one-step equations of the oracle evaluator), ConcTwin (`Twin`: the evaluator over a cache and the oracle
evaluator are the same program, by induction on the fuel), of which ConcO2 (frame: trace grows, answers accounted, starved ⇒
`unmodelled`), ConcO4 (more answers only extend the trace), ConcO6 (an oracle fed the answers of a cache is the sequential
evaluator) and `Twin.keeps` (EvalVia: no error state is stored) are readings; ConcO3
(refinement by induction on the fuel, reusing the reference-side lemmas of R-eval), ConcO5 (the invariant and its preservation by
every thread step and every environment write).
-/
import LiquerModel.Conc
import LiquerProofs.Inst.Vocab
import LiquerProofs.Lemmas.ConcO4
import LiquerProofs.Lemmas.ConcO5
import LiquerProofs.Lemmas.ConcO6
import LiquerProofs.Lemmas.EvalCor
import LiquerProofs.Lemmas.EvalExample
import LiquerProofs.Lemmas.ConcFile3
import LiquerProofs.Lemmas.ConcFileT2

namespace Liquer.C12

/-- the regenerated command signature table satisfies the side conditions the evaluator theorems assume -/
theorem inst_registry : Inst.registryOK Gen.registry = true := Inst.registry_ok

/-! ### 1. the shared cache answers with finished values only -/

/-- every answer of a `Sound` cache is a miss or the good value of the key asked -/
theorem good_answer {env : Env} {w : World} (h : Sound env w) (k : Str) : GoodAns env k (w.get k) := h.get_good k

/-! ### 2. oracle refinement: a thread that received good answers writes good data and returns the reference value -/

/-- The analogue of R-eval for the oracle evaluator.  If every answer the run consumed is good for the key it was asked for,
then (a) every `store` of its trace writes the good value of its own key, (b) every operation of the trace is harmless
(`storeMeta`, `remove` and `get` write no data), and (c) when the run did not starve and its outcome is modelled, the
observation is that of the reference interpretation. -/
theorem oracle_refines {env : Env} {C : Query → Prop} {T : Str → Prop} (hC : Closed env C T)
    (hcanon : ∀ q, C q → CanonOK env q) (n : Nat) (A : List (Option EState)) (q : Query) (raw : Str) (hCq : C q)
    (hG : GoodPairs env (evalQO env n { answers := A } q raw .none none true).1.trace A) :
    (∀ st, COp.store st ∈ (evalQO env n { answers := A } q raw .none none true).1.trace → GoodAt env st.query st) ∧
    (∀ op ∈ (evalQO env n { answers := A } q raw .none none true).1.trace, OpGood env op) ∧
    ((evalQO env n { answers := A } q raw .none none true).1.starved = false →
      (evalQO env n { answers := A } q raw .none none true).2 ≠ .unmodelled →
      ∃ m, (refQ env m q raw .none none).1 ≠ .unmodelled ∧
        (evalQO env n { answers := A } q raw .none none true).2.obs = (refQ env m q raw .none none).1.obs) := by
  obtain ⟨h1, h2⟩ := evalQO_refines hC hcanon n A q raw hCq hG
  refine ⟨fun st hst => h1 _ hst, h1, fun _ hne => ?_⟩
  obtain ⟨m, hsim⟩ := h2 hne
  exact ⟨m, Outcome.sim_ne_unmodelled hsim hne, Outcome.sim_obs hsim⟩

/-- frame of an oracle run: the answers consumed are exactly accounted for by the `get`s of the trace — a run that did not
starve asked as many keys as it consumed answers, a starved run asked more keys than there were answers — and a starved
run returns `unmodelled` -/
theorem oracle_frame (env : Env) (n : Nat) (A : List (Option EState)) (q : Query) (raw : Str) :
    ((evalQO env n { answers := A } q raw .none none true).1.starved = false →
      ∃ used, A = used ++ (evalQO env n { answers := A } q raw .none none true).1.answers ∧
        used.length = (gets (evalQO env n { answers := A } q raw .none none true).1.trace).length) ∧
    ((evalQO env n { answers := A } q raw .none none true).1.starved = true →
      A.length < (gets (evalQO env n { answers := A } q raw .none none true).1.trace).length ∧
      (evalQO env n { answers := A } q raw .none none true).2 = .unmodelled) := by
  have h := (frameO env n).q { answers := A } q raw .none none true
  have hw := h.wfo (WFO.init A)
  exact ⟨hw.2, fun hs => ⟨hw.1 hs, h.2.2 rfl hs⟩⟩

/-- more answers only extend what a thread does: the trace against `A` is a prefix of the trace against `A ++ B` -/
theorem answers_extend_trace (env : Env) (n : Nat) (A B : List (Option EState)) (q : Query) (raw : Str) :
    (evalQO env n { answers := A } q raw .none none true).1.trace <+:
      (evalQO env n { answers := A ++ B } q raw .none none true).1.trace :=
  evalQO_ext_prefix env n A B q raw .none none true

/-! ### 3. world lemmas -/

/-- a harmless operation keeps the shared cache `Sound`; progress metadata, removals and look-ups are always harmless -/
theorem apply_op_sound {env : Env} {w : World} {ans : List (Option EState)} (h : Sound env w) {op : COp}
    (hop : OpGood env op) : Sound env (applyOp (w, ans) op).1 := Sound.applyOp (acc := (w, ans)) h hop

theorem meta_remove_harmless (env : Env) (k x : Str) :
    OpGood env (.storeMeta k x) ∧ OpGood env (.remove k) ∧ OpGood env (.get k) := ⟨trivial, trivial, trivial⟩

/-- the answer recorded by a `get` step is the cache's answer at that moment, and it is good -/
theorem recorded_answer_good {env : Env} {w : World} {ans : List (Option EState)} (h : Sound env w) (k : Str) :
    (applyOp (w, ans) (.get k)).2 = ans ++ [w.get k] ∧ GoodAns env k (w.get k) := ⟨rfl, h.get_good k⟩

/-! ### 4. the invariant -/

/-- the invariant: the shared cache is `Sound`; every thread evaluates a query of the class, has performed a prefix of its
own operations (`ThreadOK.done_le`: `t.done ≤ (ownOps (t.run env).1.trace).length`), has received exactly the answers of the
`get`s it performed, each good for its key; a result is the outcome of a run that did not starve -/
theorem inv_iff (env : Env) (C : Query → Prop) (c : Config) :
    Inv env C c ↔ Sound env c.shared ∧ ∀ t ∈ c.threads, ThreadOK env C t := Iff.rfl

theorem fresh_inv {env : Env} {C : Query → Prop} {c : Config} (h : Fresh env C c) : Inv env C c := h.inv

theorem step_preserves_inv {env : Env} {C : Query → Prop} {T : Str → Prop} (hC : Closed env C T)
    (hcanon : ∀ q, C q → CanonOK env q) {c : Config} (h : Inv env C c) (i : Nat) : Inv env C (stepAt env c i) :=
  stepAt_inv hC hcanon (extPrefix env) h i

/-- an environment step — a metadata-only write of any key with any status — preserves the invariant -/
theorem env_preserves_inv {env : Env} {C : Query → Prop} {c : Config} (h : Inv env C c) (k status : Str) :
    Inv env C (envMeta c k status) :=
  envMeta_inv h k status

theorem reach_preserves_inv {env : Env} {C : Query → Prop} {T : Str → Prop} (hC : Closed env C T)
    (hcanon : ∀ q, C q → CanonOK env q) {c c' : Config} (hr : Reach env c c') (h : Inv env C c) : Inv env C c' :=
  hr.inv hC hcanon (extPrefix env) h

theorem schedule_preserves_inv {env : Env} {C : Query → Prop} {T : Str → Prop} (hC : Closed env C T)
    (hcanon : ∀ q, C q → CanonOK env q) (sched : List Nat) (fuel : Nat) {c : Config} (h : Inv env C c) :
    Inv env C (finishAll env fuel (runSchedule env c sched)) :=
  finishAll_inv hC hcanon (extPrefix env) fuel
    (runSchedule_inv hC hcanon (extPrefix env) sched h)

/-- every list of events (thread steps and environment metadata writes in any order), followed by letting the threads finish,
preserves the invariant -/
theorem events_preserve_inv {env : Env} {C : Query → Prop} {T : Str → Prop} (hC : Closed env C T)
    (hcanon : ∀ q, C q → CanonOK env q) (evs : List Ev) (fuel : Nat) {c : Config} (h : Inv env C c) :
    Inv env C (finishAll env fuel (runEvents env c evs)) :=
  finishAll_inv hC hcanon (extPrefix env) fuel
    (runEvents_inv hC hcanon (extPrefix env) evs h)

/-- `runSchedule`, `finishAll` are instances of reachability (indices out of range do nothing) -/
theorem schedule_reach (env : Env) (c : Config) (sched : List Nat) (fuel : Nat) :
    Reach env c (finishAll env fuel (runSchedule env c sched)) :=
  ((Reach.refl c).runSchedule sched).finishAll fuel

/-- … and so is `runEvents` -/
theorem events_reach (env : Env) (c : Config) (evs : List Ev) (fuel : Nat) :
    Reach env c (finishAll env fuel (runEvents env c evs)) :=
  ((Reach.refl c).runEvents evs).finishAll fuel

/-! ### 5. the property -/

/-- Every value left in the cache equals the fresh value of its key: from a `Sound` shared cache and fresh threads, under
every schedule and whatever metadata the environment writes in between, the shared cache of every reachable configuration is
`Sound`. -/
theorem cache_sound_every_schedule {env : Env} {C : Query → Prop} {T : Str → Prop} (hC : Closed env C T)
    (hcanon : ∀ q, C q → CanonOK env q) {c0 c : Config} (h0 : Fresh env C c0)
    (hr : Reach env c0 c) : Sound env c.shared :=
  (reach_preserves_inv hC hcanon hr h0.inv).1

/-- spelled out: every data-bearing entry of every reachable shared cache is the reference value of its key text -/
theorem cache_values_fresh {env : Env} {C : Query → Prop} {T : Str → Prop} (hC : Closed env C T)
    (hcanon : ∀ q, C q → CanonOK env q) {c0 c : Config} (h0 : Fresh env C c0)
    (hr : Reach env c0 c) (k : Str) (st : EState) (hk : c.shared.dataAt k = some st) :
    ∃ fuel st' calls, refText env fuel k = (.st st', calls) ∧ st'.isError = false ∧ st'.volatile = false ∧
      st'.caching = true ∧ st.core = st'.core :=
  cache_sound_every_schedule hC hcanon h0 hr k st hk

/-- Each evaluation returns what it returns alone: in every reachable configuration the result of a finished thread has the
observation of the reference interpretation of its query. -/
theorem result_is_solo {env : Env} {C : Query → Prop} {T : Str → Prop} (hC : Closed env C T)
    (hcanon : ∀ q, C q → CanonOK env q) {c0 c : Config} (h0 : Fresh env C c0)
    (hr : Reach env c0 c) (t : Thread) (ht : t ∈ c.threads) (o : Outcome)
    (ho : t.result = some o) (hne : o ≠ .unmodelled) :
    ∃ m, (refQ env m t.q t.raw .none none).1 ≠ .unmodelled ∧ o.obs = (refQ env m t.q t.raw .none none).1.obs := by
  have hinv : Inv env C c := reach_preserves_inv hC hcanon hr h0.inv
  obtain ⟨m, hsim⟩ := (hinv.2 t ht).result_sim hC hcanon ho hne
  exact ⟨m, Outcome.sim_ne_unmodelled hsim hne, Outcome.sim_obs hsim⟩

/-- … which is the observation of the sequential evaluator `evalQ` run alone against any `Sound` cache (an empty one, the
initial one, or the final one), by cache transparency (C04) -/
theorem result_is_sequential {env : Env} {C : Query → Prop} {T : Str → Prop} (hC : Closed env C T)
    (hcanon : ∀ q, C q → CanonOK env q) {c0 c : Config} (h0 : Fresh env C c0)
    (hr : Reach env c0 c) (t : Thread) (ht : t ∈ c.threads) (o : Outcome)
    (ho : t.result = some o) (hne : o ≠ .unmodelled) (n : Nat) (w : World) (hS : Sound env w)
    (he : (evalQ env n w t.q t.raw .none none true).2 ≠ .unmodelled) :
    o.obs = (evalQ env n w t.q t.raw .none none true).2.obs := by
  have hinv : Inv env C c := reach_preserves_inv hC hcanon hr h0.inv
  obtain ⟨m, hm, hobs⟩ := result_is_solo hC hcanon h0 hr t ht o ho hne
  rw [hobs, evalQ_obs hC hcanon n m w t.q t.raw .none none true hS (hinv.2 t ht).inC (fun _ => rfl) he hm]

/-- two threads evaluating the same query under any schedule agree with each other -/
theorem same_query_same_result {env : Env} {C : Query → Prop} {T : Str → Prop} (hC : Closed env C T)
    (hcanon : ∀ q, C q → CanonOK env q) {c0 c : Config} (h0 : Fresh env C c0)
    (hr : Reach env c0 c) (t t' : Thread) (ht : t ∈ c.threads) (ht' : t' ∈ c.threads)
    (hq : t.q = t'.q) (hraw : t.raw = t'.raw) (o o' : Outcome) (ho : t.result = some o) (ho' : t'.result = some o')
    (hne : o ≠ .unmodelled) (hne' : o' ≠ .unmodelled) : o.obs = o'.obs := by
  obtain ⟨m, hm, hobs⟩ := result_is_solo hC hcanon h0 hr t ht o ho hne
  obtain ⟨m', hm', hobs'⟩ := result_is_solo hC hcanon h0 hr t' ht' o' ho' hne'
  rw [hobs, hobs', hq, hraw] at *
  rw [refQ_det env t'.q t'.raw .none none hm hm']

/-- An entry another evaluation is still producing is never served as a finished result, thread side: in every reachable
configuration every answer a thread has received is a miss or the finished (good) value of the key it asked for. -/
theorem answers_are_finished {env : Env} {C : Query → Prop} {T : Str → Prop} (hC : Closed env C T)
    (hcanon : ∀ q, C q → CanonOK env q) {c0 c : Config} (h0 : Fresh env C c0)
    (hr : Reach env c0 c) (t : Thread) (ht : t ∈ c.threads) :
    GoodPairs env (t.run env).1.trace t.answers := by
  have hinv : Inv env C c := reach_preserves_inv hC hcanon hr h0.inv
  exact (hinv.2 t ht).good

/-- … cache side: a progress (`store_metadata`) write — including the `ready` one that precedes `store` — never creates data:
afterwards the entry holds the data it held before (caches that keep data on a metadata write) or none … -/
theorem never_serves_unfinished (w : World) (hen : w.enabled = true) (k status : Str) :
    (w.storeMeta k status).dataAt k = (if w.metaKeepsData then w.dataAt k else none) ∧
    (∀ k', k' ≠ k → (w.storeMeta k status).dataAt k' = w.dataAt k') :=
  ⟨World.dataAt_storeMeta_self w hen k status, fun k' hk => World.dataAt_storeMeta_other w k status k' hk⟩

/-- … and an entry without data is a miss whatever its status says: a key whose producer has only written metadata so far is
not served -/
theorem metadata_only_is_miss (w : World) (k status : Str) (h : w.dataAt k = none) :
    w.get k = none ∧ (w.storeMeta k status).get k = none := by
  refine ⟨World.get_none_of_dataAt h, World.get_none_of_dataAt ?_⟩
  cases hd : (w.storeMeta k status).dataAt k with
  | none => rfl
  | some s => rw [World.dataAt_storeMeta hd] at h; simp at h

/-- A thread that is never pre-empted is the sequential evaluation: fed exactly the answers the cache gives in order, the
oracle evaluator returns `evalQ`'s outcome, logs `evalQ`'s calls, consumes all answers without starving, and replaying its
full trace — own operations and progress-metadata writes — on the cache (`applyOp` folded over it) gives `evalQ`'s final cache
and those answers: the sequential evaluation is the schedule in which the thread's own operations are thread steps and its
metadata writes are the environment steps, in trace order. -/
theorem evalQO_agrees (env : Env) (n : Nat) (w : World) (q : Query) (raw : Str) :
    ∃ A : List (Option EState),
      (evalQO env n { answers := A } q raw .none none true).2 = (evalQ env n w q raw .none none true).2 ∧
      (evalQO env n { answers := A } q raw .none none true).1.starved = false ∧
      (evalQO env n { answers := A } q raw .none none true).1.answers = [] ∧
      (evalQ env n w q raw .none none true).1.calls = w.calls ++ (evalQO env n { answers := A } q raw .none none true).1.calls ∧
      (evalQO env n { answers := A } q raw .none none true).1.trace.foldl applyOp (w, []) =
        ({ (evalQ env n w q raw .none none true).1 with calls := w.calls }, A) :=
  Liquer.evalQO_agrees env n w q raw .none none true

/-! ### non-vacuity -/

open Ex in
/-- two overlapping evaluations on an empty cache: `one/add-2` and its prefix `one` -/
def cfg0 : Config :=
  { shared := {}, threads := [{ q := qOneAdd, raw := s "one/add-2" }, { q := qOne, raw := s "one" }] }

open Ex in
theorem cfg0_fresh : Fresh env0 C0 cfg0 := by
  refine ⟨Sound.empty _, fun t ht => ?_⟩
  simp only [cfg0, List.mem_cons, List.not_mem_nil, or_false] at ht
  rcases ht with rfl | rfl <;> simp [C0]

-- the hypotheses hold for the example family and this configuration
open Ex in
example : Closed env0 C0 T0 ∧ (∀ q, C0 q → CanonOK env0 q) ∧ Fresh env0 C0 cfg0 :=
  ⟨closed0, canon0, cfg0_fresh⟩

-- thread 0 asks for `one/add-2` and `one` (two misses); then the environment writes metadata with status `ready` for `one`,
-- which nobody has stored yet (the write the producer of `one` issues just before its `store`): the entry of `one` says
-- `ready` but holds no data, and thread 1 asking for `one` gets a miss (it is not served the unfinished entry) …
open Ex in
example :
    let c1 := runEvents env0 cfg0 [.thread 0, .thread 0, .meta_ (s "one") statusReady]
    (c1.shared.entry (s "one")).map (fun e => (e.status == statusReady, e.st.isSome)) = some (true, false) ∧
    c1.shared.get (s "one") = none ∧
    (c1.threads.map (·.done)) = [2, 0] ∧
    ((runEvents env0 c1 [.thread 1]).threads.map (fun t => t.answers.map Option.isSome)) = [[false, false], [false]] := by
  decide +kernel

-- … and whatever happens next — here both threads interleave their remaining operations and the environment writes more
-- metadata — both return their solo results (3 and 1, as the reference interpretation), the cache ends with the fresh values of
-- `one` and `one/add-2`
open Ex in
example :
    let c := finishAll env0 20 (runEvents env0 cfg0 [.thread 0, .thread 0, .meta_ (s "one") statusReady, .thread 1, .thread 0,
      .meta_ (s "one/add-2") (s "evaluation"), .thread 1, .thread 0, .thread 1])
    (c.threads.map (fun t => (t.result.bind (·.obs)).map (·.value))) = [some (some (.int 3)), some (some (.int 1))] ∧
    (c.threads.map (·.done)) = [4, 2] ∧
    (refQ env0 9 qOneAdd (s "one/add-2") .none none).1.obs.map (·.value) = some (some (.int 3)) ∧
    (refQ env0 9 qOne (s "one") .none none).1.obs.map (·.value) = some (some (.int 1)) ∧
    ((c.shared.get (s "one")).map (·.data)) = some (.int 1) ∧
    ((c.shared.get (s "one/add-2")).map (·.data)) = some (.int 3) := by
  decide +kernel

-- the same with thread indices only (no environment step)
open Ex in
example :
    let c := finishAll env0 20 (runSchedule env0 cfg0 [0, 0, 1, 0, 1, 0, 1])
    (c.threads.map (fun t => (t.result.bind (·.obs)).map (·.value))) = [some (some (.int 3)), some (some (.int 1))] := by
  decide +kernel

-- a thread that runs alone (never pre-empted) is the sequential evaluation: same observation, same cache contents, same calls
-- — without any environment step (the final `store` of a key overwrites its progress metadata), and with the thread's own
-- progress writes replayed as environment steps at their places in the trace
open Ex in
example :
    let c := finishAll env0 20 { shared := {}, threads := [{ q := qOneAdd, raw := s "one/add-2" }] }
    let c' := runEvents env0 { shared := {}, threads := [{ q := qOneAdd, raw := s "one/add-2" }] }
      [.thread 0, .meta_ (s "one/add-2") (s "evaluating parent"), .thread 0, .meta_ (s "one") (s "evaluation"),
       .meta_ (s "one") statusReady, .thread 0, .meta_ (s "one/add-2") (s "evaluation"), .meta_ (s "one/add-2") statusReady,
       .thread 0, .thread 0]
    let r := evalQ env0 (evalFuel (s "one/add-2")) {} qOneAdd (s "one/add-2") .none none true
    (c.threads.map (fun t => (t.result.bind (·.obs)).map (·.value))) = [r.2.obs.map (·.value)] ∧
    (c.threads.map (·.calls)) = [r.1.calls] ∧
    (c.shared.cache.map (fun e => (e.1, e.2.status, e.2.st.map (·.data)))) =
      (r.1.cache.map (fun e => (e.1, e.2.status, e.2.st.map (·.data)))) ∧
    (c'.threads.map (fun t => (t.result.bind (·.obs)).map (·.value))) = [r.2.obs.map (·.value)] ∧
    (c'.threads.map (·.calls)) = [r.1.calls] ∧
    (c'.shared.cache.map (fun e => (e.1, e.2.status, e.2.st.map (·.data)))) =
      (r.1.cache.map (fun e => (e.1, e.2.status, e.2.st.map (·.data)))) := by
  decide +kernel

-- `oracle_refines` is exercised: against two misses the run of `one/add-2` does not starve, its answers are (trivially) good,
-- and it returns 3
open Ex in
example :
    GoodPairs env0 (evalQO env0 9 { answers := [none, none] } qOneAdd (s "one/add-2") .none none true).1.trace [none, none] ∧
    (evalQO env0 9 { answers := [none, none] } qOneAdd (s "one/add-2") .none none true).1.starved = false ∧
    (evalQO env0 9 { answers := [none, none] } qOneAdd (s "one/add-2") .none none true).2.obs.map (·.value) =
      some (some (.int 3)) := by
  refine ⟨fun i k a _ ha => ?_, by decide +kernel⟩
  have : a = none := by
    have := List.mem_of_getElem? ha; simpa using this
  subst this; exact GoodAns.none _ _

-- the theorems apply to it: the final cache is `Sound`
open Ex in
example : Sound env0 (finishAll env0 20 (runEvents env0 cfg0 [.thread 0, .thread 0, .meta_ (s "one") statusReady, .thread 1,
    .thread 0, .meta_ (s "one/add-2") (s "evaluation"), .thread 1, .thread 0, .thread 1])).shared :=
  cache_sound_every_schedule closed0 canon0 cfg0_fresh (events_reach env0 _ _ _)

-- an environment step is a step of `StepAny` (so `Reach` covers arbitrary metadata writes), and it preserves the invariant of
-- the example configuration
open Ex in
example : Reach env0 cfg0 (envMeta cfg0 (s "one") statusReady) ∧ Inv env0 C0 (envMeta cfg0 (s "one") statusReady) :=
  ⟨(Reach.refl _).envMeta _ _, env_preserves_inv cfg0_fresh.inv _ _⟩

end Liquer.C12

/-! ## file-operation granularity

The theorems above take one cache operation as one atomic step.  For `FileCache` (and its obfuscating / encrypting subclasses) one
operation is a sequence of file operations, and the scheduler may switch threads between any two of them.  Model:
`LiquerModel/ConcFile.lean` — `storeStepsN` / `storeMetaStepsN` are the file operations of `FileCache.store` / `store_metadata` with
the writer's OWN temporary names (`tmp_<uuid4>` in the code), `Interleave` / `Interleave3` (and the executable `merge` / `merge3`)
are the schedules, `runPrefix n l d0` is the directory after the first `n` file operations, `FileC.get` is what a reader (a `get` of
any thread, or of a fresh cache object) obtains from that directory.  The step lists are tied to the ones the C16 crash replay
validates against the code by `file_steps_link_exact` / `file_steps_link_run`. -/

namespace Liquer.C12
open Liquer Liquer.Crash

/-- **two concurrent `FileCache.store` of one key**: writers A and B of the same key and type whose encoded data bytes are equal
(concurrent evaluations of one key are deterministic), with four pairwise distinct temporary names, started on ANY directory `d0`.
After EVERY prefix (`n` file operations) of EVERY interleaving `l` of their file operations a reader of the key obtains what it
obtained from `d0` (the old entry, or a miss), or a miss, or the complete new data with A's or with B's ready metadata — never a
truncated or mixed value; and every key with another digest reads exactly as in `d0`.  (Nothing is assumed about `d0`: it may hold
an old entry of another type, stray data files, or files named like the temporaries; the decoders are only assumed to accept the
complete payloads of the two states, `CodecAt` as in C16.) -/
theorem file_writers_serializable (c : FileCfg) (d0 : CDir) (stA stB : CState) (okA : CodecAt c stA) (okB : CodecAt c stB)
    (hq : stB.metadata.query = stA.metadata.query) (hty : stB.metadata.typeId = stA.metadata.typeId)
    (hdata : c.enc (c.serD stB.metadata.typeId stB.data) = c.enc (c.serD stA.metadata.typeId stA.data))
    (a1 a2 b1 b2 : Nat) (hdist : [a1, a2, b1, b2].Nodup) (l : List (Step FName))
    (hl : Interleave (storeStepsN c (.tmp a1) (.tmp a2) stA) (storeStepsN c (.tmp b1) (.tmp b2) stB) l) (n : Nat) :
    (FileC.get c (runPrefix n l d0) stA.metadata.query = FileC.get c d0 stA.metadata.query ∨
     FileC.get c (runPrefix n l d0) stA.metadata.query = none ∨
     FileC.get c (runPrefix n l d0) stA.metadata.query = some { metadata := { stA.metadata with status := ready }, data := stA.data } ∨
     FileC.get c (runPrefix n l d0) stA.metadata.query = some { metadata := { stB.metadata with status := ready }, data := stA.data }) ∧
    ∀ k', c.h k' ≠ c.h stA.metadata.query → FileC.get c (runPrefix n l d0) k' = FileC.get c d0 k' :=
  have h := flat_core c d0 stA stB okA okB hq hty hdata stA.metadata rfl a1 a2 b1 b2 0 true false hdist nofun l hl.to3 n n (Nat.le_refl n)
  ⟨h.2.1 rfl, h.2.2⟩

/-- the same in the vocabulary of the codec laws (`CodecOK`: decoders invert encoders) with the old entry named: the reader sees
a miss, the old state, or the complete new state -/
theorem file_writers_serializable_old (c : FileCfg) (ok : CodecOK c) (d0 : CDir) (k : Str) (old : Option CState)
    (hold : FileC.get c d0 k = old) (stA stB : CState) (hkA : stA.metadata.query = k) (hkB : stB.metadata.query = k)
    (hty : stB.metadata.typeId = stA.metadata.typeId) (hdata : c.serD stB.metadata.typeId stB.data = c.serD stA.metadata.typeId stA.data)
    (a1 a2 b1 b2 : Nat) (hdist : [a1, a2, b1, b2].Nodup) (l : List (Step FName))
    (hl : Interleave (storeStepsN c (.tmp a1) (.tmp a2) stA) (storeStepsN c (.tmp b1) (.tmp b2) stB) l) (n : Nat) :
    FileC.get c (runPrefix n l d0) k = none ∨ FileC.get c (runPrefix n l d0) k = old ∨
    (∃ st, FileC.get c (runPrefix n l d0) k = some st ∧ st.data = stA.data ∧ st.data = stB.data ∧
      (st.metadata = { stA.metadata with status := ready } ∨ st.metadata = { stB.metadata with status := ready })) := by
  subst hkA
  have hAB : stA.data = stB.data := by
    have h1 := ok.deD_serD stA.metadata.typeId stA.data
    have h2 := ok.deD_serD stB.metadata.typeId stB.data
    rw [hdata, hty, h1] at h2
    exact Option.some.inj h2
  rcases (file_writers_serializable c d0 stA stB (ok.at stA) (ok.at stB) hkB hty (by rw [hdata]) a1 a2 b1 b2 hdist l hl n).1 with h | h | h | h
  · exact Or.inr (Or.inl (h.trans hold))
  · exact Or.inl h
  · exact Or.inr (Or.inr ⟨_, h, rfl, hAB, Or.inl rfl⟩)
  · exact Or.inr (Or.inr ⟨_, h, rfl, hAB, Or.inr rfl⟩)

/-- **progress records are harmless**: the same with a third thread that writes a progress record for the key
(`store_metadata(m)`, `m.status ≠ ready` — what the repaired evaluator guarantees, repo fix cb22d87), under every three-way
interleaving of the file operations: the reader still obtains only what it obtained before, a miss, or the complete new state.
(One progress writer; any number of them, and progress writes of the store writers themselves before their `store`, are covered only
by the cache-operation theorems above and by the schedules of `harness/concfile.py`.) -/
theorem file_writers_progress_harmless (c : FileCfg) (d0 : CDir) (stA stB : CState) (okA : CodecAt c stA) (okB : CodecAt c stB)
    (hq : stB.metadata.query = stA.metadata.query) (hty : stB.metadata.typeId = stA.metadata.typeId)
    (hdata : c.enc (c.serD stB.metadata.typeId stB.data) = c.enc (c.serD stA.metadata.typeId stA.data))
    (mP : CMeta) (hPq : mP.query = stA.metadata.query) (hPdec : (c.dec (c.enc (c.serM mP))).bind c.deM = some mP)
    (hPs : mP.status ≠ ready)
    (a1 a2 b1 b2 tp : Nat) (hdist : [a1, a2, b1, b2, tp].Nodup) (l : List (Step FName))
    (hl : Interleave3 (storeStepsN c (.tmp a1) (.tmp a2) stA) (storeStepsN c (.tmp b1) (.tmp b2) stB)
      (storeMetaStepsN c (.tmp tp) mP) l) (n : Nat) :
    (FileC.get c (runPrefix n l d0) stA.metadata.query = FileC.get c d0 stA.metadata.query ∨
     FileC.get c (runPrefix n l d0) stA.metadata.query = none ∨
     FileC.get c (runPrefix n l d0) stA.metadata.query = some { metadata := { stA.metadata with status := ready }, data := stA.data } ∨
     FileC.get c (runPrefix n l d0) stA.metadata.query = some { metadata := { stB.metadata with status := ready }, data := stA.data }) ∧
    ∀ k', c.h k' ≠ c.h stA.metadata.query → FileC.get c (runPrefix n l d0) k' = FileC.get c d0 k' :=
  have h := flat_core c d0 stA stB okA okB hq hty hdata mP (by rw [hPq]) a1 a2 b1 b2 tp true true hdist
    (fun _ m hm => by rw [hPdec] at hm; cases hm; exact hPs) l hl n n (Nat.le_refl n)
  ⟨h.2.1 rfl, h.2.2⟩

/-- one store writer and one progress writer (not an instance of the previous theorem, whose second store writer runs to the
end of the interleaving): the reader obtains what it obtained before, a miss, or the complete new state -/
theorem file_writer_and_progress (c : FileCfg) (d0 : CDir) (st : CState) (ok : CodecAt c st)
    (mP : CMeta) (hPq : mP.query = st.metadata.query) (hPdec : (c.dec (c.enc (c.serM mP))).bind c.deM = some mP)
    (hPs : mP.status ≠ ready) (a1 a2 tp : Nat) (hdist : [a1, a2, tp].Nodup) (l : List (Step FName))
    (hl : Interleave (storeStepsN c (.tmp a1) (.tmp a2) st) (storeMetaStepsN c (.tmp tp) mP) l) (n : Nat) :
    (FileC.get c (runPrefix n l d0) st.metadata.query = FileC.get c d0 st.metadata.query ∨
     FileC.get c (runPrefix n l d0) st.metadata.query = none ∨
     FileC.get c (runPrefix n l d0) st.metadata.query = some { metadata := { st.metadata with status := ready }, data := st.data }) ∧
    ∀ k', c.h k' ≠ c.h st.metadata.query → FileC.get c (runPrefix n l d0) k' = FileC.get c d0 k' :=
  have h := flat_core c d0 st st ok ok rfl rfl rfl mP (by rw [hPq]) a1 a2 0 0 tp false true hdist
    (fun _ m hm => by rw [hPdec] at hm; cases hm; exact hPs) l hl.to3' n n (Nat.le_refl n)
  ⟨(h.2.1 rfl).imp_right (Or.imp_right (Or.elim · id id)), h.2.2⟩

/-- **link to the crash model (exact)**: `storeStepsN` IS the list `storeStepsC` that the C16 crash replay compares with the file
operations of the code -/
theorem file_steps_link_exact (c : FileCfg) (d : CDir) (st : CState) (x : Data)
    (hs : (AL.get d (.state (c.h st.metadata.query))).isSome = true)
    (hd : d.filter (fun e => FileC.isDataOf (c.h st.metadata.query) e.1) =
      [(.data (c.h st.metadata.query) (c.ext st.metadata.typeId), x)]) :
    storeStepsN c tmpC tmpC st = storeStepsC c d st :=
  storeStepsN_eq_storeStepsC c d st x hs hd

/-- **link (effect)** -/
theorem file_steps_link_run (c : FileCfg) (d : CDir) (st : CState)
    (hd : ∀ f ∈ d, FileC.isDataOf (c.h st.metadata.query) f.1 = true →
      f.1 = .data (c.h st.metadata.query) (c.ext st.metadata.typeId)) :
    (storeStepsN c tmpC tmpC st).foldl execC d = (storeStepsC c d st).foldl execC d :=
  storeStepsN_run_eq_storeStepsC c d st hd

theorem file_merge_iff_interleave {α : Type} (x y l : List α) : Interleave x y l ↔ ∃ sch, l = merge sch x y :=
  ⟨interleave_merge, fun ⟨sch, h⟩ => h ▸ merge_interleave sch x y⟩

theorem file_merge3_interleave3 {α : Type} (sch : List Nat) (x y z : List α) : Interleave3 x y z (merge3 sch x y z) :=
  merge3_interleave3 sch x y z

theorem file_nested_interleave {α : Type} {x y xy z l : List α} (h1 : Interleave x y xy) (h2 : Interleave xy z l) :
    Interleave3 x y z l := h1.nest h2

def fMetaA : CMeta := { query := ['k'], status := ready, typeId := ['t'], rest := ['a'] }
def fMetaB : CMeta := { query := ['k'], status := ready, typeId := ['t'], rest := ['b'] }
def fMetaP : CMeta := { query := ['k'], status := "evaluation".toList, typeId := ['t'] }

/-- identity codec; three metadata records with distinct payloads; the data decoder accepts ANY bytes (every prefix of a payload
decodes to a shorter value: truncation would be visible) -/
def fCfg : FileCfg :=
  { h := id, ext := id, enc := id, dec := some,
    serM := fun m => if m = fMetaA then [1] else if m = fMetaB then [2] else [3],
    deM := fun b => if b = [1] then some fMetaA else if b = [2] then some fMetaB else if b = [3] then some fMetaP else none,
    serD := fun _ _ => [4, 5], deD := fun _ b => some (some (b.map (fun x => Char.ofNat x.toNat))) }

def fStA : CState := { metadata := { fMetaA with status := [] }, data := some [Char.ofNat 4, Char.ofNat 5] }
def fStB : CState := { metadata := { fMetaB with status := "evaluation".toList }, data := some [Char.ofNat 4, Char.ofNat 5] }
/-- a complete old entry of the key and an entry of another key -/
def fOld : CDir := [(.state ['k'], [2]), (.data ['k'] ['t'], [7]), (.state ['j'], [1]), (.data ['j'] ['t'], [9])]

def fA (n1 n2 : Nat) : List (Step FName) := storeStepsN fCfg (.tmp n1) (.tmp n2) fStA
def fB (n1 n2 : Nat) : List (Step FName) := storeStepsN fCfg (.tmp n1) (.tmp n2) fStB
/-- A: unlink, unlink, create, write — B: unlink, unlink, create — A: close, rename (data), create, write, close, rename (metadata) — B: the rest -/
def fSched : List Bool := [true, true, true, true, false, false, false, true, true, true, true, true, true]

theorem fOkA : CodecAt fCfg fStA := ⟨by decide +kernel, by decide +kernel⟩
theorem fOkB : CodecAt fCfg fStB := ⟨by decide +kernel, by decide +kernel⟩
theorem fPdec : (fCfg.dec (fCfg.enc (fCfg.serM fMetaP))).bind fCfg.deM = some fMetaP := by decide +kernel
theorem fPs : fMetaP.status ≠ ready := by decide +kernel

-- the hypotheses of `file_writers_serializable` / `file_writers_progress_harmless` are satisfiable
example : CodecAt fCfg fStA ∧ CodecAt fCfg fStB ∧ fStB.metadata.query = fStA.metadata.query ∧
    fStB.metadata.typeId = fStA.metadata.typeId ∧
    fCfg.enc (fCfg.serD fStB.metadata.typeId fStB.data) = fCfg.enc (fCfg.serD fStA.metadata.typeId fStA.data) ∧
    [10, 11, 20, 21, 30].Nodup ∧ fMetaP.query = fStA.metadata.query ∧
    (fCfg.dec (fCfg.enc (fCfg.serM fMetaP))).bind fCfg.deM = some fMetaP ∧ fMetaP.status ≠ ready ∧
    fCfg.h ['j'] ≠ fCfg.h fStA.metadata.query :=
  ⟨fOkA, fOkB, rfl, rfl, rfl, by decide +kernel, rfl, fPdec, fPs, by decide +kernel⟩

example : fA 10 11 =
    [.unlink (.state ['k']), .unlink (.data ['k'] ['t']), .create (.tmp 10), .append (.tmp 10) [4, 5], .close (.tmp 10),
     .rename (.tmp 10) (.data ['k'] ['t']), .create (.tmp 11), .append (.tmp 11) [1], .close (.tmp 11),
     .rename (.tmp 11) (.state ['k'])] := by decide +kernel

-- with the writers' OWN temporaries the schedule `fSched` shows the old entry, then misses, then the complete new entry
example : (List.range 21).map (fun n => (FileC.get fCfg (runPrefix n (merge fSched (fA 10 11) (fB 20 21)) fOld) ['k']).map
      (fun st => (st.metadata.rest, st.data))) =
    [some (['b'], some [Char.ofNat 7])] ++ List.replicate 12 none ++ List.replicate 7 (some (['a'], some [Char.ofNat 4, Char.ofNat 5])) ++
      [some (['b'], some [Char.ofNat 4, Char.ofNat 5])] := by
  decide +kernel

-- and the theorem applies to this schedule (every prefix, the other key untouched)
example (n : Nat) : FileC.get fCfg (runPrefix n (merge fSched (fA 10 11) (fB 20 21)) fOld) ['j'] = FileC.get fCfg fOld ['j'] :=
  (file_writers_serializable fCfg fOld fStA fStB fOkA fOkB rfl rfl rfl 10 11 20 21 (by decide +kernel) _
    (merge_interleave fSched _ _) n).2 ['j'] (by decide +kernel)

/-- **negative witness** (the seeded change C12-1: the temporary file is named after its target, so two writers of one key share
it): when A and B use the SAME temporary name for the data file, under the schedule `fSched` B's `open(…, "wb")` truncates the file A
has just written; A publishes the empty file and then its ready metadata: after 13 file operations the reader is served a state
with status `ready` whose data is a proper prefix (here: the empty prefix) of the new data — and after all 20 operations the
truncated entry is still there.  `file_writers_serializable` excludes exactly this for distinct names. -/
theorem file_shared_tmp_truncates :
    Interleave (fA 0 11) (fB 0 21) (merge fSched (fA 0 11) (fB 0 21)) ∧
    FileC.get fCfg (runPrefix 13 (merge fSched (fA 0 11) (fB 0 21)) fOld) ['k'] = some { metadata := fMetaA, data := some [] } ∧
    fMetaA.status = ready ∧ ([] : Str) ≠ [Char.ofNat 4, Char.ofNat 5] ∧ ([] : Str) <+: [Char.ofNat 4, Char.ofNat 5] ∧
    FileC.get fCfg (runPrefix 20 (merge fSched (fA 0 11) (fB 0 21)) fOld) ['k'] = some { metadata := fMetaB, data := some [] } ∧
    FileC.get fCfg (runPrefix 13 (merge fSched (fA 10 11) (fB 20 21)) fOld) ['k'] =
      some { metadata := fMetaA, data := some [Char.ofNat 4, Char.ofNat 5] } :=
  ⟨merge_interleave _ _ _, by decide +kernel, rfl, by decide +kernel, by decide +kernel, by decide +kernel, by decide +kernel⟩

-- a three-way schedule with a progress writer: its record hides the entry (a miss) until a store writer publishes again
example : (List.range 25).map (fun n => (FileC.get fCfg (runPrefix n
      (merge3 [0, 0, 0, 0, 0, 0, 0, 0, 0, 0, 2, 2, 2, 2] (fA 10 11) (fB 20 21) (storeMetaStepsN fCfg (.tmp 30) fMetaP)) fOld) ['k']).map
      (fun st => st.metadata.rest)) =
    [some ['b']] ++ List.replicate 9 none ++ List.replicate 4 (some ['a']) ++ List.replicate 10 none ++ [some ['b']] := by
  decide +kernel

example (n : Nat) :
    let l := merge3 [0, 0, 0, 0, 0, 0, 0, 0, 0, 0, 2, 2, 2, 2] (fA 10 11) (fB 20 21) (storeMetaStepsN fCfg (.tmp 30) fMetaP)
    FileC.get fCfg (runPrefix n l fOld) ['j'] = FileC.get fCfg fOld ['j'] :=
  (file_writers_progress_harmless fCfg fOld fStA fStB fOkA fOkB rfl rfl rfl fMetaP rfl fPdec fPs 10 11 20 21 30 (by decide +kernel) _
    (merge3_interleave3 _ _ _ _) n).2 ['j'] (by decide +kernel)

end Liquer.C12


/-! ## file-operation granularity, `StoreCache` on a `FileStore` (directory tree)

The same question for the store-backed cache on a directory store.  `StoreCache.store(state)` issues exactly
`FileStore.store(to_path(key), bytes, metadata)`, `StoreCache.store_metadata` issues `FileStore.store_metadata`.  Model:
`LiquerModel/ConcFileT.lean` (`storeStepsTN` / `storeMetaStepsTN`: static lists with the writer's OWN temporary names);
`runPrefixT n l t0` is the tree after the first `n` file operations of the interleaving `l`; `readSC` is what a fresh `StoreCache` on a
fresh `FileStore` reads (as in C16).  The lists are tied to the lists of the crash model by `tree_steps_link_run`, for every tree.
A later `unlink` by the other writer may hide a complete entry again (a miss), which is allowed. -/

namespace Liquer.C12
open Liquer Liquer.Crash

/-- **two concurrent `StoreCache.store` of one path on a `FileStore`**: writers A and B of the same path `p` with the same data bytes
`b` (concurrent evaluations of one key are deterministic) and metadata bytes `mbA`, `mbB` that decode to ready records `mA`, `mB`
under which `b` decodes to the value `v`; four pairwise distinct temporary labels; started on ANY tree `t0` (nothing is assumed: it
may hold an old entry with other bytes, a directory or nothing at `p`, files at the places of the directories above `p`, files
named like the temporaries; `p` is any key — `p ∉ ancestors p` is a theorem).
After EVERY prefix (`n` file operations) of EVERY interleaving `l` of their file operations a reader of `p` obtains what it obtained
from `t0` (the old entry, or a miss), or a miss, or the complete new data with A's or with B's ready metadata — never a truncated
or mixed value (in particular never old metadata with new data); and EVERY other path `p' ≠ p` — also the directories above `p`,
which the writers may create — reads exactly as in `t0`. -/
theorem tree_writers_serializable (deM : Data → Option CMeta) (deD : Str → Data → Option (Option Str)) (t0 : Tree) (p : Key)
    (b mbA mbB : Data) (mA mB : CMeta) (v : Option Str)
    (hMA : deM mbA = some mA) (hAr : mA.status = ready) (hAv : deD mA.typeId b = some v)
    (hMB : deM mbB = some mB) (hBr : mB.status = ready) (hBv : deD mB.typeId b = some v)
    (a1 a2 b1 b2 : Key) (hdist : [a1, a2, b1, b2].Nodup) (l : List (Step SName))
    (hl : Interleave (storeStepsTN (.tmp a1) (.tmp a2) p b mbA) (storeStepsTN (.tmp b1) (.tmp b2) p b mbB) l) (n : Nat) :
    (readSC deM deD (runPrefixT n l t0) p = readSC deM deD t0 p ∨
     readSC deM deD (runPrefixT n l t0) p = none ∨
     readSC deM deD (runPrefixT n l t0) p = some { metadata := mA, data := v } ∨
     readSC deM deD (runPrefixT n l t0) p = some { metadata := mB, data := v }) ∧
    ∀ p', p' ≠ p → readSC deM deD (runPrefixT n l t0) p' = readSC deM deD t0 p' :=
  have h := tree_core deM deD t0 p b mbA mbB [] mA mB v hMA hAr hAv hMB hBr hBv a1 a2 b1 b2 [] true false hdist nofun l hl.to3 n n (Nat.le_refl n)
  ⟨h.2.1 rfl, h.2.2⟩

/-- **progress records are harmless**: the same with a third thread that writes a metadata record for the path
(`store_metadata`) whose bytes `mbP` do not decode to a ready record (`m.status ≠ ready` is what the repaired evaluator guarantees,
repo fix cb22d87; bytes that do not decode at all are covered too), under every three-way interleaving of the file operations -/
theorem tree_writers_progress_harmless (deM : Data → Option CMeta) (deD : Str → Data → Option (Option Str)) (t0 : Tree) (p : Key)
    (b mbA mbB mbP : Data) (mA mB : CMeta) (v : Option Str)
    (hMA : deM mbA = some mA) (hAr : mA.status = ready) (hAv : deD mA.typeId b = some v)
    (hMB : deM mbB = some mB) (hBr : mB.status = ready) (hBv : deD mB.typeId b = some v)
    (hP : ∀ m, deM mbP = some m → m.status ≠ ready)
    (a1 a2 b1 b2 tp : Key) (hdist : [a1, a2, b1, b2, tp].Nodup) (l : List (Step SName))
    (hl : Interleave3 (storeStepsTN (.tmp a1) (.tmp a2) p b mbA) (storeStepsTN (.tmp b1) (.tmp b2) p b mbB)
      (storeMetaStepsTN (.tmp tp) p mbP) l) (n : Nat) :
    (readSC deM deD (runPrefixT n l t0) p = readSC deM deD t0 p ∨
     readSC deM deD (runPrefixT n l t0) p = none ∨
     readSC deM deD (runPrefixT n l t0) p = some { metadata := mA, data := v } ∨
     readSC deM deD (runPrefixT n l t0) p = some { metadata := mB, data := v }) ∧
    ∀ p', p' ≠ p → readSC deM deD (runPrefixT n l t0) p' = readSC deM deD t0 p' :=
  have h := tree_core deM deD t0 p b mbA mbB mbP mA mB v hMA hAr hAv hMB hBr hBv a1 a2 b1 b2 tp true true hdist (fun _ => hP) l hl n n (Nat.le_refl n)
  ⟨h.2.1 rfl, h.2.2⟩

theorem tree_writer_and_progress (deM : Data → Option CMeta) (deD : Str → Data → Option (Option Str)) (t0 : Tree) (p : Key)
    (b mb mbP : Data) (m : CMeta) (v : Option Str)
    (hM : deM mb = some m) (hr : m.status = ready) (hv : deD m.typeId b = some v)
    (hP : ∀ m, deM mbP = some m → m.status ≠ ready)
    (a1 a2 tp : Key) (hdist : [a1, a2, tp].Nodup) (l : List (Step SName))
    (hl : Interleave (storeStepsTN (.tmp a1) (.tmp a2) p b mb) (storeMetaStepsTN (.tmp tp) p mbP) l) (n : Nat) :
    (readSC deM deD (runPrefixT n l t0) p = readSC deM deD t0 p ∨
     readSC deM deD (runPrefixT n l t0) p = none ∨
     readSC deM deD (runPrefixT n l t0) p = some { metadata := m, data := v }) ∧
    ∀ p', p' ≠ p → readSC deM deD (runPrefixT n l t0) p' = readSC deM deD t0 p' :=
  have h := tree_core deM deD t0 p b mb mb mbP m m v hM hr hv hM hr hv a1 a2 [] [] tp false true hdist (fun _ => hP) l hl.to3' n n (Nat.le_refl n)
  ⟨(h.2.1 rfl).imp_right (Or.imp_right (Or.elim · id id)), h.2.2⟩

/-- **link to the crash model (effect)**, no hypothesis on `t` -/
theorem tree_steps_link_run (t : Tree) (k : Key) (b mb : Data) :
    (storeStepsTN (.tmp (parentKey k)) (.tmp (parentKey k)) k b mb).foldl execT t = (storeStepsT t k b mb).foldl execT t ∧
    (storeMetaStepsTN (.tmp (parentKey k)) k mb).foldl execT t = (storeMetaStepsT t k mb).foldl execT t :=
  ⟨storeStepsTN_run_eq_storeStepsT t k b mb, storeMetaStepsTN_run_eq_storeMetaStepsT t k mb⟩

def tP : Key := [['d'], ['k']]
def tJ : Key := [['d'], ['j']]
/-- the label of a temporary file in the hidden folder of `d` -/
def tL (c : Char) : Key := [['d'], ['t', c]]

/-- a complete old entry at `d/k` (other data bytes, B's metadata) and an entry at `d/j` -/
def tOld : Tree :=
  [(.node [['d']], .dir), (.metaDir [['d']], .dir), (.node tP, .file [7]), (.mfile tP, .file [2]),
   (.node tJ, .file [9]), (.mfile tJ, .file [1])]

def tA (c1 c2 : Char) : List (Step SName) := storeStepsTN (.tmp (tL c1)) (.tmp (tL c2)) tP [4, 5] [1]
def tB (c1 c2 : Char) : List (Step SName) := storeStepsTN (.tmp (tL c1)) (.tmp (tL c2)) tP [4, 5] [2]
def tPr (c : Char) : List (Step SName) := storeMetaStepsTN (.tmp (tL c)) tP [3]
/-- A: mkdir, unlink, mkdir, create, write — B: mkdir, unlink, mkdir, create — A: close, rename (data), create, write, close,
rename (metadata) — B: the rest -/
def tSched : List Bool :=
  [true, true, true, true, true, false, false, false, false, true, true, true, true, true, true]

theorem fP3 : ∀ m, fCfg.deM [3] = some m → m.status ≠ ready := fun _ h => Option.some.inj h ▸ fPs

-- the hypotheses of `tree_writers_serializable` / `tree_writers_progress_harmless` are satisfiable (decoders of `fCfg`)
example : fCfg.deM [1] = some fMetaA ∧ fMetaA.status = ready ∧
    fCfg.deD fMetaA.typeId [4, 5] = some (some [Char.ofNat 4, Char.ofNat 5]) ∧
    fCfg.deM [2] = some fMetaB ∧ fMetaB.status = ready ∧
    fCfg.deD fMetaB.typeId [4, 5] = some (some [Char.ofNat 4, Char.ofNat 5]) ∧
    (∀ m, fCfg.deM [3] = some m → m.status ≠ ready) ∧
    [tL 'a', tL 'b', tL 'c', tL 'e', tL 'p'].Nodup ∧ tJ ≠ tP ∧ [['d']] ≠ tP :=
  ⟨rfl, rfl, rfl, rfl, rfl, rfl, fP3, by decide +kernel, by decide +kernel, by decide +kernel⟩

example : tA 'a' 'b' =
    [.mkdir (.node [['d']]), .unlink (.mfile tP), .mkdir (.metaDir [['d']]),
     .create (.tmp (tL 'a')), .append (.tmp (tL 'a')) [4, 5], .close (.tmp (tL 'a')), .rename (.tmp (tL 'a')) (.node tP),
     .create (.tmp (tL 'b')), .append (.tmp (tL 'b')) [1], .close (.tmp (tL 'b')), .rename (.tmp (tL 'b')) (.mfile tP)] := by decide +kernel

-- with the writers' OWN temporaries the schedule `tSched` shows the old entry, then misses, then the complete new entry
example : (List.range 23).map (fun n => (readSC fCfg.deM fCfg.deD (runPrefixT n (merge tSched (tA 'a' 'b') (tB 'c' 'e')) tOld) tP).map
      (fun st => (st.metadata.rest, st.data))) =
    List.replicate 2 (some (['b'], some [Char.ofNat 7])) ++ List.replicate 13 none ++
      List.replicate 7 (some (['a'], some [Char.ofNat 4, Char.ofNat 5])) ++ [some (['b'], some [Char.ofNat 4, Char.ofNat 5])] := by
  decide +kernel

-- and the theorem applies to this schedule (every prefix; the other path and the directory above untouched)
example (n : Nat) :
    readSC fCfg.deM fCfg.deD (runPrefixT n (merge tSched (tA 'a' 'b') (tB 'c' 'e')) tOld) tJ = readSC fCfg.deM fCfg.deD tOld tJ ∧
    readSC fCfg.deM fCfg.deD (runPrefixT n (merge tSched (tA 'a' 'b') (tB 'c' 'e')) tOld) [['d']] = readSC fCfg.deM fCfg.deD tOld [['d']] :=
  have h := (tree_writers_serializable fCfg.deM fCfg.deD tOld tP [4, 5] [1] [2] fMetaA fMetaB (some [Char.ofNat 4, Char.ofNat 5])
    rfl rfl rfl rfl rfl rfl (tL 'a') (tL 'b') (tL 'c') (tL 'e') (by decide +kernel) _ (merge_interleave tSched _ _) n).2
  ⟨h tJ (by decide +kernel), h [['d']] (by decide +kernel)⟩

-- the writers also work on the empty tree (they create `d` and `d/__metadata__`), and the static list does what the crash model's does
example : readSC fCfg.deM fCfg.deD (runPrefixT 22 (merge tSched (tA 'a' 'b') (tB 'c' 'e')) []) tP =
      some { metadata := fMetaB, data := some [Char.ofNat 4, Char.ofNat 5] } ∧
    AL.get (runPrefixT 22 (merge tSched (tA 'a' 'b') (tB 'c' 'e')) []) (.node [['d']]) = some .dir ∧
    (storeStepsTN (.tmp (parentKey tP)) (.tmp (parentKey tP)) tP [4, 5] [1]).length = 11 ∧ (storeStepsT tOld tP [4, 5] [1]).length = 9 := by
  decide +kernel

/-- **negative witness**, as `file_shared_tmp_truncates`: under `tSched`, after 15 file operations the reader is served a `ready` state
with truncated data, and after all 22 it is still there -/
theorem tree_shared_tmp_truncates :
    Interleave (tA 's' 'b') (tB 's' 'e') (merge tSched (tA 's' 'b') (tB 's' 'e')) ∧
    readSC fCfg.deM fCfg.deD (runPrefixT 15 (merge tSched (tA 's' 'b') (tB 's' 'e')) tOld) tP = some { metadata := fMetaA, data := some [] } ∧
    fMetaA.status = ready ∧ ([] : Str) ≠ [Char.ofNat 4, Char.ofNat 5] ∧ ([] : Str) <+: [Char.ofNat 4, Char.ofNat 5] ∧
    readSC fCfg.deM fCfg.deD (runPrefixT 22 (merge tSched (tA 's' 'b') (tB 's' 'e')) tOld) tP = some { metadata := fMetaB, data := some [] } ∧
    readSC fCfg.deM fCfg.deD (runPrefixT 15 (merge tSched (tA 'a' 'b') (tB 'c' 'e')) tOld) tP =
      some { metadata := fMetaA, data := some [Char.ofNat 4, Char.ofNat 5] } :=
  ⟨merge_interleave _ _ _, by decide +kernel, rfl, by decide +kernel, by decide +kernel, by decide +kernel, by decide +kernel⟩

-- a three-way schedule with a progress writer: its record hides the entry (a miss) until a store writer publishes again
example : (List.range 29).map (fun n => (readSC fCfg.deM fCfg.deD (runPrefixT n
      (merge3 [0, 0, 0, 0, 0, 0, 0, 0, 0, 0, 0, 2, 2, 2, 2, 2, 2] (tA 'a' 'b') (tB 'c' 'e') (tPr 'p')) tOld) tP).map
      (fun st => st.metadata.rest)) =
    List.replicate 2 (some ['b']) ++ List.replicate 9 none ++ List.replicate 6 (some ['a']) ++ List.replicate 11 none ++ [some ['b']] := by
  decide +kernel

example (n : Nat) :
    let l := merge3 [0, 0, 0, 0, 0, 0, 0, 0, 0, 0, 0, 2, 2, 2, 2, 2, 2] (tA 'a' 'b') (tB 'c' 'e') (tPr 'p')
    readSC fCfg.deM fCfg.deD (runPrefixT n l tOld) tJ = readSC fCfg.deM fCfg.deD tOld tJ :=
  (tree_writers_progress_harmless fCfg.deM fCfg.deD tOld tP [4, 5] [1] [2] [3] fMetaA fMetaB (some [Char.ofNat 4, Char.ofNat 5])
    rfl rfl rfl rfl rfl rfl fP3 (tL 'a') (tL 'b') (tL 'c') (tL 'e') (tL 'p') (by decide +kernel) _ (merge3_interleave3 _ _ _ _) n).2 tJ
    (by decide +kernel)

end Liquer.C12


/-! ## file-operation granularity: the reader as TWO file operations

The theorems of the two sections above let the reader look at ONE directory (an atomic `get`).  Model of the reader in two file
operations: `LiquerModel/ConcFileSplit.lean` (`FileC.getSplit`, `readSCSplit`, and `readSCSplit3` for the existence test); the reader reads
the metadata after `n1` file operations of the interleaving and the data after `n2 ≥ n1` of them: `dM = runPrefix n1 l d0`,
`dD = runPrefix n2 l d0`.

What the split reader can obtain that the atomic reader cannot: the READY metadata record the initial directory held, read before any
writer unlinked it, together with the NEW data, published later (the fifth answer below; `file_split_reader_mixed_witness`,
`tree_split_reader_mixed_witness`).  Everything else is as for the atomic reader; in particular a ready record of a writer is never
paired with anything but the complete new data (the data file, once published by anybody, is absent or complete, and "published" is
monotone along the interleaving), and the data is never truncated.  Under the soundness hypothesis — the old entry, if any, is
complete and already holds the value the writers store (C16 + C05: one key, one value) — the fifth answer IS the old entry
(`file_split_reader_sound`, `tree_split_reader_sound`).
An old entry of ANOTHER type with another extension: the step list `storeStepsN` unlinks only the data file of the new type, so the
split reader finds the old data file untouched and answers with the old entry (in the code `remove` unlinks every `data_<h>.*`, which
can only turn this answer into a miss). -/

namespace Liquer.C12
open Liquer Liquer.Crash

/-- **split reader, `FileCache`**: under the hypotheses of `file_writers_progress_harmless` (two store writers A, B of one key with
equal encoded data bytes, a progress writer that never says ready, five pairwise distinct temporaries, ANY initial directory, ANY
three-way interleaving `l`), a reader that reads the metadata file after `n1` file operations and the data file after `n2 ≥ n1`
obtains
  a miss, or the complete new entry with A's or with B's ready metadata, or what the atomic reader obtains from `d0`, or
  the ready metadata record `m0` of `d0` (whose type has the extension of the new type) with the NEW bytes decoded under the type
  `m0` names — the new value `stA.data` when `m0` names the writers' type;
and every key with another digest reads exactly as in `d0`. -/
theorem file_split_reader (c : FileCfg) (d0 : CDir) (stA stB : CState) (okA : CodecAt c stA) (okB : CodecAt c stB)
    (hq : stB.metadata.query = stA.metadata.query) (hty : stB.metadata.typeId = stA.metadata.typeId)
    (hdata : c.enc (c.serD stB.metadata.typeId stB.data) = c.enc (c.serD stA.metadata.typeId stA.data))
    (mP : CMeta) (hPq : mP.query = stA.metadata.query) (hPdec : (c.dec (c.enc (c.serM mP))).bind c.deM = some mP)
    (hPs : mP.status ≠ ready)
    (a1 a2 b1 b2 tp : Nat) (hdist : [a1, a2, b1, b2, tp].Nodup) (l : List (Step FName))
    (hl : Interleave3 (storeStepsN c (.tmp a1) (.tmp a2) stA) (storeStepsN c (.tmp b1) (.tmp b2) stB)
      (storeMetaStepsN c (.tmp tp) mP) l) (n1 n2 : Nat) (hn : n1 ≤ n2) :
    (FileC.getSplit c (runPrefix n1 l d0) (runPrefix n2 l d0) stA.metadata.query = none ∨
     FileC.getSplit c (runPrefix n1 l d0) (runPrefix n2 l d0) stA.metadata.query =
       some { metadata := { stA.metadata with status := ready }, data := stA.data } ∨
     FileC.getSplit c (runPrefix n1 l d0) (runPrefix n2 l d0) stA.metadata.query =
       some { metadata := { stB.metadata with status := ready }, data := stA.data } ∨
     FileC.getSplit c (runPrefix n1 l d0) (runPrefix n2 l d0) stA.metadata.query = FileC.get c d0 stA.metadata.query ∨
     ∃ m0 w, FileC.loadMeta c d0 (.state (c.h stA.metadata.query)) = some m0 ∧ m0.status = ready ∧
       c.ext m0.typeId = c.ext stA.metadata.typeId ∧
       (c.dec (c.enc (c.serD stA.metadata.typeId stA.data))).bind (c.deD m0.typeId) = some w ∧
       (m0.typeId = stA.metadata.typeId → w = stA.data) ∧
       FileC.getSplit c (runPrefix n1 l d0) (runPrefix n2 l d0) stA.metadata.query = some { metadata := m0, data := w }) ∧
    ∀ k', c.h k' ≠ c.h stA.metadata.query →
      FileC.getSplit c (runPrefix n1 l d0) (runPrefix n2 l d0) k' = FileC.get c d0 k' := by
  obtain ⟨h, -, hfr⟩ := flat_core c d0 stA stB okA okB hq hty hdata mP (by rw [hPq]) a1 a2 b1 b2 tp true true hdist
    (fun _ m hm => by rw [hPdec] at hm; cases hm; exact hPs) l hl n1 n2 hn
  refine ⟨?_, hfr⟩
  rcases h.flat with h | h | h | h | ⟨m0, w, h1, h2, h3, h4, h5⟩
  · exact Or.inl h
  · exact Or.inr (Or.inl h)
  · exact Or.inr (Or.inr (Or.inl h))
  · exact Or.inr (Or.inr (Or.inr (Or.inl h)))
  · refine Or.inr (Or.inr (Or.inr (Or.inr ⟨m0, w, h1, h2, h3, h4, fun e => ?_, h5⟩)))
    have := okA.dataOK
    rw [e] at h4; rw [h4] at this; exact Option.some.inj this

theorem file_split_reader_two (c : FileCfg) (d0 : CDir) (stA stB : CState) (okA : CodecAt c stA) (okB : CodecAt c stB)
    (hq : stB.metadata.query = stA.metadata.query) (hty : stB.metadata.typeId = stA.metadata.typeId)
    (hdata : c.enc (c.serD stB.metadata.typeId stB.data) = c.enc (c.serD stA.metadata.typeId stA.data))
    (a1 a2 b1 b2 : Nat) (hdist : [a1, a2, b1, b2].Nodup) (l : List (Step FName))
    (hl : Interleave (storeStepsN c (.tmp a1) (.tmp a2) stA) (storeStepsN c (.tmp b1) (.tmp b2) stB) l)
    (n1 n2 : Nat) (hn : n1 ≤ n2) :
    (FileC.getSplit c (runPrefix n1 l d0) (runPrefix n2 l d0) stA.metadata.query = none ∨
     FileC.getSplit c (runPrefix n1 l d0) (runPrefix n2 l d0) stA.metadata.query =
       some { metadata := { stA.metadata with status := ready }, data := stA.data } ∨
     FileC.getSplit c (runPrefix n1 l d0) (runPrefix n2 l d0) stA.metadata.query =
       some { metadata := { stB.metadata with status := ready }, data := stA.data } ∨
     FileC.getSplit c (runPrefix n1 l d0) (runPrefix n2 l d0) stA.metadata.query = FileC.get c d0 stA.metadata.query ∨
     ∃ m0 w, FileC.loadMeta c d0 (.state (c.h stA.metadata.query)) = some m0 ∧ m0.status = ready ∧
       c.ext m0.typeId = c.ext stA.metadata.typeId ∧
       (c.dec (c.enc (c.serD stA.metadata.typeId stA.data))).bind (c.deD m0.typeId) = some w ∧
       FileC.getSplit c (runPrefix n1 l d0) (runPrefix n2 l d0) stA.metadata.query = some { metadata := m0, data := w }) ∧
    ∀ k', c.h k' ≠ c.h stA.metadata.query →
      FileC.getSplit c (runPrefix n1 l d0) (runPrefix n2 l d0) k' = FileC.get c d0 k' :=
  have h := flat_core c d0 stA stB okA okB hq hty hdata stA.metadata rfl a1 a2 b1 b2 0 true false hdist nofun l hl.to3 n1 n2 hn
  ⟨h.1.flat, h.2.2⟩

/-- **corollary (sound initial directory)**: if, in the initial directory, (1) a ready metadata record of the key is backed by a
readable data file (`hcomplete` — what C16 proves of every directory the writers leave, crash or not), (2) the entry of the key, if
any, already holds the value the writers store (`hsound` — C05: one key, one value) and (3) its type is the writers' type whenever
its extension is (`htype`), then the split reader obtains a miss, the old entry, or the complete new entry with A's or B's metadata —
never a truncated value, never the data of another value.  (Each hypothesis is needed: `file_split_reader_mixed_witness` for (2),
`file_split_reader_incomplete_witness` for (1); without (3) the new bytes would be decoded by the codec of another type.) -/
theorem file_split_reader_sound (c : FileCfg) (d0 : CDir) (stA stB : CState) (okA : CodecAt c stA) (okB : CodecAt c stB)
    (hq : stB.metadata.query = stA.metadata.query) (hty : stB.metadata.typeId = stA.metadata.typeId)
    (hdata : c.enc (c.serD stB.metadata.typeId stB.data) = c.enc (c.serD stA.metadata.typeId stA.data))
    (mP : CMeta) (hPq : mP.query = stA.metadata.query) (hPdec : (c.dec (c.enc (c.serM mP))).bind c.deM = some mP)
    (hPs : mP.status ≠ ready)
    (a1 a2 b1 b2 tp : Nat) (hdist : [a1, a2, b1, b2, tp].Nodup) (l : List (Step FName))
    (hl : Interleave3 (storeStepsN c (.tmp a1) (.tmp a2) stA) (storeStepsN c (.tmp b1) (.tmp b2) stB)
      (storeMetaStepsN c (.tmp tp) mP) l)
    (hcomplete : ∀ m0, FileC.loadMeta c d0 (.state (c.h stA.metadata.query)) = some m0 → m0.status = ready →
      ∃ old, FileC.get c d0 stA.metadata.query = some old)
    (hsound : ∀ old, FileC.get c d0 stA.metadata.query = some old → old.data = stA.data)
    (htype : ∀ old, FileC.get c d0 stA.metadata.query = some old → c.ext old.metadata.typeId = c.ext stA.metadata.typeId →
      old.metadata.typeId = stA.metadata.typeId)
    (n1 n2 : Nat) (hn : n1 ≤ n2) :
    FileC.getSplit c (runPrefix n1 l d0) (runPrefix n2 l d0) stA.metadata.query = none ∨
    FileC.getSplit c (runPrefix n1 l d0) (runPrefix n2 l d0) stA.metadata.query = FileC.get c d0 stA.metadata.query ∨
    FileC.getSplit c (runPrefix n1 l d0) (runPrefix n2 l d0) stA.metadata.query =
      some { metadata := { stA.metadata with status := ready }, data := stA.data } ∨
    FileC.getSplit c (runPrefix n1 l d0) (runPrefix n2 l d0) stA.metadata.query =
      some { metadata := { stB.metadata with status := ready }, data := stA.data } := by
  rw [show FileC.get c d0 stA.metadata.query = _ from getSplit_via c d0 d0 _] at hcomplete hsound htype ⊢
  exact (flat_core c d0 stA stB okA okB hq hty hdata mP (by rw [hPq]) a1 a2 b1 b2 tp true true hdist
    (fun _ m hm => by rw [hPdec] at hm; cases hm; exact hPs) l hl n1 n2 hn).1.sound okA.dataOK
    (fun m0 h => hcomplete m0 ((loadMeta_via c d0 _).trans h)) hsound fun old h hD => htype old h (FName.data.inj hD).2

/-- **split reader, `StoreCache` on a `FileStore`**: under the hypotheses of `tree_writers_progress_harmless`, a reader that reads the
metadata file of `p` after `n1` file operations and the node after `n2 ≥ n1` obtains a miss, or the complete new entry with A's or
with B's ready metadata, or what the atomic reader obtains from `t0`, or the ready metadata record `m0` of `t0` with the NEW bytes
decoded under the type `m0` names (the new value `v` when `m0` names A's type); every other path reads exactly as in `t0`.
(`tree_writers_serializable` says that for the ATOMIC reader old metadata never meets new data; the split reader is exactly how
they can meet.) -/
theorem tree_split_reader (deM : Data → Option CMeta) (deD : Str → Data → Option (Option Str)) (t0 : Tree) (p : Key)
    (b mbA mbB mbP : Data) (mA mB : CMeta) (v : Option Str)
    (hMA : deM mbA = some mA) (hAr : mA.status = ready) (hAv : deD mA.typeId b = some v)
    (hMB : deM mbB = some mB) (hBr : mB.status = ready) (hBv : deD mB.typeId b = some v)
    (hP : ∀ m, deM mbP = some m → m.status ≠ ready)
    (a1 a2 b1 b2 tp : Key) (hdist : [a1, a2, b1, b2, tp].Nodup) (l : List (Step SName))
    (hl : Interleave3 (storeStepsTN (.tmp a1) (.tmp a2) p b mbA) (storeStepsTN (.tmp b1) (.tmp b2) p b mbB)
      (storeMetaStepsTN (.tmp tp) p mbP) l) (n1 n2 : Nat) (hn : n1 ≤ n2) :
    (readSCSplit deM deD (runPrefixT n1 l t0) (runPrefixT n2 l t0) p = none ∨
     readSCSplit deM deD (runPrefixT n1 l t0) (runPrefixT n2 l t0) p = some { metadata := mA, data := v } ∨
     readSCSplit deM deD (runPrefixT n1 l t0) (runPrefixT n2 l t0) p = some { metadata := mB, data := v } ∨
     readSCSplit deM deD (runPrefixT n1 l t0) (runPrefixT n2 l t0) p = readSC deM deD t0 p ∨
     ∃ mb0 m0 w, AL.get t0 (.mfile p) = some (.file mb0) ∧ deM mb0 = some m0 ∧ m0.status = ready ∧
       deD m0.typeId b = some w ∧ (m0.typeId = mA.typeId → w = v) ∧
       readSCSplit deM deD (runPrefixT n1 l t0) (runPrefixT n2 l t0) p = some { metadata := m0, data := w }) ∧
    ∀ p', p' ≠ p → readSCSplit deM deD (runPrefixT n1 l t0) (runPrefixT n2 l t0) p' = readSC deM deD t0 p' := by
  obtain ⟨h, -, hfr⟩ := tree_core deM deD t0 p b mbA mbB mbP mA mB v hMA hAr hAv hMB hBr hBv a1 a2 b1 b2 tp true true hdist (fun _ => hP)
    l hl n1 n2 hn
  refine ⟨?_, hfr⟩
  rcases h.tree with h | h | h | h | ⟨mb0, m0, w, h1, h2, h3, h4, h5⟩
  · exact Or.inl h
  · exact Or.inr (Or.inl h)
  · exact Or.inr (Or.inr (Or.inl h))
  · exact Or.inr (Or.inr (Or.inr (Or.inl h)))
  · refine Or.inr (Or.inr (Or.inr (Or.inr ⟨mb0, m0, w, h1, h2, h3, h4, fun e => ?_, h5⟩)))
    rw [e, hAv] at h4; exact (Option.some.inj h4).symm

theorem tree_split_reader_two (deM : Data → Option CMeta) (deD : Str → Data → Option (Option Str)) (t0 : Tree) (p : Key)
    (b mbA mbB : Data) (mA mB : CMeta) (v : Option Str)
    (hMA : deM mbA = some mA) (hAr : mA.status = ready) (hAv : deD mA.typeId b = some v)
    (hMB : deM mbB = some mB) (hBr : mB.status = ready) (hBv : deD mB.typeId b = some v)
    (a1 a2 b1 b2 : Key) (hdist : [a1, a2, b1, b2].Nodup) (l : List (Step SName))
    (hl : Interleave (storeStepsTN (.tmp a1) (.tmp a2) p b mbA) (storeStepsTN (.tmp b1) (.tmp b2) p b mbB) l)
    (n1 n2 : Nat) (hn : n1 ≤ n2) :
    (readSCSplit deM deD (runPrefixT n1 l t0) (runPrefixT n2 l t0) p = none ∨
     readSCSplit deM deD (runPrefixT n1 l t0) (runPrefixT n2 l t0) p = some { metadata := mA, data := v } ∨
     readSCSplit deM deD (runPrefixT n1 l t0) (runPrefixT n2 l t0) p = some { metadata := mB, data := v } ∨
     readSCSplit deM deD (runPrefixT n1 l t0) (runPrefixT n2 l t0) p = readSC deM deD t0 p ∨
     ∃ mb0 m0 w, AL.get t0 (.mfile p) = some (.file mb0) ∧ deM mb0 = some m0 ∧ m0.status = ready ∧
       deD m0.typeId b = some w ∧
       readSCSplit deM deD (runPrefixT n1 l t0) (runPrefixT n2 l t0) p = some { metadata := m0, data := w }) ∧
    ∀ p', p' ≠ p → readSCSplit deM deD (runPrefixT n1 l t0) (runPrefixT n2 l t0) p' = readSC deM deD t0 p' :=
  have h := tree_core deM deD t0 p b mbA mbB [] mA mB v hMA hAr hAv hMB hBr hBv a1 a2 b1 b2 [] true false hdist nofun l hl.to3 n1 n2 hn
  ⟨h.1.tree, h.2.2⟩

/-- **corollary (sound initial tree)**: if, in the initial tree, (1) a ready metadata record of `p` is backed by a readable data file
(C16), (2) the entry at `p`, if any, already holds the value the writers store (C05) and (3) has A's type, then the split reader
obtains a miss, the old entry, or the complete new entry with A's or B's metadata -/
theorem tree_split_reader_sound (deM : Data → Option CMeta) (deD : Str → Data → Option (Option Str)) (t0 : Tree) (p : Key)
    (b mbA mbB mbP : Data) (mA mB : CMeta) (v : Option Str)
    (hMA : deM mbA = some mA) (hAr : mA.status = ready) (hAv : deD mA.typeId b = some v)
    (hMB : deM mbB = some mB) (hBr : mB.status = ready) (hBv : deD mB.typeId b = some v)
    (hP : ∀ m, deM mbP = some m → m.status ≠ ready)
    (a1 a2 b1 b2 tp : Key) (hdist : [a1, a2, b1, b2, tp].Nodup) (l : List (Step SName))
    (hl : Interleave3 (storeStepsTN (.tmp a1) (.tmp a2) p b mbA) (storeStepsTN (.tmp b1) (.tmp b2) p b mbB)
      (storeMetaStepsTN (.tmp tp) p mbP) l)
    (hcomplete : ∀ mb0 m0, AL.get t0 (.mfile p) = some (.file mb0) → deM mb0 = some m0 → m0.status = ready →
      ∃ old, readSC deM deD t0 p = some old)
    (hsound : ∀ old, readSC deM deD t0 p = some old → old.data = v)
    (htype : ∀ old, readSC deM deD t0 p = some old → old.metadata.typeId = mA.typeId)
    (n1 n2 : Nat) (hn : n1 ≤ n2) :
    readSCSplit deM deD (runPrefixT n1 l t0) (runPrefixT n2 l t0) p = none ∨
    readSCSplit deM deD (runPrefixT n1 l t0) (runPrefixT n2 l t0) p = readSC deM deD t0 p ∨
    readSCSplit deM deD (runPrefixT n1 l t0) (runPrefixT n2 l t0) p = some { metadata := mA, data := v } ∨
    readSCSplit deM deD (runPrefixT n1 l t0) (runPrefixT n2 l t0) p = some { metadata := mB, data := v } := by
  rw [show readSC deM deD t0 p = _ from readSCSplit_via deM deD t0 t0 p] at hcomplete hsound htype ⊢
  exact (tree_core deM deD t0 p b mbA mbB mbP mA mB v hMA hAr hAv hMB hBr hBv a1 a2 b1 b2 tp true true hdist (fun _ => hP) l hl n1 n2
    hn).1.sound hAv (fun m0 h hr => by obtain ⟨mb0, e, hm⟩ := bind_asFile h; exact hcomplete mb0 m0 e hm hr) hsound fun old h _ => htype old h

theorem tree_split_guard_only_misses (deM : Data → Option CMeta) (deD : Str → Data → Option (Option Str)) (tC tM tD : Tree) (p : Key) :
    readSCSplit3 deM deD tC tM tD p = none ∨ readSCSplit3 deM deD tC tM tD p = readSCSplit deM deD tM tD p :=
  readSCSplit3_cases deM deD tC tM tD p

theorem split_readers_same (c : FileCfg) (d : CDir) (k : Str) (deM : Data → Option CMeta) (deD : Str → Data → Option (Option Str))
    (t : Tree) (p : Key) :
    FileC.getSplit c d d k = FileC.get c d k ∧ readSCSplit deM deD t t p = readSC deM deD t p ∧
    readSCSplit3 deM deD t t t p = readSC deM deD t p :=
  ⟨rfl, rfl, readSCSplit3_same deM deD t p⟩

/-- an OLD ready record of the key `k` (neither A's nor B's) -/
def fMetaO : CMeta := { query := ['k'], status := ready, typeId := ['t'], rest := ['o'] }

/-- `fCfg` with a payload `[6]` for the old record -/
def fCfgO : FileCfg :=
  { fCfg with
    serM := fun m => if m = fMetaO then [6] else fCfg.serM m,
    deM := fun b => if b = [6] then some fMetaO else fCfg.deM b }

def fAO (n1 n2 : Nat) : List (Step FName) := storeStepsN fCfgO (.tmp n1) (.tmp n2) fStA
def fBO (n1 n2 : Nat) : List (Step FName) := storeStepsN fCfgO (.tmp n1) (.tmp n2) fStB

/-- a complete old entry of the key with ANOTHER value (`[7]`), old metadata -/
def fOldO : CDir := [(.state ['k'], [6]), (.data ['k'] ['t'], [7])]
/-- a ready record without a data file -/
def fOldI : CDir := [(.state ['k'], [6])]
/-- a complete old entry of the key that already holds the value the writers store -/
def fOldS : CDir := [(.state ['k'], [6]), (.data ['k'] ['t'], [4, 5]), (.state ['j'], [1]), (.data ['j'] ['t'], [9])]

theorem fOkAO : CodecAt fCfgO fStA := ⟨by decide +kernel, by decide +kernel⟩
theorem fOkBO : CodecAt fCfgO fStB := ⟨by decide +kernel, by decide +kernel⟩
theorem fPdecO : (fCfgO.dec (fCfgO.enc (fCfgO.serM fMetaP))).bind fCfgO.deM = some fMetaP := by decide +kernel

-- the hypotheses of `file_split_reader` are satisfiable (the writers of the first section, with `fCfgO`)
example : CodecAt fCfgO fStA ∧ CodecAt fCfgO fStB ∧ fStB.metadata.query = fStA.metadata.query ∧
    fStB.metadata.typeId = fStA.metadata.typeId ∧
    fCfgO.enc (fCfgO.serD fStB.metadata.typeId fStB.data) = fCfgO.enc (fCfgO.serD fStA.metadata.typeId fStA.data) ∧
    [10, 11, 20, 21, 30].Nodup ∧ fMetaP.query = fStA.metadata.query ∧
    (fCfgO.dec (fCfgO.enc (fCfgO.serM fMetaP))).bind fCfgO.deM = some fMetaP ∧ fMetaP.status ≠ ready :=
  ⟨fOkAO, fOkBO, rfl, rfl, rfl, by decide +kernel, rfl, fPdecO, fPs⟩

/-- **the mixed answer is real** (why `file_split_reader_sound` needs `hsound`): on the complete old entry `fOldO` (value `[7]`),
under the schedule `fSched` (A: unlink, unlink, create, write — B: unlink, unlink, create — A: close, rename …), a reader that reads
the metadata file before the first file operation (`n1 = 0`: the old ready record) and the data file after A has published its
data (`n2 = 9`) is served the OLD metadata with the NEW data — a state that is neither the old entry nor a complete new entry.
The atomic reader at either moment sees the old entry (`n = 0`) or a miss (`n = 9`). -/
theorem file_split_reader_mixed_witness :
    Interleave (fAO 10 11) (fBO 20 21) (merge fSched (fAO 10 11) (fBO 20 21)) ∧
    FileC.getSplit fCfgO (runPrefix 0 (merge fSched (fAO 10 11) (fBO 20 21)) fOldO)
      (runPrefix 9 (merge fSched (fAO 10 11) (fBO 20 21)) fOldO) ['k'] =
      some { metadata := fMetaO, data := some [Char.ofNat 4, Char.ofNat 5] } ∧
    FileC.get fCfgO fOldO ['k'] = some { metadata := fMetaO, data := some [Char.ofNat 7] } ∧
    fMetaO ≠ { fStA.metadata with status := ready } ∧ fMetaO ≠ { fStB.metadata with status := ready } ∧
    FileC.get fCfgO (runPrefix 0 (merge fSched (fAO 10 11) (fBO 20 21)) fOldO) ['k'] = FileC.get fCfgO fOldO ['k'] ∧
    FileC.get fCfgO (runPrefix 9 (merge fSched (fAO 10 11) (fBO 20 21)) fOldO) ['k'] = none :=
  ⟨merge_interleave _ _ _, by decide +kernel, by decide +kernel, by decide +kernel, by decide +kernel, by decide +kernel, by decide +kernel⟩

/-- **why `hcomplete` is needed**: a ready record WITHOUT a data file in the initial directory (the atomic reader: a miss) is
completed by the writers' data — the split reader is served a state although the initial directory held no entry -/
theorem file_split_reader_incomplete_witness :
    FileC.getSplit fCfgO (runPrefix 0 (merge fSched (fAO 10 11) (fBO 20 21)) fOldI)
      (runPrefix 9 (merge fSched (fAO 10 11) (fBO 20 21)) fOldI) ['k'] =
      some { metadata := fMetaO, data := some [Char.ofNat 4, Char.ofNat 5] } ∧
    FileC.get fCfgO fOldI ['k'] = none :=
  ⟨by decide +kernel, by decide +kernel⟩

-- all answers of the split reader along `fSched` on `fOldO` with the metadata read at `n1 = 0`: the old entry, misses, and the mixed
-- answer from the moment a writer has published its data
example : (List.range 21).map (fun n2 => (FileC.getSplit fCfgO (runPrefix 0 (merge fSched (fAO 10 11) (fBO 20 21)) fOldO)
      (runPrefix n2 (merge fSched (fAO 10 11) (fBO 20 21)) fOldO) ['k']).map (fun st => (st.metadata.rest, st.data))) =
    [some (['o'], some [Char.ofNat 7])] ++ [some (['o'], some [Char.ofNat 7])] ++ List.replicate 7 none ++
      List.replicate 12 (some (['o'], some [Char.ofNat 4, Char.ofNat 5])) := by
  decide +kernel

-- with the metadata read at `n1 = 13` (A's ready record): the complete new entry whenever the data file is read later
example : (List.range 8).map (fun i => (FileC.getSplit fCfgO (runPrefix 13 (merge fSched (fAO 10 11) (fBO 20 21)) fOldO)
      (runPrefix (13 + i) (merge fSched (fAO 10 11) (fBO 20 21)) fOldO) ['k']).map (fun st => (st.metadata.rest, st.data))) =
    List.replicate 8 (some (['a'], some [Char.ofNat 4, Char.ofNat 5])) := by
  decide +kernel

/-- a three-way schedule: A runs to the end, then the progress writer, then B -/
def fL3 : List (Step FName) :=
  merge3 [0, 0, 0, 0, 0, 0, 0, 0, 0, 0, 2, 2, 2, 2] (fAO 10 11) (fBO 20 21) (storeMetaStepsN fCfgO (.tmp 30) fMetaP)

-- the hypotheses of `file_split_reader_sound` hold for `fOldS` (and the theorem applies: every `n1 ≤ n2`)
example (n1 n2 : Nat) (hn : n1 ≤ n2) :
    FileC.getSplit fCfgO (runPrefix n1 fL3 fOldS) (runPrefix n2 fL3 fOldS) ['k'] = none ∨
    FileC.getSplit fCfgO (runPrefix n1 fL3 fOldS) (runPrefix n2 fL3 fOldS) ['k'] =
      some { metadata := fMetaO, data := some [Char.ofNat 4, Char.ofNat 5] } ∨
    FileC.getSplit fCfgO (runPrefix n1 fL3 fOldS) (runPrefix n2 fL3 fOldS) ['k'] =
      some { metadata := fMetaA, data := some [Char.ofNat 4, Char.ofNat 5] } ∨
    FileC.getSplit fCfgO (runPrefix n1 fL3 fOldS) (runPrefix n2 fL3 fOldS) ['k'] =
      some { metadata := fMetaB, data := some [Char.ofNat 4, Char.ofNat 5] } := by
  have hg : FileC.get fCfgO fOldS ['k'] = some { metadata := fMetaO, data := some [Char.ofNat 4, Char.ofNat 5] } := by decide +kernel
  have h := file_split_reader_sound fCfgO fOldS fStA fStB fOkAO fOkBO rfl rfl rfl fMetaP rfl fPdecO fPs 10 11 20 21 30 (by decide +kernel)
    fL3 (merge3_interleave3 _ _ _ _)
    (fun m0 _ _ => ⟨_, hg⟩)
    (fun old h => by
      have h' : FileC.get fCfgO fOldS ['k'] = some old := h
      rw [hg] at h'; cases h'; rfl)
    (fun old h _ => by
      have h' : FileC.get fCfgO fOldS ['k'] = some old := h
      rw [hg] at h'; cases h'; rfl)
    n1 n2 hn
  have hg' : FileC.get fCfgO fOldS fStA.metadata.query = some { metadata := fMetaO, data := some [Char.ofNat 4, Char.ofNat 5] } := hg
  rw [hg'] at h
  exact h

/-- the tree: a complete old entry at `d/k` with ANOTHER value (`[7]`) and the old metadata record `[6]` -/
def tOldO : Tree :=
  [(.node [['d']], .dir), (.metaDir [['d']], .dir), (.node tP, .file [7]), (.mfile tP, .file [6])]
/-- a complete old entry at `d/k` that already holds the value the writers store -/
def tOldS : Tree :=
  [(.node [['d']], .dir), (.metaDir [['d']], .dir), (.node tP, .file [4, 5]), (.mfile tP, .file [6]),
   (.node tJ, .file [9]), (.mfile tJ, .file [1])]

/-- **the mixed answer is real, tree** (why `tree_split_reader_sound` needs `hsound`): on `tOldO`, under `tSched` (A: mkdir, unlink,
mkdir, create, write — B: mkdir, unlink, mkdir, create — A: close, rename …), metadata read before the first file operation, node
read after A's `rename` (`n2 = 11`): OLD metadata with NEW data; the atomic reader sees the old entry (`n = 0`) or a miss (`n = 11`) -/
theorem tree_split_reader_mixed_witness :
    Interleave (tA 'a' 'b') (tB 'c' 'e') (merge tSched (tA 'a' 'b') (tB 'c' 'e')) ∧
    readSCSplit fCfgO.deM fCfgO.deD (runPrefixT 0 (merge tSched (tA 'a' 'b') (tB 'c' 'e')) tOldO)
      (runPrefixT 11 (merge tSched (tA 'a' 'b') (tB 'c' 'e')) tOldO) tP =
      some { metadata := fMetaO, data := some [Char.ofNat 4, Char.ofNat 5] } ∧
    readSC fCfgO.deM fCfgO.deD tOldO tP = some { metadata := fMetaO, data := some [Char.ofNat 7] } ∧
    fMetaO ≠ fMetaA ∧ fMetaO ≠ fMetaB ∧
    readSC fCfgO.deM fCfgO.deD (runPrefixT 11 (merge tSched (tA 'a' 'b') (tB 'c' 'e')) tOldO) tP = none :=
  ⟨merge_interleave _ _ _, by decide +kernel, by decide +kernel, by decide +kernel, by decide +kernel, by decide +kernel⟩

def tL3 : List (Step SName) :=
  merge3 [0, 0, 0, 0, 0, 0, 0, 0, 0, 0, 0, 2, 2, 2, 2, 2, 2] (tA 'a' 'b') (tB 'c' 'e') (tPr 'p')

-- the hypotheses of `tree_split_reader_sound` hold for `tOldS` (and the theorem applies: every `n1 ≤ n2`; other paths untouched)
example (n1 n2 : Nat) (hn : n1 ≤ n2) :
    (readSCSplit fCfgO.deM fCfgO.deD (runPrefixT n1 tL3 tOldS) (runPrefixT n2 tL3 tOldS) tP = none ∨
     readSCSplit fCfgO.deM fCfgO.deD (runPrefixT n1 tL3 tOldS) (runPrefixT n2 tL3 tOldS) tP =
       some { metadata := fMetaO, data := some [Char.ofNat 4, Char.ofNat 5] } ∨
     readSCSplit fCfgO.deM fCfgO.deD (runPrefixT n1 tL3 tOldS) (runPrefixT n2 tL3 tOldS) tP =
       some { metadata := fMetaA, data := some [Char.ofNat 4, Char.ofNat 5] } ∨
     readSCSplit fCfgO.deM fCfgO.deD (runPrefixT n1 tL3 tOldS) (runPrefixT n2 tL3 tOldS) tP =
       some { metadata := fMetaB, data := some [Char.ofNat 4, Char.ofNat 5] }) ∧
    readSCSplit fCfgO.deM fCfgO.deD (runPrefixT n1 tL3 tOldS) (runPrefixT n2 tL3 tOldS) tJ = readSC fCfgO.deM fCfgO.deD tOldS tJ := by
  have hg : readSC fCfgO.deM fCfgO.deD tOldS tP = some { metadata := fMetaO, data := some [Char.ofNat 4, Char.ofNat 5] } := by
    decide +kernel
  have hP : ∀ m, fCfgO.deM [3] = some m → m.status ≠ ready := fun _ h => Option.some.inj h ▸ fPs
  have hnd : [tL 'a', tL 'b', tL 'c', tL 'e', tL 'p'].Nodup := by decide +kernel
  have h := tree_split_reader_sound fCfgO.deM fCfgO.deD tOldS tP [4, 5] [1] [2] [3] fMetaA fMetaB (some [Char.ofNat 4, Char.ofNat 5])
    rfl rfl rfl rfl rfl rfl hP (tL 'a') (tL 'b') (tL 'c') (tL 'e') (tL 'p') hnd tL3 (merge3_interleave3 _ _ _ _)
    (fun _ _ _ _ _ => ⟨_, hg⟩)
    (fun old h => by rw [hg] at h; cases h; rfl)
    (fun old h => by rw [hg] at h; cases h; rfl)
    n1 n2 hn
  rw [hg] at h
  exact ⟨h, (tree_split_reader fCfgO.deM fCfgO.deD tOldS tP [4, 5] [1] [2] [3] fMetaA fMetaB (some [Char.ofNat 4, Char.ofNat 5])
    rfl rfl rfl rfl rfl rfl hP (tL 'a') (tL 'b') (tL 'c') (tL 'e') (tL 'p') hnd tL3 (merge3_interleave3 _ _ _ _) n1 n2 hn).2 tJ
    (by decide +kernel)⟩

end Liquer.C12


-- OBLIGATIONS: Liquer.C12.inst_registry Liquer.C12.good_answer Liquer.C12.oracle_refines Liquer.C12.oracle_frame Liquer.C12.answers_extend_trace Liquer.C12.apply_op_sound Liquer.C12.meta_remove_harmless Liquer.C12.recorded_answer_good Liquer.C12.inv_iff Liquer.C12.fresh_inv Liquer.C12.step_preserves_inv Liquer.C12.env_preserves_inv Liquer.C12.reach_preserves_inv Liquer.C12.schedule_preserves_inv Liquer.C12.schedule_reach Liquer.C12.events_preserve_inv Liquer.C12.events_reach Liquer.C12.cache_sound_every_schedule Liquer.C12.cache_values_fresh Liquer.C12.result_is_solo Liquer.C12.result_is_sequential Liquer.C12.same_query_same_result Liquer.C12.answers_are_finished Liquer.C12.never_serves_unfinished Liquer.C12.metadata_only_is_miss Liquer.C12.evalQO_agrees
-- OBLIGATIONS: Liquer.C12.file_writers_serializable Liquer.C12.file_writers_serializable_old Liquer.C12.file_writers_progress_harmless Liquer.C12.file_writer_and_progress Liquer.C12.file_steps_link_exact Liquer.C12.file_steps_link_run Liquer.C12.file_merge_iff_interleave Liquer.C12.file_merge3_interleave3 Liquer.C12.file_nested_interleave Liquer.C12.file_shared_tmp_truncates
-- OBLIGATIONS: Liquer.C12.tree_writers_serializable Liquer.C12.tree_writers_progress_harmless Liquer.C12.tree_writer_and_progress Liquer.C12.tree_steps_link_run Liquer.C12.tree_shared_tmp_truncates
-- OBLIGATIONS: Liquer.C12.file_split_reader Liquer.C12.file_split_reader_two Liquer.C12.file_split_reader_sound Liquer.C12.tree_split_reader Liquer.C12.tree_split_reader_two Liquer.C12.tree_split_reader_sound Liquer.C12.tree_split_guard_only_misses Liquer.C12.split_readers_same Liquer.C12.file_split_reader_mixed_witness Liquer.C12.file_split_reader_incomplete_witness Liquer.C12.tree_split_reader_mixed_witness
