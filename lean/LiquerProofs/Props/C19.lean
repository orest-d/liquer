/-
C19 — Relative resource paths resolve like POSIX path normalisation.
-/
import LiquerModel.Paths

namespace Liquer.C19
open Liquer

theorem normGo_dot (acc rest : List Str) : normGo acc (dot :: rest) = normGo acc rest := by
  rw [normGo, if_pos rfl]

theorem normGo_dotdot (acc rest : List Str) :
    normGo acc (dotdot :: rest) = if acc.isEmpty then none else normGo acc.dropLast rest := by
  rw [normGo, if_neg (by decide), if_pos rfl]

theorem normGo_name {r : Str} (h1 : r ≠ dot) (h2 : r ≠ dotdot) (acc rest : List Str) :
    normGo acc (r :: rest) = normGo (acc ++ [r]) rest := by
  rw [normGo, if_neg h1, if_neg h2]

theorem plainPath_cons {x : Str} {d : List Str} :
    plainPath (x :: d) = true ↔ (x ≠ dot ∧ x ≠ dotdot) ∧ plainPath d = true := by
  simp [plainPath]

theorem toAbsGo_started (path : List Str) (processed rest : List Str) :
    toAbsGo path true processed rest = normGo processed rest := by
  induction rest generalizing processed with
  | nil => rfl
  | cons r rest ih =>
    -- with `started = true` the two functions have the same three branches
    rw [toAbsGo, normGo]
    simp only [Bool.not_true, Bool.false_eq_true, ↓reduceIte, ih]

/-- normalisation is compositional: normalising `a ++ b` is normalising `a`, then continuing with `b` -/
theorem normGo_append (acc a b : List Str) :
    normGo acc (a ++ b) = (normGo acc a).bind (fun r => normGo r b) := by
  fun_induction normGo acc a with
  | case1 => rfl
  | case2 acc rest ih => rw [List.cons_append, normGo_dot, ih]
  | case3 acc rest h => rw [List.cons_append, normGo_dotdot, if_pos h]; rfl
  | case4 acc rest h _ ih => rw [List.cons_append, normGo_dotdot, if_neg h, ih]
  | case5 acc r rest h1 h2 ih => rw [List.cons_append, normGo_name h1 h2, ih]

theorem normGo_plain (acc p r : List Str) (ha : plainPath acc = true) (h : normGo acc p = some r) :
    plainPath r = true := by
  fun_induction normGo acc p with
  | case1 => cases h; exact ha
  | case2 acc rest ih => exact ih ha h
  | case3 => cases h
  | case4 acc rest _ _ ih =>
    exact ih (List.all_eq_true.mpr fun n hn => List.all_eq_true.mp ha n (List.dropLast_subset _ hn)) h
  | case5 acc x rest h1 h2 ih =>
    refine ih ?_ h
    simp only [plainPath, List.all_append, List.all_cons, List.all_nil, Bool.and_true,
      Bool.and_eq_true, bne_iff_ne, ne_eq] at ha ⊢
    exact ⟨ha, h1, h2⟩

theorem normGo_length (acc p r : List Str) (h : normGo acc p = some r) : r.length ≤ acc.length + p.length := by
  fun_induction normGo acc p with
  | case1 => cases h; exact Nat.le_refl _
  | case3 => cases h
  | case2 _ _ ih | case4 _ _ _ _ ih | case5 _ _ _ _ _ ih =>
    have := ih h
    simp only [List.length_append, List.length_cons, List.length_nil, List.length_dropLast] at this ⊢
    omega

theorem normGo_of_plain (acc p : List Str) (hp : plainPath p = true) : normGo acc p = some (acc ++ p) := by
  induction p generalizing acc with
  | nil => rw [List.append_nil]; rfl
  | cons x p ih =>
    obtain ⟨hx, hp'⟩ := plainPath_cons.mp hp
    rw [normGo_name hx.1 hx.2, ih _ hp', List.append_assoc]; rfl

theorem normGo_append_plain (acc d p : List Str) (hd : plainPath d = true) :
    normGo acc (d ++ p) = normGo (acc ++ d) p := by
  rw [normGo_append, normGo_of_plain acc d hd]; rfl

/-- **C19 main theorem.** For every directory of plain names and every resource path (any length):
resolving is POSIX normalisation of `dir ++ p` when `p` starts with `.` or `..`, of `p` alone
otherwise; `none` (rejected) exactly when normalisation climbs above the root. -/
theorem toAbsolute_eq_posix (dir p : List Str) (hd : plainPath dir = true) :
    toAbs dir p = if startsRelative p then posixNorm (dir ++ p) else posixNorm p := by
  unfold toAbs posixNorm
  cases p with
  | nil => rfl
  | cons r rest =>
    rw [normGo_append_plain [] dir _ hd, List.nil_append, toAbsGo]
    by_cases h1 : r = dot
    · subst h1
      rw [if_pos rfl, normGo_dot]; exact toAbsGo_started ..
    · by_cases h2 : r = dotdot
      · subst h2
        rw [if_neg h1, if_pos rfl, normGo_dotdot]
        simp only [Bool.not_false, ↓reduceIte, toAbsGo_started]; rfl
      · have hs : startsRelative (r :: rest) = false := by simp [startsRelative, h1, h2]
        rw [if_neg h1, if_neg h2, hs, toAbsGo_started, if_neg Bool.false_ne_true, normGo_name h1 h2]

theorem toAbs_eq_normGo (dir p : List Str) (hd : plainPath dir = true) :
    ∃ q, toAbs dir p = normGo [] q ∧ q.length ≤ dir.length + p.length := by
  rw [toAbsolute_eq_posix dir p hd]
  split
  · exact ⟨dir ++ p, rfl, Nat.le_of_eq List.length_append⟩
  · exact ⟨p, rfl, Nat.le_add_left _ _⟩

/-- the resolved path never contains `.` or `..` (so it can be used as a store key as it is) -/
theorem toAbsolute_result_plain (dir p r : List Str) (hd : plainPath dir = true) (h : toAbs dir p = some r) :
    plainPath r = true := by
  obtain ⟨q, hq, _⟩ := toAbs_eq_normGo dir p hd
  exact normGo_plain [] q r rfl (hq ▸ h)

/-- **Idempotence**: resolving an already resolved path again changes nothing. -/
theorem toAbsolute_idem (dir p r : List Str) (hd : plainPath dir = true) (h : toAbs dir p = some r) :
    toAbs dir r = some r := by
  have hr := toAbsolute_result_plain dir p r hd h
  have hns : startsRelative r = false := by
    cases r with
    | nil => rfl
    | cons x xs =>
      obtain ⟨hx, _⟩ := plainPath_cons.mp hr
      simp [startsRelative, hx.1, hx.2]
  rw [toAbsolute_eq_posix dir r hd, hns, if_neg Bool.false_ne_true, posixNorm, normGo_of_plain [] r hr]
  rfl

/-- a rejected path is exactly one whose normalisation climbs above the root (never re-anchored) -/
theorem toAbsolute_rejects_iff (dir p : List Str) (hd : plainPath dir = true) :
    toAbs dir p = none ↔ (if startsRelative p then posixNorm (dir ++ p) else posixNorm p) = none := by
  rw [toAbsolute_eq_posix dir p hd]

/-- a path that does not start with `.` / `..` resolves the same from every directory -/
theorem toAbsolute_ignores_dir (dir dir' p : List Str) (hd : plainPath dir = true) (hd' : plainPath dir' = true)
    (hp : startsRelative p = false) : toAbs dir p = toAbs dir' p := by
  rw [toAbsolute_eq_posix dir p hd, toAbsolute_eq_posix dir' p hd', hp]
  rfl

/-- **Two resolutions compose like `cd`**: resolving the relative path `q` from `dir0` and then the
relative path `p` from the result is resolving against the concatenated path `dir0 ++ q ++ p` at once;
if the first resolution is rejected, so is the combined one. -/
theorem toAbsolute_compose (dir0 q p : List Str) (hd : plainPath dir0 = true)
    (hq : startsRelative q = true) (hp : startsRelative p = true) :
    posixNorm (dir0 ++ (q ++ p)) = (toAbs dir0 q).bind (fun d => toAbs d p) := by
  rw [toAbsolute_eq_posix dir0 q hd, hq, if_pos rfl, posixNorm, posixNorm, ← List.append_assoc,
    normGo_append [] (dir0 ++ q) p]
  cases hn : normGo [] (dir0 ++ q) with
  | none => rfl
  | some d =>
    have hpl : plainPath d = true := normGo_plain [] _ d rfl hn
    rw [Option.bind_some, Option.bind_some, toAbsolute_eq_posix d p hpl, hp, if_pos rfl, posixNorm,
      normGo_append_plain [] d p hpl]
    rfl

theorem toAbsolute_length (dir p r : List Str) (hd : plainPath dir = true) (h : toAbs dir p = some r) :
    r.length ≤ dir.length + p.length := by
  obtain ⟨q, hq, hl⟩ := toAbs_eq_normGo dir p hd
  have := normGo_length [] q r (hq ▸ h)
  rw [List.length_nil] at this; omega

/-! ### query level: everything except the selected resource segments is untouched -/

theorem seg_frame_transform (dir : List Str) (sel : Option Str) (h : Option Header) (a : List Action) (f : Option Str) :
    (Seg.transform h a f).toAbsolute dir sel = some (.transform h a f) := rfl

theorem seg_frame_other_name (dir : List Str) (n : Str) (h : Option Header) (names : List Str)
    (hne : (n == (Seg.resource h names).segmentName) = false) :
    (Seg.resource h names).toAbsolute dir (some n) = some (.resource h names) := by
  rw [Seg.toAbsolute, segSelected, hne]; rfl

/-- a resource segment keeps its header; its path is kept (not selected, or empty) or resolved -/
theorem seg_selected (dir : List Str) (sel : Option Str) (h : Option Header) (names : List Str) (s' : Seg)
    (hs : (Seg.resource h names).toAbsolute dir sel = some s') :
    ∃ r, s' = .resource h r ∧ (r = names ∨ toAbs dir names = some r) := by
  rw [Seg.toAbsolute] at hs
  split at hs
  · obtain ⟨r, hr, rfl⟩ := Option.map_eq_some_iff.mp hs
    exact ⟨r, rfl, Or.inr hr⟩
  · cases hs; exact ⟨names, rfl, Or.inl rfl⟩

theorem mapOpt_cons {α β} {f : α → Option β} {a : α} {as : List α} {r : List β}
    (h : mapOpt f (a :: as) = some r) : ∃ b bs, f a = some b ∧ mapOpt f as = some bs ∧ r = b :: bs := by
  rw [mapOpt] at h
  split at h
  · next b bs hb hbs => cases h; exact ⟨b, bs, hb, hbs, rfl⟩
  · cases h

theorem mapOpt_length {α β} (f : α → Option β) (l : List α) (r : List β) (h : mapOpt f l = some r) :
    r.length = l.length := by
  induction l generalizing r with
  | nil => cases h; rfl
  | cons a as ih =>
    obtain ⟨b, bs, _, hbs, rfl⟩ := mapOpt_cons h
    rw [List.length_cons, List.length_cons, ih bs hbs]

/-- `Query.to_absolute` preserves absoluteness and the number of segments -/
theorem query_frame (dir : List Str) (sel : Option Str) (segs : List Seg) (abs : Bool) (q' : Query)
    (h : (Query.mk segs abs).toAbsolute dir sel = some q') :
    q'.absolute = abs ∧ q'.segments.length = segs.length := by
  obtain ⟨s, hm, rfl⟩ := Option.map_eq_some_iff.mp (show (mapOpt _ segs).map _ = _ from h)
  exact ⟨rfl, mapOpt_length _ _ _ hm⟩

theorem seg_idem (dir : List Str) (sel : Option Str) (hd : plainPath dir = true) (s s' : Seg)
    (h : s.toAbsolute dir sel = some s') : s'.toAbsolute dir sel = some s' := by
  cases s with
  | transform hh a f => cases h; rfl
  | resource hh names =>
    obtain ⟨r, rfl, hr⟩ := seg_selected dir sel hh names s' h
    rcases hr with rfl | hr
    · exact h
    · rw [Seg.toAbsolute]
      split
      · rw [toAbsolute_idem dir names r hd hr]; rfl
      · rfl

theorem mapOpt_idem {α} (f : α → Option α) (hf : ∀ a b, f a = some b → f b = some b) (l r : List α)
    (h : mapOpt f l = some r) : mapOpt f r = some r := by
  induction l generalizing r with
  | nil => cases h; rfl
  | cons a as ih =>
    obtain ⟨b, bs, hb, hbs, rfl⟩ := mapOpt_cons h
    rw [mapOpt, hf a b hb, ih bs hbs]

/-- **`Query.to_absolute` is idempotent**: resolving a resolved query again (same directory, same
segment selection) returns it unchanged -/
theorem query_idem (dir : List Str) (sel : Option Str) (hd : plainPath dir = true) (q q' : Query)
    (h : q.toAbsolute dir sel = some q') : q'.toAbsolute dir sel = some q' := by
  cases q with
  | mk segs abs =>
    obtain ⟨r, hm, rfl⟩ := Option.map_eq_some_iff.mp (show (mapOpt _ segs).map _ = _ from h)
    rw [Query.toAbsolute, mapOpt_idem _ (seg_idem dir sel hd) segs r hm]; rfl

example : toAbs [['d']] [['a'], dotdot, dot, ['b']] = some [['b']] := by decide +kernel
example : toAbs [['d']] [dot, dotdot, dotdot] = none := by decide +kernel
example : toAbs [['x'], ['y']] [dot, dotdot, ['c']] = some [['x'], ['c']] := by decide +kernel
example : plainPath [['x'], ['y']] = true := by decide +kernel
-- a query the idempotence theorem applies to (one selected resource segment, one transform segment)
example : (Query.mk [.resource none [dot, dotdot, ['c']], .transform none [] none] false).toAbsolute [['x'], ['y']] none
    = some (Query.mk [.resource none [['x'], ['c']], .transform none [] none] false) := rfl
-- the hypotheses of `toAbsolute_compose` are satisfiable, and both sides are a non-trivial path
example : startsRelative [dotdot, ['c']] = true ∧ startsRelative [dot, ['e'], dotdot, ['f']] = true := by decide +kernel
example : (toAbs [['x'], ['y']] [dotdot, ['c']]).bind (fun d => toAbs d [dot, ['e'], dotdot, ['f']])
    = some [['x'], ['c'], ['f']] := by decide +kernel
example : (toAbs [['x']] [dotdot, dotdot]).bind (fun d => toAbs d [dot, ['e']]) = none := by decide +kernel
example : startsRelative [['a'], dotdot, ['b']] = false := by decide +kernel

end Liquer.C19

-- OBLIGATIONS: Liquer.C19.toAbsolute_eq_posix Liquer.C19.toAbsolute_idem Liquer.C19.toAbsolute_rejects_iff Liquer.C19.seg_frame_transform Liquer.C19.seg_frame_other_name Liquer.C19.seg_selected Liquer.C19.query_frame Liquer.C19.toAbsolute_result_plain Liquer.C19.toAbsolute_ignores_dir Liquer.C19.toAbsolute_compose Liquer.C19.toAbsolute_length Liquer.C19.seg_idem Liquer.C19.query_idem
