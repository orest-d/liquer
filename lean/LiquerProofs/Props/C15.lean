/-
C15 — Overlay store: copy-on-write view that never touches the fall-back.
Model: `overlayOps U L` (LiquerModel/StoreOverlay.lean) = `liquer.store.OverlayStore` with the fixes D5a-D5e, state
`(upper, lower, removed)`.  The fall-back is never written, for arbitrary part models; with specification parts the
overlay refines `specOps` through `view` (tomb-stones mask, the upper part shadows the lower part) under the invariant `Inv`.
-/
import LiquerProofs.Lemmas.StoreOverlay

namespace Liquer.C15
open Liquer Liquer.SV Liquer.OvL

/-- **No operation performed through the overlay modifies the fall-back store** (any part models). -/
theorem overlay_fallback_immutable {σu σl : Type} (U : StoreOps σu) (L : StoreOps σl)
    (s : σu × σl × List Key) (op : StoreOp) : ((overlayOps U L).step s op).2.1 = s.2.1 :=
  step_lower U L s op

/-- … also when the operation is reported as successful with a new state (no hidden write before an error) -/
theorem overlay_fallback_immutable_apply {σu σl : Type} (U : StoreOps σu) (L : StoreOps σl)
    (s s' : σu × σl × List Key) (op : StoreOp) (h : (overlayOps U L).apply s op = .ok s') : s'.2.1 = s.2.1 :=
  apply_lower U L s s' op h

theorem overlay_fallback_immutable_run {σu σl : Type} (U : StoreOps σu) (L : StoreOps σl)
    (s : σu × σl × List Key) (h : List StoreOp) : ((overlayOps U L).run s h).2.1 = s.2.1 := by
  induction h generalizing s with
  | nil => rfl
  | cons op rest ih => exact (ih _).trans (step_lower U L s op)

abbrev O := overlayOps specOps specOps

theorem overlay_inv_init (fs₀ : FS) (h : fs₀.tree = true) : Inv (([] : FS), fs₀, ([] : List Key)) :=
  ⟨treeP_nil, treeP_of_tree fs₀ h, fun _ hk => (nomatch hk), fun h => (nomatch h), treeP_of_tree fs₀ h⟩

theorem overlay_view_init (fs₀ : FS) : view (([] : FS), fs₀, ([] : List Key)) = fs₀.get := by
  funext x; unfold view; simp [get_nil]

/-- **Every read reflects the view**: containment, directory flag, bytes, metadata are the specification's
reads of `view s`; the directory listing of `k` is, without repetition, the set of names `nm` with
`k/nm` present in the view; `keys()` is, without repetition, the set of keys present in the view. -/
theorem overlay_reads (s : S) (hi : Inv s) (k : Key) :
    O.contains s k = .ok (rdContains (view s) k) ∧
    O.isDir s k = .ok (rdIsDir (view s) k) ∧
    O.getBytes s k = rdBytes (view s) k ∧
    O.getMeta s k = rdMeta (view s) k ∧
    (∃ l, O.listdir s k = .ok (some l) ∧ l.Nodup ∧ ∀ nm, nm ∈ l ↔ (view s (k ++ [nm])).isSome = true) ∧
    (∃ ks, O.keys s = .ok ks ∧ ks.Nodup ∧ ∀ x, x ∈ ks ↔ (view s x).isSome = true) := by
  refine ⟨ov_contains hi k, ov_isDir hi k, ov_getBytes hi k, ov_getMeta hi k, ?_, ov_keys s⟩
  obtain ⟨l, h1, h2, h3⟩ := ov_listdir hi k
  refine ⟨l, ?_, h2, h3⟩
  show (match Ov.listdirL specOps specOps s k with | Except.error e => Except.error e | Except.ok l => Except.ok (some l)) = _
  rw [h1]

theorem overlay_reads_eq_spec (s : S) (hi : Inv s) (fs : FS) (hv : view s = fs.get) (k : Key) :
    O.contains s k = specOps.contains fs k ∧ O.isDir s k = specOps.isDir fs k ∧
    O.getBytes s k = specOps.getBytes fs k ∧ O.getMeta s k = specOps.getMeta fs k := by
  obtain ⟨h1, h2, h3, h4, _, _⟩ := overlay_reads s hi k
  rw [h1, h2, h3, h4, hv]
  exact ⟨rfl, rfl, rfl, rfl⟩

/-- **Every well-formed write updates the view as the specification store updates its content** -/
theorem overlay_write (s : S) (hi : Inv s) (op : StoreOp) (hw : WfF (view s) op) :
    view (O.step s op) = stepF (view s) op ∧ Inv (O.step s op) ∧ (O.step s op).2.1 = s.2.1 := by
  obtain ⟨s', h1, h2, h3⟩ := ov_apply hi op hw
  have hs : O.step s op = s' := by unfold StoreOps.step; rw [h1]
  rw [hs]
  exact ⟨h2, h3, apply_lower specOps specOps s s' op h1⟩

theorem overlay_write_ok (s : S) (hi : Inv s) (op : StoreOp) (hw : WfF (view s) op) :
    ∃ s', O.apply s op = .ok s' := by
  obtain ⟨s', h, _⟩ := ov_apply hi op hw
  exact ⟨s', h⟩

/-- `stepF` is what the specification store does (so "as the specification" above is literal) -/
theorem stepF_is_spec (fs : FS) (op : StoreOp) (ht : TreeP fs) (hw : wfOp fs op = true) :
    (specOps.step fs op).get = stepF fs.get op ∧ TreeP (specOps.step fs op) :=
  spec_step_get fs op ht (wfF_of_wfOp fs op hw)

theorem overlay_store_wins (s : S) (hi : Inv s) (k : Key) (d : Data) (m : UMeta) (hw : WfF (view s) (.store k d m)) :
    O.getBytes (O.step s (.store k d m)) k = .ok d ∧ O.contains (O.step s (.store k d m)) k = .ok true := by
  obtain ⟨hv, hi', _⟩ := overlay_write s hi _ hw
  obtain ⟨h1, _, h3, _⟩ := overlay_reads _ hi' k
  rw [h1, h3, hv]
  simp [stepF, rdBytes, rdContains, storeF_self]

theorem overlay_remove_wins (s : S) (hi : Inv s) (k : Key) (hw : WfF (view s) (.remove k)) :
    O.getBytes (O.step s (.remove k)) k = .error .keyNotFound ∧ O.contains (O.step s (.remove k)) k = .ok false := by
  obtain ⟨d, m, hk⟩ : ∃ d m, view s k = some (.file d m) := hw
  have hk0 : k ≠ [] := (hi.tree k _ hk).1
  obtain ⟨hv, hi', _⟩ := overlay_write s hi (.remove k) ⟨d, m, hk⟩
  obtain ⟨h1, _, h3, _⟩ := overlay_reads _ hi' k
  rw [h1, h3, hv]
  simp [stepF, rdBytes, rdContains, eraseF_self, hk0]

theorem overlay_removedir_wins (s : S) (hi : Inv s) (k : Key) (r : Bool) (hw : WfF (view s) (.removedir k r))
    (x : Key) (hx : k <+: x) :
    O.contains (O.step s (.removedir k r)) x = .ok false := by
  have hk0 : k ≠ [] := hw.1
  have hx0 : x ≠ [] := by
    intro e; subst e
    exact hk0 (List.prefix_nil.mp hx)
  obtain ⟨hv, hi', _⟩ := overlay_write s hi _ hw
  obtain ⟨h1, _⟩ := overlay_reads _ hi' x
  rw [h1, hv]
  simp [stepF, rdContains, rmTreeF_below hx, hx0]

/-- frame: the view is unchanged at a key neither at, above nor below the key of the operation -/
theorem overlay_frame (s : S) (hi : Inv s) (op : StoreOp) (hw : WfF (view s) op) (x : Key)
    (h1 : ¬ x <+: opKey op) (h2 : ¬ opKey op <+: x) :
    view (O.step s op) x = view s x := by
  rw [(overlay_write s hi op hw).1]
  exact stepF_frame (view s) op x h1 h2

/-- **Refinement, all histories** -/
theorem overlay_refines_spec (h : List StoreOp) : ∀ (s : S) (fs : FS), Inv s → TreeP fs → view s = fs.get →
    wfHist fs h = true →
    view (O.run s h) = (specOps.run fs h).get ∧ Inv (O.run s h) ∧ TreeP (specOps.run fs h) ∧
      (O.run s h).2.1 = s.2.1 := by
  induction h with
  | nil => intro s fs hi ht hv _; exact ⟨hv, hi, ht, rfl⟩
  | cons op rest ih =>
    intro s fs hi ht hv hw
    simp only [wfHist, Bool.and_eq_true] at hw
    have hwf : WfF fs.get op := wfF_of_wfOp fs op hw.1
    obtain ⟨g1, g2⟩ := spec_step_get fs op ht hwf
    obtain ⟨v1, v2, v3⟩ := overlay_write s hi op (hv ▸ hwf)
    have hv' : view (O.step s op) = (specOps.step fs op).get := by rw [v1, g1, hv]
    obtain ⟨r1, r2, r3, r4⟩ := ih (O.step s op) (specOps.step fs op) v2 g2 hv' hw.2
    refine ⟨r1, r2, r3, ?_⟩
    show (O.run (O.step s op) rest).2.1 = s.2.1
    rw [r4, v3]

/-- **C15, assembled**: an overlay freshly created over any tree-shaped fall-back `fs₀`, after any history
`h` well-formed for a store with content `fs₀`: every point read equals the read of the specification
store that ran `h` on a copy of `fs₀`, and the fall-back still is `fs₀`. -/
theorem overlay_copy_on_write (fs₀ : FS) (ht : fs₀.tree = true) (h : List StoreOp) (hw : wfHist fs₀ h = true) (k : Key) :
    let s := O.run (([] : FS), fs₀, ([] : List Key)) h
    let fs := specOps.run fs₀ h
    s.2.1 = fs₀ ∧
    O.contains s k = specOps.contains fs k ∧ O.isDir s k = specOps.isDir fs k ∧
    O.getBytes s k = specOps.getBytes fs k ∧ O.getMeta s k = specOps.getMeta fs k ∧
    (∃ l, O.listdir s k = .ok (some l) ∧ l.Nodup ∧ ∀ nm, nm ∈ l ↔ (fs.get (k ++ [nm])).isSome = true) ∧
    (∃ ks, O.keys s = .ok ks ∧ ks.Nodup ∧ ∀ x, x ∈ ks ↔ (fs.get x).isSome = true) := by
  intro s fs
  obtain ⟨r1, r2, _, r4⟩ := overlay_refines_spec h _ fs₀ (overlay_inv_init fs₀ ht) (treeP_of_tree fs₀ ht)
    (overlay_view_init fs₀) hw
  obtain ⟨a, b, c, d⟩ := overlay_reads_eq_spec s r2 fs r1 k
  obtain ⟨_, _, _, _, e, f⟩ := overlay_reads s r2 k
  refine ⟨r4, a, b, c, d, ?_, ?_⟩
  · rw [r1] at e; exact e
  · rw [r1] at f; exact f

/-! the D5 witnesses, on the model of the fixed code -/

def kab : Key := [['a'], ['b']]
def ka : Key := [['a']]
def kan : Key := [['a'], ['n']]
def kc : Key := [['c']]
def um (c : Char) : UMeta := { user := [c] }
/-- fall-back {a/b, c} -/
def fb : FS := specOps.run [] [.store kab [1] (um 'x'), .store kc [2] (um 'y')]
def s0 : S := (([] : FS), fb, ([] : List Key))
def hist : List StoreOp :=
  [.remove kab, .removedir ka true, .store kan [3] (um 'z'), .storeMeta kc (um 'w'), .makedir [['g']], .removedir [['g']] false]

example : fb.tree = true := by decide +kernel
example : wfHist fb hist = true := by decide +kernel
example : Inv s0 := overlay_inv_init fb (by decide +kernel)
example : WfF (view s0) (.remove kab) := ⟨[1], { user := ['x'], size := some 1, md5 := some [1] }, by decide +kernel⟩
example : WfF (view s0) (.removedir ka true) := ⟨by decide +kernel, by decide +kernel, Or.inl rfl⟩
-- D5a: a removed key is not readable
example : O.getBytes (O.run s0 [.remove kab]) kab = .error .keyNotFound := by decide +kernel
-- D5b: a recursively removed fall-back directory is masked, also when the overlay had written below it
example : O.contains (O.run s0 [.store kan [3] (um 'z'), .removedir ka true]) ka = .ok false := by decide +kernel
-- re-creation below a removed directory brings the directory back, not its old content
example : O.contains (O.run s0 [.removedir ka true, .store kan [3] (um 'z')]) ka = .ok true := by decide +kernel
example : O.contains (O.run s0 [.removedir ka true, .store kan [3] (um 'z')]) kab = .ok false := by decide +kernel
-- copy-up on a metadata update
example : O.getBytes (O.run s0 [.storeMeta kc (um 'w')]) kc = .ok [2] := by decide +kernel
example : (O.run s0 hist).2.1 = fb := by decide +kernel

end Liquer.C15

-- OBLIGATIONS: Liquer.C15.overlay_fallback_immutable Liquer.C15.overlay_fallback_immutable_apply Liquer.C15.overlay_fallback_immutable_run Liquer.C15.overlay_inv_init Liquer.C15.overlay_view_init Liquer.C15.overlay_reads Liquer.C15.overlay_reads_eq_spec Liquer.C15.overlay_write Liquer.C15.overlay_write_ok Liquer.C15.stepF_is_spec Liquer.C15.overlay_store_wins Liquer.C15.overlay_remove_wins Liquer.C15.overlay_removedir_wins Liquer.C15.overlay_frame Liquer.C15.overlay_refines_spec Liquer.C15.overlay_copy_on_write
