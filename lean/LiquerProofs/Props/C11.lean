/-
C11 — State types serialize and deserialize losslessly.

What is LiQuer's own logic here is DISPATCH (registry look-up, default extension, media type) and FRAMING
(the line-oriented `djson` dictionary format with JSON-escaped keys and base64 triples) — and the two codecs that
are LiQuer's own code: `TextStateType` (UTF-8, strict decoding) and `BytesStateType` (identity).  For these two the
codec law is PROVED (`c11_text_codec_law`, `c11_bytes_codec_law`: every string of Unicode scalar values, every byte
string) and the round trip through the regenerated registry holds with no codec hypothesis (`c11_own_roundtrip`,
`c11_own_copy`).  The remaining codecs (json, pickle, pandas/pyarrow/polars, base64) are third party: they enter as
parameters whose round-trip law is an explicit hypothesis (`CodecLaw`, `ElemEnvLaw`), validated differentially by
harness/props/C11.py, NOT proved.
-/
import LiquerProofs.Lemmas.Djson
import LiquerProofs.Lemmas.StateTypesCodec
import LiquerProofs.Inst.StateTypes

namespace Liquer.C11
open Liquer Liquer.StateTypes

theorem lookup_mem {k v : Str} {l : List (Str × Str)} (h : lookup k l = some v) : (k, v) ∈ l := by
  induction l with
  | nil => simp [lookup] at h
  | cons a l ih =>
    obtain ⟨a1, a2⟩ := a
    simp only [lookup] at h
    split at h
    · next he => cases h; subst he; exact List.mem_cons_self
    · exact List.mem_cons_of_mem _ (ih h)

/-- what `regOK` gives for *every* name handed to `StateTypesRegistry.get` (registered or not) -/
theorem dispatch_of_regOK (reg : Registry) (hreg : regOK reg = true) (k : Str) :
    reg.get (reg.get k) = reg.get k ∧
    ∃ r, reg.row (reg.get k) = some r ∧ r.ident = reg.get k ∧
      r.writesExt r.defaultExt = true ∧ r.readsExt r.defaultExt = true ∧
      (∀ e, r.readsExt e = true → r.writesExt e = true) ∧
      reg.row (reg.get r.ident) = some r := by
  simp only [regOK, Bool.and_eq_true, List.all_eq_true, beq_iff_eq] at hreg
  obtain ⟨⟨⟨hrows, hdict⟩, hdrow⟩, hdget⟩ := hreg
  have key : (reg.row (reg.get k)).isSome = true ∧ reg.get (reg.get k) = reg.get k := by
    unfold Registry.get
    cases hl : lookup k reg.dict with
    | none => exact ⟨hdrow, hdget⟩
    | some v =>
      have := hdict (k, v) (lookup_mem hl)
      exact this
  refine ⟨key.2, ?_⟩
  obtain ⟨r, hr⟩ := Option.isSome_iff_exists.mp key.1
  have hmem : r ∈ reg.rows := List.mem_of_find?_eq_some hr
  have hid : r.ident = reg.get k := by
    have := List.find?_some hr
    simpa using this
  have := hrows r hmem
  refine ⟨r, hr, hid, this.1.1.2, this.1.2, ?_, this.1.1.1⟩
  intro e he
  have h2 := this.2
  simp only [Row.readsExt, List.contains_iff_mem] at he
  exact h2 e (by simpa using he)

/-- **C11 dispatch**, for the registry regenerated from the current tree and *every* qualified type name or
identifier `k` (unregistered names fall back to the default/pickle type): the state type selected through
the identifier recorded at encoding time is the one selected through the name (`get (get k) = get k`);
its default extension — on which caches, recipe stores and saved results rely — is both written and read;
and for every extension `e` it both writes and reads, the decoder selected by the recorded identifier
reads `e`. -/
theorem c11_dispatch (k : Str) :
    Gen.stateTypeRegistry.get (Gen.stateTypeRegistry.get k) = Gen.stateTypeRegistry.get k ∧
    ∃ r, Gen.stateTypeRegistry.row (Gen.stateTypeRegistry.get k) = some r ∧
      r.ident = Gen.stateTypeRegistry.get k ∧
      r.writesExt r.defaultExt = true ∧ r.readsExt r.defaultExt = true ∧
      ∀ e, r.writesExt e = true → r.readsExt e = true →
        ∃ r', Gen.stateTypeRegistry.row (Gen.stateTypeRegistry.get r.ident) = some r' ∧ r'.readsExt e = true := by
  obtain ⟨h1, r, hr, hid, hw, hrd, _, hsame⟩ := dispatch_of_regOK _ Inst.stateTypes_ok k
  exact ⟨h1, r, hr, hid, hw, hrd, fun e _ he => ⟨r, hsame, he⟩⟩

/-- the media types the live core state types report are the ones computed from the regenerated `MIMETYPES` -/
theorem c11_mime : mimeAgree Gen.mimetypes Gen.stateTypeRegistry = true := Inst.stateTypes_mime

/-! non-vacuity: a two-type registry in the shape of the real one -/
def demoReg : Registry :=
  { rows := [⟨['d'], ['D'], ['j'], [(['j'], ['m']), (['x'], ['m'])], [['j']]⟩,
             ⟨['p'], ['P'], ['k'], [(['k'], ['o'])], [['k']]⟩],
    dict := [(['b', '.', 'd', 'i', 'c', 't'], ['d']), (['d'], ['d'])],
    default := ['p'] }
example : regOK demoReg = true := by decide +kernel
example : demoReg.get ['b', '.', 'd', 'i', 'c', 't'] = ['d'] ∧ demoReg.get ['s', 'e', 't'] = ['p'] := by decide +kernel

/-- third-party round trip for one (state type, extension): whatever `as_bytes` produced, `from_bytes`
turns back into the original value. **Hypothesis** — validated differentially, not proved. -/
def CodecLaw {V B} (c : Codec V B) (T e : Str) : Prop :=
  ∀ x b, c.enc T e x = some b → c.dec T e b = some x

/-- **C11 generic round trip**: for any registry satisfying the side condition, if `encode_state_data`
succeeds with `(bytes, mimetype, type identifier)` then the identifier is the value's state type, the media
type is the one that state type reports for the extension used, and — under the codec law for that
(type, extension) — `decode_state_data` on the bytes with the recorded identifier returns the value. -/
theorem c11_roundtrip_generic {V B} (reg : Registry) (hreg : regOK reg = true) (c : Codec V B)
    (x : V) (ext : Option Str) (b : B) (m tid : Str)
    (henc : encodeStateData reg c x ext = some (b, m, tid)) :
    tid = reg.get (c.typeOf x) ∧
    ∃ r e, reg.row tid = some r ∧ extOr reg tid ext = some e ∧ r.mimeOf e = some m ∧
      (CodecLaw c tid e → decodeStateData reg c b tid ext = some x) := by
  have hfix := (dispatch_of_regOK reg hreg (c.typeOf x)).1
  rw [encodeStateData] at henc
  split at henc
  · next r e hr he =>
    split at henc
    · next m' b' hm hb =>
      cases henc
      refine ⟨rfl, r, e, hr, he, hm, fun law => ?_⟩
      simp only [decodeStateData, hfix, he]
      exact law x b hb
    · cases henc
  · cases henc

theorem c11_roundtrip {V B} (c : Codec V B) (x : V) (ext : Option Str) (b : B) (m tid e : Str)
    (henc : encodeStateData Gen.stateTypeRegistry c x ext = some (b, m, tid))
    (he : extOr Gen.stateTypeRegistry tid ext = some e) (law : CodecLaw c tid e) :
    decodeStateData Gen.stateTypeRegistry c b tid ext = some x := by
  obtain ⟨_, r, e', _, he', _, h⟩ := c11_roundtrip_generic _ Inst.stateTypes_ok c x ext b m tid henc
  rw [he] at he'
  cases he'
  exact h law

/-- `copy_state_data` is the `copy` of the state type registered for the value's type -/
theorem c11_copy_dispatch {V B} (reg : Registry) (c : Codec V B) (x : V)
    (law : ∀ T y, c.copy T y = some y) : copyStateData reg c x = some x := by
  simp [copyStateData, law]

/-! non-vacuity: a codec satisfying the law (identity on `Nat`), encoded through the demo registry -/
def demoCodec : Codec Nat Nat :=
  { typeOf := fun _ => ['b', '.', 'd', 'i', 'c', 't'], enc := fun _ _ x => some (x + 1),
    dec := fun _ _ b => some (b - 1), copy := fun _ x => some x }
example : CodecLaw demoCodec ['d'] ['j'] := by
  intro x b h; simp [demoCodec] at h ⊢; omega
example : encodeStateData demoReg demoCodec 5 none = some (6, ['m'], ['d']) := by decide +kernel
example : decodeStateData demoReg demoCodec 6 ['d'] none = some 5 := by decide +kernel
example : ∀ T y, demoCodec.copy T y = some y := fun _ _ => rfl
example : copyStateData demoReg demoCodec 7 = some 7 := c11_copy_dispatch demoReg demoCodec 7 (fun _ _ => rfl)

/-! ### the codecs that are LiQuer's own code: `TextStateType` and `BytesStateType` — proved, not assumed -/

/-- **text codec law**: `TextStateType().from_bytes(TextStateType().as_bytes(s, e)[0], e) == s` for EVERY string of
Unicode scalar values and every extension — strict UTF-8 decoding inverts UTF-8 encoding. -/
theorem c11_text_codec_law (e : Str) : CodecLaw ownCodec ['t', 'e', 'x', 't'] e := by
  intro x b h
  cases x with
  | text s => cases h; exact congrArg (Option.map OwnVal.text) (utf8Strict_utf8Bytes s)
  | bytes b' => cases h

/-- **bytes codec law**: `BytesStateType` hands every byte string through unchanged, both ways. -/
theorem c11_bytes_codec_law (e : Str) : CodecLaw ownCodec ['b', 'y', 't', 'e', 's'] e := by
  intro x b h
  cases x with
  | text s => cases h
  | bytes b' => cases h; rfl

/-- the text decoder is injective where it succeeds: it accepts nothing but the UTF-8 encoding of what it returns
(no two stored byte strings are read back as the same text) -/
theorem c11_text_decode_exact (e : Str) (b : List UInt8) (s : Str)
    (h : ownCodec.dec ['t', 'e', 'x', 't'] e b = some (.text s)) :
    ownCodec.enc ['t', 'e', 'x', 't'] e (.text s) = some b := by
  obtain ⟨s', hs, hs'⟩ := Option.map_eq_some_iff.mp (show (utf8Strict b).map OwnVal.text = _ from h)
  cases hs'
  exact congrArg some (utf8Bytes_of_utf8Strict b s hs)

/-- identifier of the state type that serves the value -/
def ownIdent : OwnVal → Str
  | .text _ => ['t', 'e', 'x', 't']
  | .bytes _ => ['b', 'y', 't', 'e', 's']

/-- the stored bytes: UTF-8 of a text, a byte string itself -/
def ownBytes : OwnVal → List UInt8
  | .text s => utf8Bytes s
  | .bytes b => b

/-- the regenerated registry lists extension `e` as both written and read by the state type with identifier `tid` -/
def listedRW (tid e : Str) : Bool :=
  match Gen.stateTypeRegistry.row tid with
  | some r => r.writesExt e && r.readsExt e
  | none => false

theorem own_codec_law (x : OwnVal) (e : Str) : CodecLaw ownCodec (ownIdent x) e := by
  cases x with
  | text s => exact c11_text_codec_law e
  | bytes b => exact c11_bytes_codec_law e

/-- side fact about the regenerated registry: `str` is served by the `text`, `bytes` by the `bytes` state type -/
theorem own_get (x : OwnVal) : Gen.stateTypeRegistry.get (ownCodec.typeOf x) = ownIdent x := by
  cases x with
  | text s =>
    show Gen.stateTypeRegistry.get qualStr = ['t', 'e', 'x', 't']
    decide +kernel
  | bytes b =>
    show Gen.stateTypeRegistry.get qualBytes = ['b', 'y', 't', 'e', 's']
    decide +kernel

/-- **C11 round trip of the own state types, no hypothesis about any codec**: for EVERY text (string of Unicode scalar
values) and EVERY byte string `x`, and every extension — omitted (the type's default, `txt` / `b`) or any one the
regenerated registry lists as written and read by the value's state type — `encode_state_data` succeeds with the
UTF-8 bytes (the bytes themselves) and the identifier `text` (`bytes`), and `decode_state_data` on exactly these bytes
with the recorded identifier returns `x`. -/
theorem c11_own_roundtrip (x : OwnVal) (ext : Option Str)
    (hext : ∀ e, ext = some e → listedRW (ownIdent x) e = true) :
    ∃ m, encodeStateData Gen.stateTypeRegistry ownCodec x ext = some (ownBytes x, m, ownIdent x) ∧
      decodeStateData Gen.stateTypeRegistry ownCodec (ownBytes x) (ownIdent x) ext = some x := by
  have hget := own_get x
  obtain ⟨_, r, hr, _, hwd, _, _, _⟩ := dispatch_of_regOK _ Inst.stateTypes_ok (ownCodec.typeOf x)
  rw [hget] at hr
  obtain ⟨e, he, hw⟩ : ∃ e, extOr Gen.stateTypeRegistry (ownIdent x) ext = some e ∧ r.writesExt e = true := by
    cases ext with
    | none => exact ⟨r.defaultExt, by simp [extOr, hr], hwd⟩
    | some e =>
      refine ⟨e, rfl, ?_⟩
      have := hext e rfl
      simp only [listedRW, hr, Bool.and_eq_true] at this
      exact this.1
  obtain ⟨m, hm⟩ := mimeOf_of_writesExt r e hw
  have hencb : ownCodec.enc (ownIdent x) e x = some (ownBytes x) := by cases x <;> rfl
  have henc : encodeStateData Gen.stateTypeRegistry ownCodec x ext = some (ownBytes x, m, ownIdent x) := by
    simp only [encodeStateData, hget, hr, he, hm, hencb]
  exact ⟨m, henc, c11_roundtrip ownCodec x ext _ m _ e henc he (own_codec_law x e)⟩

/-- **C11 copy of the own state types**: `copy_state_data` returns an equal value for every text and byte string -/
theorem c11_own_copy (x : OwnVal) : copyStateData Gen.stateTypeRegistry ownCodec x = some x := by
  rw [copyStateData, own_get x]
  cases x <;> rfl

/-! non-vacuity: `"hé𝄞"` (ASCII, two-byte, astral) through the regenerated registry, default extension and `html`;
the extensions the hypothesis of `c11_own_roundtrip` admits; strictness of the decoder (Python raises
`UnicodeDecodeError`): truncated sequence, overlong NUL, encoded surrogate, beyond U+10FFFF, lone continuation byte -/
example : encodeStateData Gen.stateTypeRegistry ownCodec (.text ['h', Char.ofNat 233, Char.ofNat 0x1D11E]) none =
    some ([0x68, 0xc3, 0xa9, 0xf0, 0x9d, 0x84, 0x9e], ['t', 'e', 'x', 't', '/', 'p', 'l', 'a', 'i', 'n'], ['t', 'e', 'x', 't']) := by
  decide +kernel
example : decodeStateData Gen.stateTypeRegistry ownCodec [0x68, 0xc3, 0xa9, 0xf0, 0x9d, 0x84, 0x9e] ['t', 'e', 'x', 't'] none =
    some (.text ['h', Char.ofNat 233, Char.ofNat 0x1D11E]) := by decide +kernel
example : decodeStateData Gen.stateTypeRegistry ownCodec [0x68, 0xc3, 0xa9, 0xf0, 0x9d, 0x84, 0x9e] ['t', 'e', 'x', 't']
    (some ['h', 't', 'm', 'l']) = some (.text ['h', Char.ofNat 233, Char.ofNat 0x1D11E]) := by decide +kernel
example : listedRW ['t', 'e', 'x', 't'] ['t', 'x', 't'] = true ∧ listedRW ['t', 'e', 'x', 't'] ['h', 't', 'm', 'l'] = true ∧
    listedRW ['b', 'y', 't', 'e', 's'] ['b'] = true ∧ listedRW ['b', 'y', 't', 'e', 's'] ['p', 'n', 'g'] = true := by decide +kernel
example : ∃ m, encodeStateData Gen.stateTypeRegistry ownCodec (.bytes [0, 255, 0xc3]) (some ['p', 'n', 'g']) = some ([0, 255, 0xc3], m, ['b', 'y', 't', 'e', 's']) ∧
    decodeStateData Gen.stateTypeRegistry ownCodec [0, 255, 0xc3] ['b', 'y', 't', 'e', 's'] (some ['p', 'n', 'g']) = some (.bytes [0, 255, 0xc3]) :=
  c11_own_roundtrip (.bytes [0, 255, 0xc3]) (some ['p', 'n', 'g']) (by intro e h; cases h; decide +kernel)
example : ownCodec.dec ['t', 'e', 'x', 't'] ['t', 'x', 't'] [0x68, 0xc3] = none ∧
    ownCodec.dec ['t', 'e', 'x', 't'] ['t', 'x', 't'] [0xc0, 0x80] = none ∧
    ownCodec.dec ['t', 'e', 'x', 't'] ['t', 'x', 't'] [0xed, 0xa0, 0x80] = none ∧
    ownCodec.dec ['t', 'e', 'x', 't'] ['t', 'x', 't'] [0xf4, 0x90, 0x80, 0x80] = none ∧
    ownCodec.dec ['t', 'e', 'x', 't'] ['t', 'x', 't'] [0x80] = none := by decide +kernel
example : copyStateData Gen.stateTypeRegistry ownCodec (.text [Char.ofNat 233]) = some (.text [Char.ofNat 233]) := c11_own_copy _

/-- **key round trip**: for *every* string of Unicode scalar values (Lean `Char`: U+0000–U+10FFFF without
the surrogate range) the scanner of `json.loads` inverts `json.dumps` escaping. Covered explicitly:
`"` and `\`, the short escapes `\n \r \t \b \f`, all other control characters and DEL and everything
non-ASCII as `\uXXXX`, characters above U+FFFF as UTF-16 surrogate pairs; printable ASCII verbatim. -/
theorem c11_key_roundtrip (s : Str) (rest : List Char) :
    parseJStr (jsonEscape s ++ '"' :: rest) = some (s, rest) :=
  parseJStr_jsonEscape s rest

/-- two different dictionary keys never share an escaped form (no two entries of a `djson` object collide or merge) -/
theorem c11_key_injective (s t : Str) (h : jsonEscape s = jsonEscape t) : s = t := by
  have hs := c11_key_roundtrip s []
  have ht := c11_key_roundtrip t []
  rw [h, ht] at hs
  simpa using hs.symm

example : jsonEscape ['a', '"', 'b', '\\', '\n', Char.ofNat 233, Char.ofNat 0x1D11E] =
    "a\\\"b\\\\\\n\\u00e9\\ud834\\udd1e".toList := by decide +kernel

/-- **C11 djson framing**: for every dictionary — any number of entries, arbitrary string keys (distinct, as
in a Python `dict`) — and every element codec satisfying `ElemLaw`, decoding the `djson` text gives back
the dictionary, entries in order. -/
theorem c11_djson {E} (encE : E → List Char) (parseE : List Char → Option (E × List Char))
    (law : ElemLaw encE parseE) (d : List (Str × E)) (hd : keysNodup d = true) :
    fromDjson parseE (toDjson encE d) = some d := by
  simp [fromDjson, parseObject_toDjson law d, dictOfPairs_nodup d hd]

/-- laws of the outside world used by `encode_element` / `decode_element` (hypotheses, validated
differentially): the JSON scalar printer/scanner round trips and never starts with `[` or white space;
type identifiers, extensions and base64 text need no JSON escaping; base64 and the element's state type
codec (at its default extension) round trip. -/
structure ElemEnvLaw {V B} (env : ElemEnv V B) : Prop where
  scalarHead : ∀ v, env.isScalar v = true → ∃ c cs, env.jsonDumps v = c :: cs ∧ isWs c = false ∧ c ≠ '['
  scalarParse : ∀ v rest, env.isScalar v = true → Delim rest →
    env.parseScalar (env.jsonDumps v ++ rest) = some (v, rest)
  tidPlain : ∀ v, plainStr (env.typeId v) = true
  extPlain : ∀ v, plainStr (env.ext v) = true
  b64Plain : ∀ b, plainStr (env.b64 b) = true
  b64Inv : ∀ b, env.unb64 (env.b64 b) = some b
  codec : ∀ v, env.isScalar v = false → env.decode (env.asBytes v) (env.typeId v) (env.ext v) = some v

/-- a quoted plain string padded to a column width, as the scanner sees it -/
theorem quotedField (n : Nat) (s : Str) (h : plainStr s = true) (t : List Char) :
    ∃ k t0, padRight n ('"' :: s ++ ['"']) ++ t = '"' :: t0 ∧ parseJStr t0 = some (s, List.replicate k ' ' ++ t) :=
  ⟨n - ('"' :: s ++ ['"']).length, s ++ '"' :: (List.replicate (n - ('"' :: s ++ ['"']).length) ' ' ++ t),
    by simp [padRight], parseJStr_plain s h _⟩

/-- a base64 triple as written by `encode_element` is read back as three strings -/
theorem parseTriple_tripleText (tid ext txt : Str) (h1 : plainStr tid = true) (h2 : plainStr ext = true)
    (h3 : plainStr txt = true) (rest : List Char) :
    ∃ t1, tripleText tid ext txt ++ rest = '[' :: t1 ∧ parseTriple t1 = some ((tid, ext, txt), rest) := by
  obtain ⟨k2, u2, e2, p2⟩ := quotedField 4 ext h2 (',' :: ' ' :: '"' :: (txt ++ '"' :: ']' :: rest))
  obtain ⟨k1, u1, e1, p1⟩ := quotedField 10 tid h1
    (',' :: ' ' :: (padRight 4 ('"' :: ext ++ ['"']) ++ (',' :: ' ' :: '"' :: (txt ++ '"' :: ']' :: rest))))
  simp only [List.cons_append] at e1 e2 p1 p2
  refine ⟨'"' :: u1, ?_, ?_⟩
  · simp only [tripleText, List.cons_append, List.nil_append, List.append_assoc]
    rw [e1]
  · -- `+decide` discharges the `isWs` side conditions of `skipWs_not_ws` / `skipWs_ws` on `"`, `,`, `]`, space
    simp +decide only [parseTriple, skipWs_not_ws, skipWs_ws, skipWs_replicate, p1, e2, p2,
      parseJStr_plain txt h3]

example : plainStr ['d', 'i', 'c', 't', 'i', 'o', 'n', 'a', 'r', 'y'] = true ∧ plainStr ['a', '"'] = false := by decide +kernel
example : ∃ t1, tripleText ['t'] ['e'] ['A', '='] ++ [','] = '[' :: t1 ∧ parseTriple t1 = some ((['t'], ['e'], ['A', '=']), [',']) :=
  parseTriple_tripleText _ _ _ (by decide) (by decide) (by decide) _

/-- **C11 djson elements**: `encode_element` / `decode_element` (scalars as JSON, everything else as a
`[type identifier, extension, base64]` triple handed to `decode_state_data`) satisfy the element law. -/
theorem c11_djson_elements {V B} (env : ElemEnv V B) (law : ElemEnvLaw env) :
    ElemLaw (encodeElement env) (parseElement env) := by
  constructor
  · intro v
    unfold encodeElement
    split
    · next hs =>
      obtain ⟨c, cs, h, hw, _⟩ := law.scalarHead v hs
      exact ⟨c, cs, h, hw⟩
    · exact ⟨'[', _, rfl, by decide⟩
  · intro v rest hrest
    unfold encodeElement
    split
    · next hs =>
      obtain ⟨c, cs, h, _, hne⟩ := law.scalarHead v hs
      have hp := law.scalarParse v rest hs hrest
      rw [h] at hp ⊢
      rw [List.cons_append] at hp ⊢
      unfold parseElement
      split
      · next t1 heq => exact absurd (List.cons.inj heq).1 hne
      · exact hp
    · next hs =>
      have hs' : env.isScalar v = false := by simpa using hs
      obtain ⟨t1, e1, hp⟩ := parseTriple_tripleText _ _ _ (law.tidPlain v) (law.extPlain v)
        (law.b64Plain (env.asBytes v)) rest
      rw [e1]
      simp [parseElement, hp, law.b64Inv, law.codec v hs']

/-- **C11 djson**, end to end: with the fixed key escaping, a dictionary with arbitrary string keys whose
members are scalars or arbitrary objects of registered state types survives `djson`. -/
theorem c11_djson_full {V B} (env : ElemEnv V B) (law : ElemEnvLaw env) (d : List (Str × V))
    (hd : keysNodup d = true) :
    fromDjson (parseElement env) (toDjson (encodeElement env) d) = some d :=
  c11_djson _ _ (c11_djson_elements env law) d hd

/-! non-vacuity: an environment with one scalar (`true` ↦ `1`) and one non-scalar value (`false`, stored as
a triple), satisfying every law -/
def demoEnv : ElemEnv Bool Unit :=
  { isScalar := fun v => v, jsonDumps := fun _ => ['1'],
    parseScalar := fun t => match t with | '1' :: r => some (true, r) | _ => none,
    typeId := fun _ => ['t'], ext := fun _ => ['e'], asBytes := fun _ => (),
    b64 := fun _ => ['A', 'A', '=', '='], unb64 := fun _ => some (), decode := fun _ _ _ => some false }

theorem demoEnv_law : ElemEnvLaw demoEnv where
  scalarHead := fun _ _ => ⟨'1', [], rfl, by decide, by decide⟩
  scalarParse := fun v rest hs _ => by
    have : v = true := hs
    subst this; rfl
  tidPlain := fun _ => by simp only [demoEnv]; decide
  extPlain := fun _ => by simp only [demoEnv]; decide
  b64Plain := fun _ => by simp only [demoEnv]; decide
  b64Inv := fun _ => rfl
  codec := fun v hs => by
    have : v = false := hs
    subst this; rfl

example : fromDjson (parseElement demoEnv)
    (toDjson (encodeElement demoEnv) [(['a', '"', 'b'], true), ([], false)]) =
    some [(['a', '"', 'b'], true), ([], false)] :=
  c11_djson_full demoEnv demoEnv_law _ (by decide)

-- the text the model produces for the D10 witness `{'a"b': 1}` (fixed code: the quote is escaped)
example : toDjson Scalar.dumps [(['a', '"', 'b'], Scalar.int false ['1'])] =
    "{\n\"a\\\"b\":             1\n}".toList := by decide +kernel

example : fromDjson Scalar.parse (toDjson Scalar.dumps [(['a', '"', 'b'], Scalar.int false ['1'])]) =
    some [(['a', '"', 'b'], Scalar.int false ['1'])] := by decide +kernel

theorem lookupO_setKey_self (d : List (Str × Obj)) (k : Str) (o : Obj) : lookupO k (setKey d k o) = some o := by
  rw [setKey, lookupO, if_pos rfl]

theorem lookupO_filter_ne (d : List (Str × Obj)) (k k' : Str) (h : k' ≠ k) :
    lookupO k' (d.filter (fun e => e.1 ≠ k)) = lookupO k' d := by
  induction d with
  | nil => rfl
  | cons e rest ih =>
    obtain ⟨a, b⟩ := e
    rw [List.filter_cons]
    by_cases hak : a = k
    · rw [if_neg (by simpa using hak), ih, lookupO, if_neg (fun h' => h (h'.symm.trans hak))]
    · rw [if_pos (by simpa using hak), lookupO, lookupO, ih]

theorem lookupO_setKey_other (d : List (Str × Obj)) (k k' : Str) (o : Obj) (h : k' ≠ k) :
    lookupO k' (setKey d k o) = lookupO k' d := by
  rw [setKey, lookupO, if_neg (Ne.symm h), lookupO_filter_ne d k k' h]

/-- **the most recent registration is consistent**: right after `register(T, o)` the qualified type name selects `o` (what
`encode_state_data` uses and whose identifier it records) and that identifier selects `o` again (what `decode_state_data`
uses) — also when `T`, or the identifier, was registered before with another object -/
theorem c11_register_selects (d : List (Str × Obj)) (qual : Str) (o : Obj) :
    lookupO o.ident (register d qual o) = some o ∧
    (qual ≠ o.ident → lookupO qual (register d qual o) = some o) := by
  refine ⟨lookupO_setKey_self _ _ _, fun h => ?_⟩
  unfold register
  rw [lookupO_setKey_other _ _ _ _ h, lookupO_setKey_self]

/-- a registration changes nothing but its own two keys -/
theorem c11_register_frame (d : List (Str × Obj)) (qual : Str) (o : Obj) (k : Str) (h1 : k ≠ qual) (h2 : k ≠ o.ident) :
    lookupO k (register d qual o) = lookupO k d := by
  unfold register
  rw [lookupO_setKey_other _ _ _ _ h2, lookupO_setKey_other _ _ _ _ h1]

/-- … hence after ANY history of registrations the last call is consistent -/
theorem c11_register_history (d : List (Str × Obj)) (calls : List (Str × Obj)) (qual : Str) (o : Obj) (h : qual ≠ o.ident) :
    lookupO qual (registerAll d (calls ++ [(qual, o)])) = some o ∧
    lookupO o.ident (registerAll d (calls ++ [(qual, o)])) = some o := by
  unfold registerAll
  rw [List.foldl_append]
  simp only [List.foldl_cons, List.foldl_nil]
  exact ⟨(c11_register_selects _ qual o).2 h, (c11_register_selects _ qual o).1⟩

-- non-vacuity: `Grid` registered with a JSON state type, then re-registered with a pickle one carrying the same identifier
example :
    let a : Obj := { name := "GridJson".toList, ident := "grid".toList }
    let b : Obj := { name := "GridPickle".toList, ident := "grid".toList }
    let d := registerAll [] [("m.Grid".toList, a), ("m.Grid".toList, b)]
    lookupO "m.Grid".toList d = some b ∧ lookupO "grid".toList d = some b := by decide +kernel

end Liquer.C11

-- OBLIGATIONS: Liquer.C11.c11_dispatch Liquer.C11.c11_mime Liquer.C11.c11_roundtrip_generic Liquer.C11.c11_roundtrip Liquer.C11.c11_copy_dispatch Liquer.C11.c11_text_codec_law Liquer.C11.c11_bytes_codec_law Liquer.C11.c11_text_decode_exact Liquer.C11.c11_own_roundtrip Liquer.C11.c11_own_copy Liquer.C11.c11_key_roundtrip Liquer.C11.c11_djson Liquer.C11.c11_djson_elements Liquer.C11.c11_djson_full Liquer.C11.c11_register_selects Liquer.C11.c11_register_frame Liquer.C11.c11_register_history Liquer.C11.c11_key_injective
