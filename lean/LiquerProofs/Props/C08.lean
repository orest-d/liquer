/-
C08 — Recipes materialise on demand, once, as the serialised query result.

Model: `LiquerModel/Recipes.lean` (`Liquer.Rcp`): `RecipeSpecStore` as a layer over a sub-store model `S`, mounted at
`cfg.root`; the evaluator is the parameter `E.evalQ text ext` (serialised result of evaluating the resolved query text
directly, `none` = fails); `st.log` lists the keys whose query was evaluated, most recent first (the evaluation counter
is its length).  Modelled code = `/repo` including `05b1f96` (the format of a stored result is that of the key's
extension) and `1ba1733` (an error state without status makes the recipe fail).

The `MemoryStore` (`memOps`) and the `FileStore` (`fileOps root`, names `*_file`) theorems are one argument, made over any
sub-store that provides `Rcp.AtKey` (Lemmas/Recipes.lean) at the key: `first_read_core`, `failure_core`,
`remove_resets_at`, used at the instances `memAt` and `fileAt`; what each store adds is how it reports the entry `make` leaves.
-/
import LiquerProofs.Lemmas.RecipesMem
import LiquerProofs.Lemmas.RecipesFile
import LiquerProofs.Props.C19
import LiquerModel.StoreFile

namespace Liquer.C08
open Liquer Liquer.Rcp

-- for the `decide` of the examples below
deriving instance DecidableEq for Except

theorem lookup_mem {cfg : Cfg} {k : Key} {r : Recipe} (h : cfg.lookup k = some r) : (k, r) ∈ cfg.recipes :=
  AL.mem_of_get h

/-- **Declared keys are listed and reported present, with status `recipe`, `has_recipe` and the declared title and
description, before they exist** (the sub-store has nothing under the key; `hnd`: the key is not also a directory of
other recipes). -/
theorem c08_declared_visible {σ : Type} (S : StoreOps σ) (cfg : Cfg) (st : RState σ) (k : Key) (r : Recipe)
    (hl : cfg.lookup k = some r) (hnd : recipeDir cfg.recipes k = false)
    (hc : S.contains st.sub k = .ok false) (hd : S.isDir st.sub k = .ok false)
    (hm : S.getMeta st.sub k = .error .keyNotFound) :
    contains S cfg st k = .ok true ∧ isDir S cfg st k = .ok false ∧
    getMeta S cfg st k = .ok { isDir := false, rm := { status := .recipe, title := r.title, descr := r.descr, hasRecipe := true } } ∧
    (∀ ks, S.keys st.sub = .ok ks → ∃ l, keys S cfg st = .ok l ∧ k ∈ l) ∧
    (k ≠ [] → ∀ l0, S.listdir st.sub (parentKey k) = .ok l0 →
      ∃ l, listdir S cfg st (parentKey k) = .ok l ∧ keyName k ∈ l) := by
  have hmem := lookup_mem hl
  have hdir : isDir S cfg st k = .ok false := hnd ▸ isDir_of_sub S cfg hd
  refine ⟨?_, hdir, ?_, fun ks hk => ⟨_, by simp only [keys, hk]; rfl, ?_⟩, fun hk l0 hl0 => ⟨_, by simp only [listdir, hl0]; rfl, ?_⟩⟩
  · simp only [contains, hc]
    exact congrArg _ (List.any_eq_true.mpr ⟨(k, r), hmem, by simp⟩)
  · simp only [getMeta, hm, hdir, hl, recipeMeta]
    rfl
  · rw [List.mem_eraseDups, List.mem_append]
    exact Or.inr (List.mem_map.mpr ⟨(k, r), hmem, rfl⟩)
  · rw [List.mem_eraseDups, List.mem_append]
    refine Or.inr (List.mem_filterMap.mpr ⟨(k, r), hmem, ?_⟩)
    -- `k = p ++ [n]`: `p` is a proper prefix, and the component of `k` at depth `len(p)` is `n`
    obtain ⟨p, n, rfl⟩ : ∃ p n, k = p ++ [n] := ⟨_, _, key_eq_parent_name hk⟩
    have hpp : properPrefix p (p ++ [n]) = true := by simp [properPrefix]
    rw [parentKey, List.dropLast_concat, keyName_concat]
    simp only [hpp, if_true, List.getElem?_concat_length]

/-- where the declared title and description come from: the dictionary form declares them (file name and
`Generated from query: …` by default), the plain form declares none -/
theorem c08_declared_fields (E : Env) (dir rk : Key) (sec : Str) (i : Nat) (it : Item) (r : Recipe)
    (h : resolve E dir rk sec i it = some r) :
    (it.isDict = true → r.title = some (it.title.getD r.filename) ∧ r.descr = some (it.descr.getD (generatedFrom ++ it.query))) ∧
    (it.isDict = false → r.title = none ∧ r.descr = none) ∧ r.version = it.version ∧ r.cwd = dir := by
  unfold resolve at h
  cases hq : resolveQuery E dir it.query with
  | none => simp [hq] at h
  | some q =>
    simp only [hq] at h
    generalize (if it.isDict = true then (match it.filename with | some f => some f | none => queryFilename q) else queryFilename q) = fn at h
    cases fn with
    | none => cases h
    | some f =>
      simp only [Option.some.injEq] at h
      subst h
      cases it.isDict <;> simp

/-- the first read, given how the evaluation phase ended (`hp`: in the state `p`, with the bytes `d`); `c08_first_read`,
`c08_first_read_dep` and their `_file` versions supply `hp` for each shape of query -/
theorem first_read_core {σ : Type} {S : StoreOps σ} {cfg : Cfg} {k : Key} (V : AtKey S cfg k) (E : Env) (n : Nat)
    {st p : RState σ} {r : Recipe} {d : Data} (hl : cfg.lookup k = some r) (hc : S.contains st.sub k = .ok false)
    (hp : evalPhase S cfg E (getBytesF S cfg E n) st r k = (p, .ok d)) (hw : V.W p.sub) :
    ∃ st', getBytesF S cfg E (n + 1) st k = (st', .ok d) ∧ st'.log = p.log ∧
      V.Ent st'.sub (some d) { user := encRM (readyMeta r), size := some d.length, md5 := some d } ∧
      (∃ o, getMeta S cfg st' k = .ok o ∧ o.rm = readyMeta r) ∧
      ∀ m, getBytesF S cfg E (m + 1) st' k = (st', .ok d) := by
  obtain ⟨f1, f2⟩ := V.finish_ok p r d hw
  refine ⟨_, ?_, finish_log S cfg p k r (.ok d), f2, V.getMeta_rm f2, V.getBytesF_data E f2⟩
  rw [getBytesF_absent S cfg E n hl hc hp, afterMake_none S k f1, (V.getBytes_data f2).2]

/-- **First read** of a declared key that is not in the store, query without a resource reference: `evalQ` is applied to
the resolved query text (extension = that of the key), the evaluation counter grows by exactly one, the bytes read are
that result, they are what the store holds afterwards, the status is `ready` and the recipe's name and version are recorded. -/
theorem c08_first_read (cfg : Cfg) (E : Env) (st : RState MemState) (k : Key) (r : Recipe) (q : Query) (d : Data)
    (hl : cfg.lookup k = some r) (hsf : keyName k ≠ statusFile) (habs : Mem.contains st.sub k = false)
    (hp : E.prs r.query = some q) (hq : ∀ h names rest, q.segments ≠ .resource h names :: rest)
    (hev : E.evalQ r.query (storeExt k q) = some d) :
    (getBytes memOps cfg E st k).2 = .ok d ∧
    (getBytes memOps cfg E st k).1.log = k :: st.log ∧
    (∃ o, getMeta memOps cfg (getBytes memOps cfg E st k).1 k = .ok o ∧ o.rm.status = .ready ∧ o.rm.hasRecipe = true ∧
      o.rm.depName = some r.name ∧ o.rm.depVersion = some r.version ∧
      o.rm.title = r.title.or (some []) ∧ o.rm.descr = r.descr.or (some [])) ∧
    getBytes memOps cfg E (getBytes memOps cfg E st k).1 k = ((getBytes memOps cfg E st k).1, .ok d) := by
  have he := evalPhase_plain memOps cfg E (getBytesF memOps cfg E (cfg.recipes.length + 1)) st k hp hq
  rw [hev] at he
  obtain ⟨st', e, hlog, _, ⟨o, c1, c2⟩, hre⟩ :=
    first_read_core (memAt cfg (mem_absent_ne_nil habs) hsf) E _ hl (congrArg _ habs) he trivial
  rw [getBytes_fuel, e]
  exact ⟨rfl, hlog, ⟨o, c1, by rw [c2]; exact ⟨rfl, rfl, rfl, rfl, rfl, rfl⟩⟩, hre _⟩

/-- **First read**, query that transforms another key: the same, after the referenced key has been read (which may
evaluate that recipe first): exactly one evaluation of this recipe's own query on top of what that read logged. -/
theorem c08_first_read_dep (cfg : Cfg) (E : Env) (st : RState MemState) (k : Key) (r : Recipe) (q : Query) (d : Data)
    (h : Option Header) (names : List Str) (t : Seg) (rest : List Seg)
    (hl : cfg.lookup k = some r) (hsf : keyName k ≠ statusFile) (habs : Mem.contains st.sub k = false)
    (hp : E.prs r.query = some q) (hq : q.segments = .resource h names :: t :: rest)
    (o : RObs) (hm : metaRoot memOps cfg st names = .ok o)
    (hev : E.evalQ r.query (storeExt k q) = some d) :
    (getBytes memOps cfg E st k).2 = .ok d ∧
    (getBytes memOps cfg E st k).1.log =
      k :: (bytesRoot cfg (getBytesF memOps cfg E (cfg.recipes.length + 1)) st names).1.log ∧
    (∃ o, getMeta memOps cfg (getBytes memOps cfg E st k).1 k = .ok o ∧ o.rm = readyMeta r) ∧
    getBytes memOps cfg E (getBytes memOps cfg E st k).1 k = ((getBytes memOps cfg E st k).1, .ok d) := by
  have he := evalPhase_dep memOps cfg E (getBytesF memOps cfg E (cfg.recipes.length + 1)) st k hp hq hm
  rw [hev] at he
  obtain ⟨st', e, hlog, _, c, hre⟩ :=
    first_read_core (memAt cfg (mem_absent_ne_nil habs) hsf) E _ hl (congrArg _ habs) he trivial
  rw [getBytes_fuel, e]
  exact ⟨rfl, hlog, c, hre _⟩

theorem c08_no_reevaluation_step {σ : Type} (S : StoreOps σ) (cfg : Cfg) (E : Env) (st : RState σ) (op : ROp)
    (h : (step S cfg E st op).log ≠ st.log) :
    ∃ k r, op = .getBytes k ∧ S.contains st.sub k = .ok false ∧ cfg.lookup k = some r := by
  cases ht : triggers S cfg st op with
  | true => exact of_triggers S cfg ht
  | false => exact absurd (step_quiet S cfg E st op ht) h

/-- **No re-evaluation, all histories** (read / metadata / contains / is_dir / keys / listdir / remove / clean / re-read,
any length, any sub-store): the evaluation log never shrinks, and if it grew over the history then some step of the
history was a `get_bytes` of a declared key which the sub-store did not contain at that moment. -/
theorem c08_no_reevaluation {σ : Type} (S : StoreOps σ) (cfg : Cfg) (E : Env) (st : RState σ) (h : List ROp) :
    st.log <:+ (run S cfg E st h).log ∧
    ((run S cfg E st h).log ≠ st.log →
      ∃ pre k post r, h = pre ++ ROp.getBytes k :: post ∧ S.contains (run S cfg E st pre).sub k = .ok false ∧ cfg.lookup k = some r) := by
  refine ⟨run_log_suffix S cfg E h st, fun hg => ?_⟩
  obtain ⟨pre, op, post, e, t⟩ := run_grew S cfg E h st hg
  obtain ⟨k, r, rfl, hc, hk⟩ := of_triggers S cfg t
  exact ⟨pre, k, post, r, e, hc, hk⟩

theorem c08_no_reevaluation_quiet {σ : Type} (S : StoreOps σ) (cfg : Cfg) (E : Env) (st : RState σ) (h : List ROp)
    (hq : quiet S cfg E st h) : (run S cfg E st h).log.length = st.log.length := by
  rw [run_quiet S cfg E h st hq]

theorem remove_resets_at {σ : Type} {S : StoreOps σ} {cfg : Cfg} {k : Key} (V : AtKey S cfg k) (st : RState σ) {r : Recipe}
    (hl : cfg.lookup k = some r) (hnd : recipeDir cfg.recipes k = false) (hw : V.W st.sub) :
    ∃ st', remove S cfg st k = .ok st' ∧ st'.log = st.log ∧ V.Gone st'.sub ∧ contains S cfg st' k = .ok true ∧
      getMeta S cfg st' k = .ok { isDir := false, rm := { status := .recipe, title := r.title, descr := r.descr, hasRecipe := true } } ∧
      triggers S cfg st' (.getBytes k) = true := by
  obtain ⟨s1, hs1, g1⟩ := V.remove_ok hw
  have hr : remove S cfg st k = .ok (createStatus S cfg { st with sub := s1 } k) := by simp only [remove, hs1]
  have g := V.status_gone (st := { st with sub := s1 }) g1 hnd
  obtain ⟨hc, hd, hm⟩ := V.gone_reads g
  obtain ⟨v1, _, v3, _, _⟩ := c08_declared_visible S cfg _ k r hl hnd hc hd hm
  exact ⟨_, hr, remove_log S cfg hr, g, v1, v3, by simp only [triggers, hc, hl, Option.isSome_some]⟩

/-- **Remove resets**: after `remove k` of a declared key (in whatever state it was: ready, error, never made) the
sub-store does not contain it, it is still reported present, its metadata is the recipe's again (status `recipe`,
declared title / description, no recorded evaluation), nothing was evaluated, and the next read evaluates it again. -/
theorem c08_remove_resets (cfg : Cfg) (st : RState MemState) (k : Key) (r : Recipe)
    (hl : cfg.lookup k = some r) (hk : k ≠ []) (hsf : keyName k ≠ statusFile) (hnd : recipeDir cfg.recipes k = false) :
    ∃ st', remove memOps cfg st k = .ok st' ∧ st'.log = st.log ∧
      Mem.contains st'.sub k = false ∧ contains memOps cfg st' k = .ok true ∧
      getMeta memOps cfg st' k = .ok { isDir := false, rm := { status := .recipe, title := r.title, descr := r.descr, hasRecipe := true } } ∧
      triggers memOps cfg st' (.getBytes k) = true :=
  remove_resets_at (memAt cfg hk hsf) st hl hnd trivial

/-- … with an error state, `p` holding no data under the key -/
theorem failure_core {σ : Type} {S : StoreOps σ} {cfg : Cfg} {k : Key} (V : AtKey S cfg k) (E : Env) (n : Nat)
    {st p : RState σ} {r : Recipe} {bare : Bool} (hl : cfg.lookup k = some r) (hc : S.contains st.sub k = .ok false)
    (hd : V.dirOK) (hp : evalPhase S cfg E (getBytesF S cfg E n) st r k = (p, .failed bare))
    (hw : V.W p.sub) (hn : V.NoData p.sub) :
    ∃ st', getBytesF S cfg E (n + 1) st k = (st', .error .keyNotFound) ∧ st'.log = p.log ∧
      V.Ent st'.sub none { user := encRM (failedMeta r bare), size := none, md5 := none } ∧
      ∃ o, getMeta S cfg st' k = .ok o ∧ o.rm = failedMeta r bare := by
  obtain ⟨f1, f2⟩ := V.finish_failed p bare hl hd hw hn
  refine ⟨_, ?_, finish_log S cfg p k r (.failed bare), f2, V.getMeta_rm f2⟩
  rw [getBytesF_absent S cfg E n hl hc hp, afterMake_none S k f1, V.getBytes_none f2]

/-- **Failure**: a declared key whose query fails when evaluated (`evalQ = none`: a command raises, is unknown, or the
result cannot be serialised for the key's extension): the read raises `KeyNotFound`, there is no data under the key, the
metadata has status `error` (with `has_recipe`, the recipe's name and version, the declared title/description), the
query was evaluated exactly once — and over a `MemoryStore` a later read does NOT try again (the metadata-only entry
makes `substore.contains` true): it fails the same way and evaluates nothing. -/
theorem c08_failure (cfg : Cfg) (E : Env) (st : RState MemState) (k : Key) (r : Recipe) (q : Query)
    (hl : cfg.lookup k = some r) (hsf : keyName k ≠ statusFile) (habs : Mem.contains st.sub k = false)
    (hp : E.prs r.query = some q) (hq : ∀ h names rest, q.segments ≠ .resource h names :: rest)
    (hev : E.evalQ r.query (storeExt k q) = none) :
    (getBytes memOps cfg E st k).2 = .error .keyNotFound ∧
    (getBytes memOps cfg E st k).1.log = k :: st.log ∧
    alGet (getBytes memOps cfg E st k).1.sub.data k = none ∧
    (∃ o, getMeta memOps cfg (getBytes memOps cfg E st k).1 k = .ok o ∧ o.rm.status = .error ∧ o.rm.hasRecipe = true ∧
      o.rm.depName = some r.name ∧ o.rm.depVersion = some r.version ∧ o.rm.title = r.title.or (some [])) ∧
    getBytes memOps cfg E (getBytes memOps cfg E st k).1 k = ((getBytes memOps cfg E st k).1, .error .keyNotFound) := by
  have he := evalPhase_plain memOps cfg E (getBytesF memOps cfg E (cfg.recipes.length + 1)) st k hp hq
  rw [hev] at he
  obtain ⟨st', e, hlog, hent, o, d1, d2⟩ := failure_core (memAt cfg (mem_absent_ne_nil habs) hsf) E _ hl (congrArg _ habs)
    trivial he trivial (mem_absent.mp habs).2.1
  rw [getBytes_fuel, e]
  exact ⟨rfl, hlog, hent.1, ⟨o, d1, by rw [d2]; exact ⟨rfl, rfl, rfl, rfl, rfl⟩⟩,
    getBytesF_mem_metaonly cfg E _ st' k _ hent.2 hent.1⟩

/-- **Failure** of a recipe that refers to a key without metadata (nobody declares it, nothing is stored there): nothing
is evaluated at all, and the outcome is the same error state. -/
theorem c08_failure_missing_dependency (cfg : Cfg) (E : Env) (st : RState MemState) (k : Key) (r : Recipe) (q : Query)
    (h : Option Header) (names : List Str) (rest : List Seg)
    (hl : cfg.lookup k = some r) (hsf : keyName k ≠ statusFile) (habs : Mem.contains st.sub k = false)
    (hp : E.prs r.query = some q) (hq : q.segments = .resource h names :: rest)
    (e : StoreErr) (hm : metaRoot memOps cfg st names = .error e) :
    (getBytes memOps cfg E st k).2 = .error .keyNotFound ∧
    (getBytes memOps cfg E st k).1.log = st.log ∧
    alGet (getBytes memOps cfg E st k).1.sub.data k = none ∧
    (∃ o, getMeta memOps cfg (getBytes memOps cfg E st k).1 k = .ok o ∧ o.rm.status = .error ∧ o.rm.hasRecipe = true ∧
      o.rm.depName = some r.name ∧ o.rm.depVersion = some r.version) := by
  have he := evalPhase_missing memOps cfg E (getBytesF memOps cfg E (cfg.recipes.length + 1)) st k hp hq hm
  obtain ⟨st', e, hlog, hent, o, d1, d2⟩ := failure_core (memAt cfg (mem_absent_ne_nil habs) hsf) E _ hl (congrArg _ habs)
    trivial he trivial (mem_absent.mp habs).2.1
  rw [getBytes_fuel, e]
  exact ⟨rfl, hlog, hent.1, ⟨o, d1, by rw [d2]; exact ⟨rfl, rfl, rfl, rfl⟩⟩⟩

/-- the resolved query of a recipe is the parsed text made absolute against the root key of the recipe's directory -/
theorem c08_relative (E : Env) (dir rk : Key) (sec : Str) (i : Nat) (it : Item) (r : Recipe)
    (h : resolve E dir rk sec i it = some r) :
    ∃ q q', E.prs it.query = some q ∧ q.toAbsolute dir (some []) = some q' ∧ r.query = E.enc q' := by
  unfold resolve resolveQuery at h
  cases hp : E.prs it.query with
  | none => simp [hp] at h
  | some q =>
    cases ha : q.toAbsolute dir (some []) with
    | none => simp [hp, ha] at h
    | some q' =>
      simp only [hp, ha] at h
      split at h
      · cases h
      · cases h
        exact ⟨q, q', rfl, ha, rfl⟩

/-- … and for the generated shape `[resource path, transformation]` (`./x` or `-R/../y/z`, then `-`, then actions): the path is replaced by
C19's POSIX normalisation — of `dir ++ path` when the path starts with `.` or `..`, of the path alone otherwise — the
header and the transformation are untouched; a path climbing above the root does not resolve. -/
theorem c08_relative_posix (dir : Key) (hd : plainPath dir = true) (h : Option Header) (hn : h.map Header.name = some [] ∨ h = none)
    (p : List Str) (hp : p ≠ []) (t : Option Header) (a : List Action) (f : Option Str) (abs : Bool) :
    (Query.mk [.resource h p, .transform t a f] abs).toAbsolute dir (some []) =
      (if startsRelative p then posixNorm (dir ++ p) else posixNorm p).map
        (fun p' => Query.mk [.resource h p', .transform t a f] abs) := by
  have hsel : segSelected (some []) (Seg.resource h p).segmentName = true := by
    rcases hn with hn | rfl
    · obtain ⟨hh, rfl, e⟩ := Option.map_eq_some_iff.mp hn
      simp only [segSelected, Seg.segmentName, e, beq_self_eq_true]
    · rfl
  have hne : p.isEmpty = false := by simpa using hp
  rw [← C19.toAbsolute_eq_posix dir p hd]
  simp only [Query.toAbsolute, mapOpt, Seg.toAbsolute, hsel, hne, Bool.not_false, Bool.and_self, ↓reduceIte]
  cases toAbs dir p <;> rfl

/-! Over the `FileStore` model the theorems need, of the sub-store state and for the one key `k`: `PlainKey k` (no empty /
`.` / `..` / `__metadata__` component), `fileWritable root s k` (no regular file on the way to
`<dir>/__metadata__/<name>.json`, which is not a directory itself) and that `k` is not a directory.  All are decidable and
hold in the state a fresh recipe store leaves (`Ex.f0`); each theorem restates `fileWritable` for the state it leaves (that
`k` is no directory there follows from what it says about `File.getBytes` resp. `File.contains`).  The one behavioural
difference: a failed recipe leaves a metadata file and NO data file, so `substore.contains` stays false and the next read
evaluates the recipe again; and, because `create_status` of a key that is a directory of recipes would create that
directory, the failure and remove theorems need `recipeDir cfg.recipes k = false` (the `MemoryStore` theorems need it for
`remove` only). -/

section file
variable (root : Path)

/-- `first_read_core` at `fileAt`, and what the `FileStore` then reports -/
theorem first_read_core_file (cfg : Cfg) (E : Env) (n : Nat) {st p : RState PFS} {k : Key} {r : Recipe} {d : Data}
    (hl : cfg.lookup k = some r) (hpk : PlainKey k) (hsf : keyName k ≠ statusFile)
    (habs : File.contains root st.sub k = .ok false)
    (hp : evalPhase (fileOps root) cfg E (getBytesF (fileOps root) cfg E n) st r k = (p, .ok d))
    (hw : fileWritable root p.sub k = true) (hnd : File.isDir root p.sub k = .ok false) :
    ∃ st', getBytesF (fileOps root) cfg E (n + 1) st k = (st', .ok d) ∧ st'.log = p.log ∧
      (∃ o, getMeta (fileOps root) cfg st' k = .ok o ∧ o.rm = readyMeta r) ∧
      File.getBytes root st'.sub k = .ok d ∧ fileWritable root st'.sub k = true ∧
      ∀ m, getBytesF (fileOps root) cfg E (m + 1) st' k = (st', .ok d) := by
  have hk0 := (File.absent_of_contains hpk habs).1
  obtain ⟨st', e, hlog, hent, c, hre⟩ :=
    first_read_core (fileAt root cfg hpk hk0 hsf) E n hl habs hp ⟨hw, File.not_dir_of_isDir hpk hk0 hnd⟩
  exact ⟨st', e, hlog, c, File.getBytes_dfile _ hpk hent.1, ((fileAt root cfg hpk hk0 hsf).ent_w hent).1, hre⟩

/-- **First read over a `FileStore`**, query without a resource reference: as `c08_first_read`; in addition the
sub-store's own `get_bytes` returns the result (the data file holds it). -/
theorem c08_first_read_file (cfg : Cfg) (E : Env) (st : RState PFS) (k : Key) (r : Recipe) (q : Query) (d : Data)
    (hl : cfg.lookup k = some r) (hpk : PlainKey k) (hsf : keyName k ≠ statusFile)
    (habs : File.contains root st.sub k = .ok false) (hw : fileWritable root st.sub k = true)
    (hp : E.prs r.query = some q) (hq : ∀ h names rest, q.segments ≠ .resource h names :: rest)
    (hev : E.evalQ r.query (storeExt k q) = some d) :
    (getBytes (fileOps root) cfg E st k).2 = .ok d ∧
    (getBytes (fileOps root) cfg E st k).1.log = k :: st.log ∧
    (∃ o, getMeta (fileOps root) cfg (getBytes (fileOps root) cfg E st k).1 k = .ok o ∧ o.rm.status = .ready ∧
      o.rm.hasRecipe = true ∧ o.rm.depName = some r.name ∧ o.rm.depVersion = some r.version ∧
      o.rm.title = r.title.or (some []) ∧ o.rm.descr = r.descr.or (some [])) ∧
    File.getBytes root (getBytes (fileOps root) cfg E st k).1.sub k = .ok d ∧
    fileWritable root (getBytes (fileOps root) cfg E st k).1.sub k = true ∧
    getBytes (fileOps root) cfg E (getBytes (fileOps root) cfg E st k).1 k = ((getBytes (fileOps root) cfg E st k).1, .ok d) := by
  obtain ⟨hk0, hnone⟩ := File.absent_of_contains hpk habs
  have he := evalPhase_plain (fileOps root) cfg E (getBytesF (fileOps root) cfg E (cfg.recipes.length + 1)) st k hp hq
  rw [hev] at he
  obtain ⟨st', e, hlog, ⟨o, c1, c2⟩, g, w, hre⟩ := first_read_core_file root cfg E _ hl hpk hsf habs he hw
    (File.reads_none _ hpk hk0 hnone).2
  rw [getBytes_fuel, e]
  exact ⟨rfl, hlog, ⟨o, c1, by rw [c2]; exact ⟨rfl, rfl, rfl, rfl, rfl, rfl⟩⟩, g, w, hre _⟩

/-- **First read over a `FileStore`**, query that transforms another key: as `c08_first_read_dep`.  Reading the referenced
key may materialise other recipes, so the two conditions on the sub-store are about the state that read leaves. -/
theorem c08_first_read_dep_file (cfg : Cfg) (E : Env) (st : RState PFS) (k : Key) (r : Recipe) (q : Query) (d : Data)
    (h : Option Header) (names : List Str) (t : Seg) (rest : List Seg)
    (hl : cfg.lookup k = some r) (hpk : PlainKey k) (hsf : keyName k ≠ statusFile)
    (habs : File.contains root st.sub k = .ok false)
    (hp : E.prs r.query = some q) (hq : q.segments = .resource h names :: t :: rest)
    (o : RObs) (hm : metaRoot (fileOps root) cfg st names = .ok o)
    (hw : fileWritable root (bytesRoot cfg (getBytesF (fileOps root) cfg E (cfg.recipes.length + 1)) st names).1.sub k = true)
    (hnd : File.isDir root (bytesRoot cfg (getBytesF (fileOps root) cfg E (cfg.recipes.length + 1)) st names).1.sub k = .ok false)
    (hev : E.evalQ r.query (storeExt k q) = some d) :
    (getBytes (fileOps root) cfg E st k).2 = .ok d ∧
    (getBytes (fileOps root) cfg E st k).1.log =
      k :: (bytesRoot cfg (getBytesF (fileOps root) cfg E (cfg.recipes.length + 1)) st names).1.log ∧
    (∃ o, getMeta (fileOps root) cfg (getBytes (fileOps root) cfg E st k).1 k = .ok o ∧ o.rm = readyMeta r) ∧
    File.getBytes root (getBytes (fileOps root) cfg E st k).1.sub k = .ok d ∧
    fileWritable root (getBytes (fileOps root) cfg E st k).1.sub k = true ∧
    getBytes (fileOps root) cfg E (getBytes (fileOps root) cfg E st k).1 k = ((getBytes (fileOps root) cfg E st k).1, .ok d) := by
  have he := evalPhase_dep (fileOps root) cfg E (getBytesF (fileOps root) cfg E (cfg.recipes.length + 1)) st k hp hq hm
  rw [hev] at he
  obtain ⟨st', e, hlog, c, g, w, hre⟩ := first_read_core_file root cfg E _ hl hpk hsf habs he hw hnd
  rw [getBytes_fuel, e]
  exact ⟨rfl, hlog, c, g, w, hre _⟩

/-- **Remove resets, over a `FileStore`**: as `c08_remove_resets` (data file and metadata file are unlinked, whichever
exist), for a key that can be written and is not a directory; the key can still be written afterwards. -/
theorem c08_remove_resets_file (cfg : Cfg) (st : RState PFS) (k : Key) (r : Recipe)
    (hl : cfg.lookup k = some r) (hpk : PlainKey k) (hk : k ≠ []) (hsf : keyName k ≠ statusFile)
    (hnd : recipeDir cfg.recipes k = false)
    (hw : fileWritable root st.sub k = true) (hdir : File.isDir root st.sub k = .ok false) :
    ∃ st', remove (fileOps root) cfg st k = .ok st' ∧ st'.log = st.log ∧
      File.contains root st'.sub k = .ok false ∧ contains (fileOps root) cfg st' k = .ok true ∧
      getMeta (fileOps root) cfg st' k = .ok { isDir := false, rm := { status := .recipe, title := r.title, descr := r.descr, hasRecipe := true } } ∧
      triggers (fileOps root) cfg st' (.getBytes k) = true ∧ fileWritable root st'.sub k = true := by
  obtain ⟨st', h1, h2, g, v1, v3, t⟩ := remove_resets_at (fileAt root cfg hpk hk hsf) st hl hnd
    ⟨hw, File.not_dir_of_isDir hpk hk hdir⟩
  exact ⟨st', h1, h2, ((fileAt root cfg hpk hk hsf).gone_reads g).1, v1, v3, t, ((fileAt root cfg hpk hk hsf).gone_w g).1⟩

/-- `failure_core` at `fileAt`: no data file, so the sub-store still does not contain the key and the next read triggers again -/
theorem failure_core_file (cfg : Cfg) (E : Env) (n : Nat) {st p : RState PFS} {k : Key} {r : Recipe} {bare : Bool}
    (hl : cfg.lookup k = some r) (hpk : PlainKey k) (hsf : keyName k ≠ statusFile) (hrd : recipeDir cfg.recipes k = false)
    (habs : File.contains root st.sub k = .ok false)
    (hp : evalPhase (fileOps root) cfg E (getBytesF (fileOps root) cfg E n) st r k = (p, .failed bare))
    (hnone : File.contains root p.sub k = .ok false) (hw : fileWritable root p.sub k = true) :
    ∃ st', getBytesF (fileOps root) cfg E (n + 1) st k = (st', .error .keyNotFound) ∧ st'.log = p.log ∧
      File.contains root st'.sub k = .ok false ∧ File.getBytes root st'.sub k = .error .keyNotFound ∧
      (∃ o, getMeta (fileOps root) cfg st' k = .ok o ∧ o.rm = failedMeta r bare) ∧
      fileWritable root st'.sub k = true ∧ triggers (fileOps root) cfg st' (.getBytes k) = true := by
  obtain ⟨hk0, hn⟩ := File.absent_of_contains hpk hnone
  obtain ⟨st', e, hlog, hent, c⟩ :=
    failure_core (fileAt root cfg hpk hk0 hsf) E n hl habs hrd hp ⟨hw, by rw [hn]; nofun⟩ hn
  have hc : (fileOps root).contains st'.sub k = .ok false := (File.reads_none _ hpk hk0 hent.1).1
  exact ⟨st', e, hlog, hc, File.getBytes_none _ hpk hent.1, c, ((fileAt root cfg hpk hk0 hsf).ent_w hent).1,
    by simp only [triggers, hc, hl, Option.isSome_some]⟩

/-- **Failure over a `FileStore`**: a declared key whose query fails when evaluated: the read raises `KeyNotFound`, there
is no data file (`contains` is false, `get_bytes` of the sub-store raises `KeyNotFound`), the metadata file has status
`error` (with `has_recipe`, the recipe's name and version, the declared title), the query was evaluated exactly once —
and, unlike over a `MemoryStore`, a later read DOES try again: it evaluates the query once more and fails the same way. -/
theorem c08_failure_file (cfg : Cfg) (E : Env) (st : RState PFS) (k : Key) (r : Recipe) (q : Query)
    (hl : cfg.lookup k = some r) (hpk : PlainKey k) (hsf : keyName k ≠ statusFile) (hrd : recipeDir cfg.recipes k = false)
    (habs : File.contains root st.sub k = .ok false) (hw : fileWritable root st.sub k = true)
    (hp : E.prs r.query = some q) (hq : ∀ h names rest, q.segments ≠ .resource h names :: rest)
    (hev : E.evalQ r.query (storeExt k q) = none) :
    (getBytes (fileOps root) cfg E st k).2 = .error .keyNotFound ∧
    (getBytes (fileOps root) cfg E st k).1.log = k :: st.log ∧
    File.contains root (getBytes (fileOps root) cfg E st k).1.sub k = .ok false ∧
    File.getBytes root (getBytes (fileOps root) cfg E st k).1.sub k = .error .keyNotFound ∧
    (∃ o, getMeta (fileOps root) cfg (getBytes (fileOps root) cfg E st k).1 k = .ok o ∧ o.rm.status = .error ∧
      o.rm.hasRecipe = true ∧ o.rm.depName = some r.name ∧ o.rm.depVersion = some r.version ∧
      o.rm.title = r.title.or (some [])) ∧
    fileWritable root (getBytes (fileOps root) cfg E st k).1.sub k = true ∧
    (getBytes (fileOps root) cfg E (getBytes (fileOps root) cfg E st k).1 k).2 = .error .keyNotFound ∧
    (getBytes (fileOps root) cfg E (getBytes (fileOps root) cfg E st k).1 k).1.log = k :: k :: st.log := by
  have he := fun s => hev ▸ evalPhase_plain (fileOps root) cfg E (getBytesF (fileOps root) cfg E (cfg.recipes.length + 1)) s k hp hq
  obtain ⟨st', e, hlog, c, g, ⟨o, d1, d2⟩, w, _⟩ := failure_core_file root cfg E _ hl hpk hsf hrd habs (he st) habs hw
  obtain ⟨st'', e', hlog', _⟩ := failure_core_file root cfg E _ hl hpk hsf hrd c (he st') c w
  rw [getBytes_fuel, e, getBytes_fuel, e']
  exact ⟨rfl, hlog, c, g, ⟨o, d1, by rw [d2]; exact ⟨rfl, rfl, rfl, rfl, rfl⟩⟩, w, rfl, hlog'.trans (congrArg _ hlog)⟩

/-- **Failure over a `FileStore`** of a recipe that refers to a key without metadata: nothing is evaluated at all, the
outcome is the same error state (metadata file, no data file). -/
theorem c08_failure_missing_dependency_file (cfg : Cfg) (E : Env) (st : RState PFS) (k : Key) (r : Recipe) (q : Query)
    (h : Option Header) (names : List Str) (rest : List Seg)
    (hl : cfg.lookup k = some r) (hpk : PlainKey k) (hsf : keyName k ≠ statusFile) (hrd : recipeDir cfg.recipes k = false)
    (habs : File.contains root st.sub k = .ok false) (hw : fileWritable root st.sub k = true)
    (hp : E.prs r.query = some q) (hq : q.segments = .resource h names :: rest)
    (e : StoreErr) (hm : metaRoot (fileOps root) cfg st names = .error e) :
    (getBytes (fileOps root) cfg E st k).2 = .error .keyNotFound ∧
    (getBytes (fileOps root) cfg E st k).1.log = st.log ∧
    File.contains root (getBytes (fileOps root) cfg E st k).1.sub k = .ok false ∧
    File.getBytes root (getBytes (fileOps root) cfg E st k).1.sub k = .error .keyNotFound ∧
    (∃ o, getMeta (fileOps root) cfg (getBytes (fileOps root) cfg E st k).1 k = .ok o ∧ o.rm.status = .error ∧
      o.rm.hasRecipe = true ∧ o.rm.depName = some r.name ∧ o.rm.depVersion = some r.version) ∧
    fileWritable root (getBytes (fileOps root) cfg E st k).1.sub k = true := by
  have he := evalPhase_missing (fileOps root) cfg E (getBytesF (fileOps root) cfg E (cfg.recipes.length + 1)) st k hp hq hm
  obtain ⟨st', e, hlog, c, g, ⟨o, d1, d2⟩, w, _⟩ := failure_core_file root cfg E _ hl hpk hsf hrd habs he habs hw
  rw [getBytes_fuel, e]
  exact ⟨rfl, hlog, c, g, ⟨o, d1, by rw [d2]; exact ⟨rfl, rfl, rfl, rfl⟩⟩, w⟩

end file

namespace Ex

def kA : Key := [['a', '.', 't']]
def kB : Key := [['b', '.', 't']]
def kC : Key := [['c', '.', 't']]
def qA : Query := .mk [.transform none [.mk ['f'] [] 0] (some ['a', '.', 't'])] false
def qB : Query := .mk [.resource none [['m'], ['a', '.', 't']], .transform none [.mk ['g'] [] 0] (some ['b', '.', 't'])] false
def qC : Query := .mk [.transform none [.mk ['x'] [] 0] (some ['c', '.', 't'])] false
def rec (q : Str) (n : Str) : Recipe := { query := q, title := none, descr := none, name := n, version := ['v'], cwd := [['m']], filename := n }
/-- three recipes in the store mounted at `m`: `a.t` (plain), `b.t` (transforms `m/a.t`), `c.t` (fails) -/
def cfg : Cfg := { root := [['m']], recipes := [(kA, rec ['A'] ['a', '.', 't']), (kB, rec ['B'] ['b', '.', 't']), (kC, rec ['C'] ['c', '.', 't'])] }
def E : Env :=
  { prs := fun t => if t = ['A'] then some qA else if t = ['B'] then some qB else if t = ['C'] then some qC else none,
    enc := fun _ => [],
    evalQ := fun t _ => if t = ['A'] then some [1] else if t = ['B'] then some [2] else none }
def s0 : RState MemState := initState memOps cfg memInit [[['r']]]
def f0 : RState PFS := initState (fileOps [['s']]) cfg (fileInit [['s']]) [[['r']]]

-- hypotheses of `c08_declared_visible`
example : cfg.lookup kA = some (rec ['A'] ['a', '.', 't']) := by decide +kernel
example : recipeDir cfg.recipes kA = false := by decide +kernel
example : memOps.contains s0.sub kA = .ok false ∧ memOps.isDir s0.sub kA = .ok false ∧ memOps.getMeta s0.sub kA = .error .keyNotFound := by decide +kernel
-- hypotheses of `c08_first_read` (recipe `a.t`), `c08_first_read_dep` (recipe `b.t`), `c08_failure` (`c.t`)
example : keyName kA ≠ statusFile ∧ Mem.contains s0.sub kA = false := by decide +kernel
example : E.prs (rec ['A'] ['a', '.', 't']).query = some qA := rfl
example : ∀ h names rest, qA.segments ≠ .resource h names :: rest := by intro h names rest; simp [qA, Query.segments]
example : E.evalQ ['A'] (storeExt kA qA) = some [1] := by decide +kernel
example : qB.segments = .resource none [['m'], ['a', '.', 't']] :: .transform none [.mk ['g'] [] 0] (some ['b', '.', 't']) :: [] := rfl
example : metaRoot memOps cfg s0 [['m'], ['a', '.', 't']] = .ok { isDir := false, rm := recipeMeta (rec ['A'] ['a', '.', 't']) } := by decide +kernel
example : E.evalQ ['C'] (storeExt kC qC) = none := by decide +kernel
-- a read of `b.t` evaluates `a.t` first, then `b.t`; both are served afterwards without evaluation
example : (getBytes memOps cfg E s0 kB).2 = .ok [2] ∧ (getBytes memOps cfg E s0 kB).1.log = [kB, kA] := by decide +kernel
example : (run memOps cfg E s0 [.getBytes kB, .getBytes kA, .getMeta kA, .keys, .getBytes kB, .listdir []]).log = [kB, kA] := by decide +kernel
-- remove / clean bring the recipe state back, the next read evaluates again
example : (run memOps cfg E s0 [.getBytes kA, .remove kA, .getBytes kA]).log = [kA, kA] := by decide +kernel
example : (run memOps cfg E s0 [.getBytes kB, .clean [] true, .getBytes kA]).log = [kA, kB, kA] := by decide +kernel
-- the failing recipe: MemoryStore does not try again, FileStore does (no data file => `contains` is false)
example : (run memOps cfg E s0 [.getBytes kC, .getBytes kC]).log = [kC] := by decide +kernel
example : (run (fileOps [['s']]) cfg E f0 [.getBytes kC, .getBytes kC]).log = [kC, kC] := by decide +kernel
example : (getMeta (fileOps [['s']]) cfg (run (fileOps [['s']]) cfg E f0 [.getBytes kC]) kC).toOption.map (·.rm.status) = some .error := by decide +kernel
example : (run (fileOps [['s']]) cfg E f0 [.getBytes kB, .getBytes kA, .getBytes kB]).log = [kB, kA] := by decide +kernel
-- hypotheses of the `FileStore` theorems: `c08_first_read_file` (`a.t`), `c08_first_read_dep_file` (`b.t`: the state
-- after reading `m/a.t`), `c08_failure_file` (`c.t`), `c08_remove_resets_file` (`a.t`, before and after it was made)
example : PlainKey kA ∧ PlainKey kB ∧ PlainKey kC := by decide +kernel
example : File.contains [['s']] f0.sub kA = .ok false ∧ fileWritable [['s']] f0.sub kA = true := by decide +kernel
example : File.contains [['s']] f0.sub kB = .ok false ∧ keyName kB ≠ statusFile := by decide +kernel
example : metaRoot (fileOps [['s']]) cfg f0 [['m'], ['a', '.', 't']] = .ok { isDir := false, rm := recipeMeta (rec ['A'] ['a', '.', 't']) } := by decide +kernel
example : fileWritable [['s']] (bytesRoot cfg (getBytesF (fileOps [['s']]) cfg E (cfg.recipes.length + 1)) f0 [['m'], ['a', '.', 't']]).1.sub kB = true ∧
    File.isDir [['s']] (bytesRoot cfg (getBytesF (fileOps [['s']]) cfg E (cfg.recipes.length + 1)) f0 [['m'], ['a', '.', 't']]).1.sub kB = .ok false := by decide +kernel
example : E.evalQ ['B'] (storeExt kB qB) = some [2] := by decide +kernel
example : File.contains [['s']] f0.sub kC = .ok false ∧ fileWritable [['s']] f0.sub kC = true ∧ recipeDir cfg.recipes kC = false ∧
    keyName kC ≠ statusFile := by decide +kernel
example : fileWritable [['s']] f0.sub kA = true ∧ File.isDir [['s']] f0.sub kA = .ok false ∧ kA ≠ [] := by decide +kernel
example : fileWritable [['s']] (run (fileOps [['s']]) cfg E f0 [.getBytes kA]).sub kA = true ∧
    File.isDir [['s']] (run (fileOps [['s']]) cfg E f0 [.getBytes kA]).sub kA = .ok false := by decide +kernel
-- `c08_failure_missing_dependency_file`: a fourth recipe `d.t` that transforms the undeclared, absent key `m/zz`
def kD : Key := [['d', '.', 't']]
def qD : Query := .mk [.resource none [['m'], ['z', 'z']], .transform none [.mk ['g'] [] 0] (some ['d', '.', 't'])] false
def cfgD : Cfg := { root := [['m']], recipes := cfg.recipes ++ [(kD, rec ['D'] ['d', '.', 't'])] }
def ED : Env := { E with prs := fun t => if t = ['D'] then some qD else E.prs t }
example : cfgD.lookup kD = some (rec ['D'] ['d', '.', 't']) ∧ PlainKey kD ∧ keyName kD ≠ statusFile ∧ recipeDir cfgD.recipes kD = false ∧
    File.contains [['s']] f0.sub kD = .ok false ∧ fileWritable [['s']] f0.sub kD = true ∧
    metaRoot (fileOps [['s']]) cfgD f0 [['m'], ['z', 'z']] = .error .keyNotFound := by decide +kernel
example : ED.prs (rec ['D'] ['d', '.', 't']).query = some qD ∧
    qD.segments = .resource none [['m'], ['z', 'z']] :: [.transform none [.mk ['g'] [] 0] (some ['d', '.', 't'])] := ⟨rfl, rfl⟩
example : (getBytes (fileOps [['s']]) cfgD ED f0 kD).2 = .error .keyNotFound ∧ (getBytes (fileOps [['s']]) cfgD ED f0 kD).1.log = [] := by decide +kernel
-- a longer history over the file store: `a.t` is made for `b.t`, removed, and made again; the failing `c.t` is evaluated once
example : (run (fileOps [['s']]) cfg E f0 [.getBytes kB, .getBytes kC, .remove kA, .getBytes kA]).log = [kA, kC, kB, kA] := by decide +kernel
example : quiet memOps cfg E (run memOps cfg E s0 [.getBytes kA]) [.getBytes kA, .getMeta kB, .keys] := by
  refine ⟨by decide +kernel, by decide +kernel, by decide +kernel, trivial⟩
example : plainPath [['m'], ['d']] = true := by decide +kernel
example : (Query.mk [.resource none [dotdot, ['x']], .transform none [] (some ['y'])] false).toAbsolute [['m'], ['d']] (some []) =
    some (Query.mk [.resource none [['m'], ['x']], .transform none [] (some ['y'])] false) := rfl

end Ex

end Liquer.C08

-- OBLIGATIONS: Liquer.C08.c08_declared_visible Liquer.C08.c08_declared_fields Liquer.C08.c08_first_read Liquer.C08.c08_first_read_dep Liquer.C08.first_read_core Liquer.C08.c08_no_reevaluation_step Liquer.C08.c08_no_reevaluation Liquer.C08.c08_no_reevaluation_quiet Liquer.C08.c08_remove_resets Liquer.C08.c08_failure Liquer.C08.c08_failure_missing_dependency Liquer.C08.failure_core Liquer.C08.c08_relative Liquer.C08.c08_relative_posix Liquer.C08.first_read_core_file Liquer.C08.c08_first_read_file Liquer.C08.c08_first_read_dep_file Liquer.C08.c08_remove_resets_file Liquer.C08.failure_core_file Liquer.C08.c08_failure_file Liquer.C08.c08_failure_missing_dependency_file
