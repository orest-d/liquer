/-
C17(a), generated obligation: every method of `liquer.store.Store` that mutates a store
(`Gen.memoryStoreMutators`, `Gen.fileStoreMutators`: regenerated from the live classes by
`harness/extract.py`) is overridden by `ReadOnlyStore` with a method that raises
`ReadOnlyStoreException` (`Gen.readOnlyRefused`), and the model's `StoreOp` has a constructor for each of them.
A new mutator that the read-only proxy does not refuse makes these `decide`s fail.
-/
import LiquerModel.Gen.StoreMethods
import LiquerModel.StoreCore

namespace Liquer.Inst

/-- the Python method each constructor of `StoreOp` models -/
def StoreOp.method : StoreOp → String
  | .store .. => "store"
  | .storeMeta .. => "store_metadata"
  | .remove .. => "remove"
  | .removedir .. => "removedir"
  | .makedir .. => "makedir"

def modelledMutators : List String := ["store", "store_metadata", "remove", "removedir", "makedir"]

/-- methods that change a store only through a handle or as a side effect of a failed read; they are
not operations of a history: `openbin` (refused for writing modes by the read-only proxy, probed by the harness),
`get_metadata` (`FileStore` deletes a key whose metadata file is unreadable) -/
def nonHistoryMutators : List String := ["openbin", "get_metadata"]

theorem method_modelled (op : StoreOp) : StoreOp.method op ∈ modelledMutators := by
  cases op <;> simp [StoreOp.method, modelledMutators]

/-- every method that mutates a `MemoryStore` is refused by `ReadOnlyStore` -/
theorem memory_mutators_refused : Gen.memoryStoreMutators.all (fun m => Gen.readOnlyRefused.contains m) = true := by decide +kernel

/-- every method that writes in a `FileStore` is refused by `ReadOnlyStore`, except the read `get_metadata` -/
theorem file_mutators_refused :
    (Gen.fileStoreMutators.filter (fun m => m != "get_metadata")).all (fun m => Gen.readOnlyRefused.contains m) = true := by decide +kernel

/-- the histories of the model cover every mutator of the code -/
theorem mutators_modelled :
    (Gen.memoryStoreMutators ++ Gen.fileStoreMutators).all (fun m => modelledMutators.contains m || nonHistoryMutators.contains m) = true := by decide +kernel

/-- whatever `readOnlyOps` refuses is refused by the code -/
theorem modelled_refused : modelledMutators.all (fun m => Gen.readOnlyRefused.contains m) = true := by decide +kernel

end Liquer.Inst
