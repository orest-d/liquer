/- Well-formedness of the command signature table regenerated from the live registry, re-proved on every run. -/
import LiquerModel.Vocab

namespace Liquer.Inst

/-- a variadic parameter is the last non-context parameter and there is at most one; no two entries share (ns, name) -/
def sigOK (c : CmdSig) : Bool :=
  let nonCtx := c.args.filter (fun a => a.ty != .context)
  (nonCtx.dropLast.all (fun a => !a.multiple)) &&
  c.args.all (fun a => a.ty != .context || !a.multiple)

def registryOK (r : Registry) : Bool :=
  r.all sigOK && (r.map (fun c => (c.ns, c.name))).eraseDups.length == r.length && r.hasNs "root".toList

theorem registry_ok : registryOK Gen.registry = true := by decide +kernel

end Liquer.Inst
