/-
Side conditions of the C02 round-trip proof, re-proved on every run for the terminals, the entity
table and the escape table regenerated from /repo. Everything here is closed by evaluation.
-/
import LiquerModel.Parse
import LiquerProofs.Lemmas.TokenDefs

namespace Liquer.Inst
open Liquer

/-! ### shapes of the terminals (the classes themselves stay opaque to the proofs) -/

def rangesAt (r : Re) (i : Nat) : List (Nat × Nat) :=
  match r[i]? with
  | some it => it.ranges
  | none => []

/-- `-+` -/
def dashItem : ReItem := ⟨[(45, 45)], 1, none⟩

/-- class of `parameter_text` -/
def ptR : List (Nat × Nat) := rangesAt Gen.parameterTextRe 0
theorem parameterText_shape : Gen.parameterTextRe = [⟨ptR, 1, none⟩] := rfl

/-- class of a hexadecimal digit in `percent_encoding` -/
def hexR : List (Nat × Nat) := rangesAt Gen.percentEncodingRe 1
theorem percentEncoding_shape :
    Gen.percentEncodingRe = [⟨[(37, 37)], 1, some 1⟩, ⟨hexR, 1, some 1⟩, ⟨hexR, 1, some 1⟩] := rfl

def idR1 : List (Nat × Nat) := rangesAt Gen.identifierRe 0
def idR2 : List (Nat × Nat) := rangesAt Gen.identifierRe 1
theorem identifier_shape : Gen.identifierRe = [⟨idR1, 1, some 1⟩, ⟨idR2, 0, none⟩] := rfl

def fnR1 : List (Nat × Nat) := rangesAt Gen.filenameRe 0
def fnR3 : List (Nat × Nat) := rangesAt Gen.filenameRe 2
theorem filename_shape :
    Gen.filenameRe = [⟨fnR1, 0, none⟩, ⟨[(46, 46)], 1, some 1⟩, ⟨fnR3, 0, none⟩] := rfl

def rnR1 : List (Nat × Nat) := rangesAt Gen.resourceNameRe 0
def rnR2 : List (Nat × Nat) := rangesAt Gen.resourceNameRe 1
theorem resourceName_shape : Gen.resourceNameRe = [⟨rnR1, 1, some 1⟩, ⟨rnR2, 0, none⟩] := rfl

/-- the part of `resource_identifier` behind the dashes: `R[a-zA-Z0-9_]*` -/
def resIdTail : Re := Gen.resourceIdentifierRe.drop 1
theorem resourceIdentifier_shape : Gen.resourceIdentifierRe = dashItem :: resIdTail := rfl
def riR : List (Nat × Nat) := rangesAt Gen.resourceIdentifierRe 2
theorem resIdTail_shape : resIdTail = [⟨[(82, 82)], 1, some 1⟩, ⟨riR, 0, none⟩] := rfl

/-- the part of the named `segment_identifier` behind the dashes: `[a-z][a-zA-Z0-9_]*` -/
def segIdTail : Re := Gen.segmentIdentifierNamedRe.drop 1
theorem segmentIdentifierNamed_shape : Gen.segmentIdentifierNamedRe = dashItem :: segIdTail := rfl
def siR1 : List (Nat × Nat) := rangesAt Gen.segmentIdentifierNamedRe 1
def siR2 : List (Nat × Nat) := rangesAt Gen.segmentIdentifierNamedRe 2
theorem segIdTail_shape : segIdTail = [⟨siR1, 1, some 1⟩, ⟨siR2, 0, none⟩] := rfl

theorem segmentIdentifierBare_shape : Gen.segmentIdentifierBareRe = [dashItem] := rfl

theorem link_shape : Gen.linkOpen = ['~', 'X', '~'] ∧ Gen.linkClose = ['~', 'E'] := ⟨rfl, rfl⟩

/-- all classes of the expression exclude the character -/
def excl (r : Re) (c : Char) : Bool := r.all (fun it => !inRanges it.ranges c)

/-- the characters that can follow a terminal in canonical text -/
def delims : List Char := ['-', '/', '~']

theorem identifier_stops : delims.all (excl Gen.identifierRe) = true := by decide
theorem filename_stops : ['/', '~'].all (excl Gen.filenameRe) = true := by decide
theorem resourceName_stops : ['/', '~'].all (excl Gen.resourceNameRe) = true := by decide
theorem resIdTail_stops : delims.all (excl resIdTail) = true := by decide
theorem segIdTail_stops : delims.all (excl segIdTail) = true := by decide
theorem parameterText_stops : ('%' :: delims).all (fun c => !inRanges ptR c) = true := by decide
theorem percent_stops : delims.all (fun c => !inRanges [(37, 37)] c) = true := by decide

theorem terminals_noWhite :
    [Gen.identifierRe, Gen.filenameRe, Gen.resourceNameRe, Gen.parameterTextRe, Gen.percentEncodingRe,
      Gen.resourceIdentifierRe, Gen.segmentIdentifierNamedRe, Gen.segmentIdentifierBareRe].all
      (fun r => Gen.whiteChars.all (excl r)) = true := by decide

theorem white_ascii : Gen.whiteChars.all (fun c => c.toNat < 128) = true := by decide
/-- the characters allowed in an encoded token and the delimiters `-`, `/` are not white space -/
theorem tokSafe_noWhite : Gen.whiteChars.all (fun c => !tokSafe c) = true := by decide
theorem dash_noWhite : PS.isWhite '-' = false := by decide
theorem slash_noWhite : PS.isWhite '/' = false := by decide

/-- each range of `a` lies inside one range of `b` -/
def subRanges (a b : List (Nat × Nat)) : Bool :=
  a.all (fun x => b.any (fun y => y.1 ≤ x.1 && x.2 ≤ y.2))

/-- `[A-Za-z0-9_.]`: the characters that occur bare in an encoded token (`tokSafe` without `%` and `~`) -/
def bareR : List (Nat × Nat) := [(65, 90), (97, 122), (48, 57), (95, 95), (46, 46)]

/-- an identifier contains no dot (so an action is not mistaken for a file name) -/
theorem identifier_no_dot : excl Gen.identifierRe '.' = true := by decide
/-- a file name up to its dot contains no delimiter (so it is not mistaken for an action followed by `/`) -/
theorem filename_first : ['-', '.', '/', '~'].all (fun c => !inRanges fnR1 c) = true := by decide
/-- a resource name does not begin with a dash -/
theorem resourceName_first : inRanges rnR1 '-' = false := by decide
/-- the name of a transform header begins neither with `/` (a bare header) nor with `R` (a resource header) -/
theorem segId_first : ['/', 'R'].all (fun c => !inRanges siR1 c) = true := by decide

/-- the characters of identifiers and file names are resource-name characters -/
theorem names_in_resourceName :
    [Gen.identifierRe, Gen.filenameRe].all (fun r => r.all (fun it => subRanges it.ranges rnR2)) = true := by
  decide
/-- the first characters of identifiers and file names may begin a resource name -/
theorem names_first_in_resourceName :
    subRanges idR1 rnR1 = true ∧ subRanges fnR1 rnR1 = true ∧ inRanges rnR1 '.' = true := by decide
theorem dash_in_resourceName : inRanges rnR2 '-' = true := by decide
/-- `~`, `%`, `+` and `/` are not resource-name characters -/
theorem resourceName_excl : ['~', '%', '+', '/'].all (excl Gen.resourceNameRe) = true := by decide
/-- every bare character of an encoded token is a resource-name character -/
theorem bare_in_resourceName : subRanges bareR rnR2 = true := by decide
/-- a tab is white space (so canonical text, which has no white space, is not changed by `expandtabs`) -/
theorem tab_white : Gen.whiteChars.contains '\t' = true := by decide

/-- every bare character of an encoded token is parameter text -/
theorem bare_in_parameterText : subRanges bareR ptR = true := by decide

/-- upper-case hexadecimal digits are accepted by `percent_encoding` -/
theorem hex_covers : ∀ n : Fin 16, inRanges hexR (hexDigitUpper n.val) = true := by decide

/-- entity literals are two characters long and begin with `~` -/
theorem entity_literals :
    Gen.entityTable.all (fun e => e.1.length == 2 && e.1.head? == some '~') = true := by decide

/-- every code `~y` of the escape table is an entity whose replacement is the pattern of that code,
and it is not the opening of a link -/
theorem entity_inverts_escape :
    Gen.escapeTable.all (fun pe =>
      Gen.entityTable.find? (fun e => isPrefix e.1 pe.2) == some (pe.2, pe.1) &&
      pe.2.length == 2 && !isPrefix pe.2 Gen.linkOpen) = true := by decide +kernel

/-- `~E` (end of a link) is not an entity -/
theorem linkClose_not_entity :
    Gen.entityTable.all (fun e => !isPrefix e.1 Gen.linkClose) = true := by decide

end Liquer.Inst
