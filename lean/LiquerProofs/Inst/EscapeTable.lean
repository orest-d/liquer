/- Side conditions re-proved on every run for the table regenerated from /repo. -/
import LiquerModel.Gen.EscapeTable
import LiquerProofs.Lemmas.TokenDefs

namespace Liquer.Inst

/-- The regenerated `ESCAPE_SEQUENCES` satisfies the decidable side condition of the C03 theorems. -/
theorem escapeTable_ok : tableOK Gen.escapeTable = true := by decide +kernel

/-- `/`, `-` and the space are patterns of the regenerated table and no code contains them. -/
theorem escapeTable_sepCovered : sepCovered Gen.escapeTable = true := by decide +kernel

/-- The probed safe set of `urllib.parse.quote` is exactly the model's `quoteSafe` on ASCII. -/
theorem quoteSafe_probe : ∀ n : Fin 128, quoteSafe (Char.ofNat n.val) = Gen.quoteSafeProbe.contains (Char.ofNat n.val) := by
  -- the probe list is in ascending order; evaluating the statement itself walks it once for each of the 128 characters
  have h : ((List.finRange 128).map fun n => Char.ofNat n.val).filter quoteSafe = Gen.quoteSafeProbe := by
    decide +kernel
  intro n
  have hn : Char.ofNat n.val ∈ (List.finRange 128).map fun n => Char.ofNat n.val :=
    List.mem_map.mpr ⟨n, List.mem_finRange n, rfl⟩
  rw [Bool.eq_iff_iff, ← h, List.contains_iff_mem, List.mem_filter]
  exact (and_iff_right hn).symm

end Liquer.Inst
